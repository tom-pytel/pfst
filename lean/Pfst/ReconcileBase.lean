import Pfst.ReconcileLemmas
import Pfst.ListLemmas
/-!
What the proofs about the reconcile trace (`Pfst/Reconcile.lean`) share: what the output tree holds at a slot (`slot`) and
when that does not matter (`putsFirst`); the equations of the recursions one step at a time; run detection
(`headState_spec`); the hypotheses on the output tree under which the fields of a node and the elements of a list field
are processed (`fieldSlots`, `elemSlots`, `plainSlots`), which hold under a node just put as a pure AST (`…_self`) and
under an in-tree node, in place or just copied from the marked tree (`…_mark`); the invariant `SI` of the flattened
`while` / `for` loops of `recurse_slice` and `recurse_slice_dict`, which passes run detection (`head_post`), a skipped
element (`skip_post`) and a processed one (`go_post`), and one round of the loop under it, `slice_step`.

Side conditions (`wfN`, decidable, defined in the model file): every in-tree origin names a node of the marked tree of the
same kind whose fields have the same shape (same number of fields, list fields with the same compatibility class and mode);
nodes of other trees carry a tree id `≠ 0`; list elements are not lists; `Dict` pairs have one kind, a key that is a node or
`None` and an origin consistent with key and value (`wfPs`, `pairCons`).  There is no condition on primitives: the
comparison `pyNe` is exact (`pyNe_false_eq`).
-/
namespace Pfst.Reconcile

theorem getAt_append (t : T) (p q : Path) : getAt t (p ++ q) = (getAt t p).bind (fun c => getAt c q) := by
  induction p generalizing t with
  | nil => simp [getAt]
  | cons i p ih =>
    simp only [List.cons_append, getAt]
    cases h : t.kids[i]? with
    | none => simp
    | some c => simp [ih]

theorem markAt_nil (mark : T) : markAt mark [] = mark := by simp [markAt, getAt]

theorem markAt_snoc (mark : T) (q : Path) (i : Nat) :
    markAt mark (q ++ [i]) = ((markAt mark q).kids[i]?).getD .nil := by
  simp only [markAt, getAt_append]
  cases h : getAt mark q with
  | none => simp [T.kids]
  | some c =>
    simp only [Option.bind_some, Option.getD_some, getAt]
    cases c.kids[i]? <;> simp

/-- The path (in the marked tree) of the node whose children a recursion with parent `np` is visiting. -/
def NP.base : NP → Option Path
  | .none => Option.some []
  | .fst 0 q => Option.some q
  | _ => Option.none

/-- What the output tree holds at a slot: under an in-tree parent the marked node at that path, under a node that was put
as a pure AST the edited node itself. -/
def slot (mark : T) (np : NP) (rel : Path) (ok c : T) : Prop :=
  match np.base with
  | some q => ok = erase (markAt mark (q ++ rel))
  | none => ok = erase c

/-- `recNode` starts with a put at the slot itself (so the previous content of the slot is irrelevant). -/
def putsFirst (np : NP) (rel : Path) : T → Bool
  | .node (.foreign true _ _ _) _ _ => true
  | .node (.tree l) _ _ => !(inPlace np rel l)
  | .node _ _ _ => np != .ast
  | .nil => np != .ast
  | .prim _ => np != .ast
  | .many _ _ _ => false

/-- an element of a run copied from the marked tree: an in-tree list element that is not in place at `i` -/
def runElem (np : NP) (fi i : Nat) : T → Bool
  | .node (.tree (some ⟨pp, cfi, some c⟩)) _ _ => !(inPlace np [fi, i] (some ⟨pp, cfi, some c⟩))
  | _ => false

theorem runElem_putsFirst (np : NP) (fi i : Nat) (x : T) (h : runElem np fi i x = true) : putsFirst np [fi, i] x = true := by
  unfold runElem at h
  split at h
  · simpa [putsFirst] using h
  · cases h

def kidsFree (npkv : NP) : List T → Bool
  | [k, v] => (k.isNil || putsFirst npkv [0] k) && putsFirst npkv [1] v
  | _ => false

/-- the element is rewritten whatever the output list holds at `i` (for a `Dict` pair: its key and value are) -/
def elemFree (np : NP) (fi : Nat) (dict : Bool) (i : Nat) (x : T) : Bool :=
  if dict then kidsFree (np.ext [fi, i]) x.kids else putsFirst np [fi, i] x

theorem inPlace_base (np : NP) (rel : Path) (l : Option Loc) (h : inPlace np rel l = true) :
    ∃ q, np.base = some q ∧ qOf l = q ++ rel := by
  unfold inPlace at h
  split at h
  · exact ⟨[], rfl, by simpa [qOf] using h⟩
  · simp only [Bool.and_eq_true, beq_iff_eq] at h
    exact ⟨_, rfl, by simp [qOf, Loc.full, h.1, h.2]⟩
  · cases h

theorem inPlace_elem (np : NP) (fi j : Nat) (pp : Path) (cfi c : Nat) :
    inPlace np [fi, j] (some ⟨pp, cfi, some c⟩) = true ↔ np = .fst 0 pp ∧ cfi = fi ∧ c = j := by
  match np with
  | .none | .ast | .fst (_ + 1) _ => simp [inPlace]
  | .fst 0 pq => simp [inPlace, Loc.rel, eq_comm (a := pp)]

/-- the slot hypothesis for a scalar field `c`: under a pure-AST parent, where nothing is written, the slot holds `c` already;
elsewhere a `c` that compares equal to the slot content is the slot content (always so for a scalar: `pyNe_false_eq`) -/
def scalarSlot (np : NP) (ok c : T) : Prop := (np = .ast → ok = c) ∧ (np ≠ .ast → pyNe c ok = false → c = ok)

/-- the slot hypotheses of the one-by-one loop `recPlain`, element by element from index `j`; it says nothing of lists of
different lengths, on which `recurse_children` raises before the loop -/
def plainSlots (mark : T) (np : NP) (fi : Nat) : Nat → List T → List T → Prop
  | j, ok :: oks, x :: r => slot mark np [fi, j] ok x ∧ plainSlots mark np fi (j + 1) oks r
  | _, _, _ => True

/-- the slot hypotheses of the slice loops, element by element: the first list is what the output list held from index `i`
on when the loop started; an element beyond its end is one that is rewritten whatever the output list holds there -/
def elemSlots (mark : T) (np : NP) (fi : Nat) (dict : Bool) : Nat → List T → List T → Prop
  | _, _, [] => True
  | i, [], x :: body => elemFree np fi dict i x = true ∧ elemSlots mark np fi dict (i + 1) [] body
  | i, b :: bt, x :: body => slot mark np [fi, i] b x ∧ elemSlots mark np fi dict (i + 1) bt body

/-- every element of the (predicted) output list of a `Dict` is the structure of a pair of kind `pk` -/
def allE (pk : Nat) (cur : List T) : Prop := ∀ y ∈ cur, ∃ m, pairShape pk m = true ∧ y = erase m

/-- what the output node holds at field `fi`, by the form of the edited field: over a node its slot, over a list a list of the
same class and mode that meets the hypotheses of the loop the mode selects, over a scalar `scalarSlot` -/
def fieldSlot (mark : T) (np : NP) (fi : Nat) (ok : T) : T → Prop
  | .node o k cs => slot mark np [fi] ok (.node o k cs)
  | .many s md items => ∃ cur, ok = .many s md cur ∧
      (if md = 1 then elemSlots mark np fi false 0 cur items
       else if md = 2 then elemSlots mark np fi true 0 cur items ∧ (items ≠ [] → allE (items.headD .nil).kind cur)
       else plainSlots mark np fi 0 cur items)
  | .nil => scalarSlot np ok .nil
  | .prim v => scalarSlot np ok (.prim v)

/-- `fieldSlot` field by field from `fi` on; the output node has exactly one field for each edited field -/
def fieldSlots (mark : T) (np : NP) : Nat → List T → List T → Prop
  | _, [], [] => True
  | fi, ok :: oks, c :: fs => fieldSlot mark np fi ok c ∧ fieldSlots mark np (fi + 1) oks fs
  | _, _, _ => False

/-- the next `g` elements from index `i` on (as far as there are any) are elements of a run copied from the marked tree -/
def runFree (np : NP) (fi : Nat) : Nat → Nat → List T → Bool
  | _, 0, _ => true
  | _, _ + 1, [] => true
  | i, g + 1, x :: rest => runElem np fi i x && runFree np fi (i + 1) g rest

theorem putSlice_at (s : Option Nat) (md : Nat) (done cur p : List T) (i n : Nat) (src : Src) (one : Bool)
    (hd : done.length = i) :
    applyOps [⟨[], .putSlice i (i + n) src one p⟩] (.many s md (done ++ cur.drop i))
      = .many s md (done ++ (p ++ cur.drop (i + n))) := by
  subst hd
  simp [applyOps, applyOp, applyAt, applyAct, List.drop_drop]

theorem recNode_tree (mark : T) (np : NP) (rel : Path) (outa : T) (l : Option Loc) (k : Nat) (cs : List T) :
  recNode mark np rel outa (.node (.tree l) k cs) =
    (let q := qOf l
    let off := !(inPlace np rel l)
    let copy := erase (markAt mark q)
    let pre : List Op := if off then [⟨[], .put (.mark q) copy⟩] else []
    let outa' := if off then copy else outa
    if !outa'.isNode then ⟨pre, false⟩ else
    let r := recFields mark (.fst 0 q) 0 outa'.kids cs
    if r.fail then ⟨pre ++ r.ops ++ [⟨[], .put .ast (.node .new k (eraseL cs))⟩], false⟩ else ⟨pre ++ r.ops, false⟩) := by
  rw [recNode]; rfl

/-- the pure-AST path of `recurse_node` (no `.f`, or an `.f` of another tree that failed `verify`) -/
def astPath (mark : T) (np np' : NP) (outa : T) (k : Nat) (cs : List T) : R :=
  let putIt := np != .ast
  let pre : List Op := if putIt then [⟨[], .put .ast (.node .new k (eraseL cs))⟩] else []
  let outa' := if putIt then .node .new k (eraseL cs) else outa
  if !outa'.isNode then ⟨pre, false⟩ else
  let r := recFields mark np' 0 outa'.kids cs
  ⟨pre ++ r.ops, r.fail⟩

theorem recNode_new (mark : T) (np : NP) (rel : Path) (outa : T) (k : Nat) (cs : List T) :
    recNode mark np rel outa (.node .new k cs) = astPath mark np .ast outa k cs := by
  rw [recNode]; rfl

theorem recNode_foreign_bad (mark : T) (np : NP) (rel : Path) (outa : T) (tid : Nat) (l : Option Loc) (sg : Option Nat)
    (k : Nat) (cs : List T) :
    recNode mark np rel outa (.node (.foreign false tid l sg) k cs) = astPath mark np (.fst tid (qOf l)) outa k cs := by
  rw [recNode]; rfl

theorem recNode_foreign_ok (mark : T) (np : NP) (rel : Path) (outa : T) (tid : Nat) (l : Option Loc) (sg : Option Nat)
    (k : Nat) (cs : List T) :
    recNode mark np rel outa (.node (.foreign true tid l sg) k cs) =
      ⟨[⟨[], .put (.foreign tid) (.node .new k (eraseL cs))⟩], false⟩ := by
  rw [recNode]

theorem recNode_scalar (mark : T) (np : NP) (rel : Path) (outa c : T) (hc : scalar c = true) :
    recNode mark np rel outa c = ⟨if np != .ast && pyNe c outa then [⟨[], .put .ast c⟩] else [], false⟩ := by
  cases c with
  | nil => rw [recNode]
  | prim v => rw [recNode]
  | _ => simp [scalar] at hc

def fieldRes (mark : T) (np : NP) (fi : Nat) (ok c : T) : R :=
  if c.isNode then recNode mark np [fi] ok c else
  match c with
  | .many sig mode items =>
    if mode == 1 then recSliceGo mark np fi sig false 0 {} ok.kids items
    else if mode == 2 then recSliceGo mark np fi sig true 0 {} ok.kids items
    else if items.length != ok.kids.length then ⟨[], true⟩
    else recPlain mark np fi 0 ok.kids items
  | s => ⟨if np != .ast && pyNe s ok then [⟨[], .setPrim s⟩] else [], false⟩

theorem fieldRes_many (mark : T) (np : NP) (fi : Nat) (ok : T) (s : Option Nat) (md : Nat) (items : List T) :
    fieldRes mark np fi ok (.many s md items) =
      if md = 1 then recSliceGo mark np fi s false 0 {} ok.kids items
      else if md = 2 then recSliceGo mark np fi s true 0 {} ok.kids items
      else if items.length = ok.kids.length then recPlain mark np fi 0 ok.kids items else ⟨[], true⟩ := by
  simp [fieldRes, T.isNode]

theorem fieldRes_node (mark : T) (np : NP) (fi : Nat) (ok : T) (o : Origin) (k : Nat) (cs : List T) :
    fieldRes mark np fi ok (.node o k cs) = recNode mark np [fi] ok (.node o k cs) := rfl

theorem fieldRes_scalar (mark : T) (np : NP) (fi : Nat) (ok c : T) (hc : scalar c = true) :
    fieldRes mark np fi ok c = ⟨if np != .ast && pyNe c ok then [⟨[], .setPrim c⟩] else [], false⟩ := by
  cases c <;> first | rfl | simp [scalar] at hc

/-- sequencing of a step on child `i` with the rest of the loop -/
def seqR (i : Nat) (r r2 : R) : R :=
  if r.fail then ⟨preAll i r.ops, true⟩ else ⟨preAll i r.ops ++ r2.ops, r2.fail⟩

theorem seqR_fail {i : Nat} {r r2 : R} (h : (seqR i r r2).fail = false) : r.fail = false ∧ r2.fail = false := by
  unfold seqR at h
  by_cases hr : r.fail = true
  · simp [hr] at h
  · simp only [hr] at h; simp at hr; exact ⟨hr, h⟩

theorem seqR_ops {i : Nat} {r r2 : R} (h : r.fail = false) : (seqR i r r2).ops = preAll i r.ops ++ r2.ops := by
  simp [seqR, h]

theorem recFields_cons (mark : T) (np : NP) (fi : Nat) (oks : List T) (c : T) (rest : List T) :
    recFields mark np fi oks (c :: rest) =
      seqR fi (fieldRes mark np fi (oks.headD .nil) c) (recFields mark np (fi + 1) oks.tail rest) := by
  cases c
  case many s m cs => rw [recFields]; rfl
  all_goals (rw [recFields]; rfl; intro s m cs h; cases h)

/-- one step of `recurse_children` on a scalar field (`elif not isinstance(child, list)` branch) -/
theorem recFields_scalar_step (mark : T) (np : NP) (fi : Nat) (ok c : T) (oks rest : List T) (hc : scalar c = true) :
    recFields mark np fi (ok :: oks) (c :: rest) =
      ⟨preAll fi (if (np != .ast && pyNe c ok) = true then [⟨[], .setPrim c⟩] else [])
        ++ (recFields mark np (fi + 1) oks rest).ops, (recFields mark np (fi + 1) oks rest).fail⟩ := by
  rw [recFields_cons, List.headD_cons, fieldRes_scalar mark np fi ok c hc]; rfl

theorem recPlain_cons (mark : T) (np : NP) (fi j : Nat) (oks : List T) (c : T) (rest : List T) :
    recPlain mark np fi j oks (c :: rest) =
      seqR j (recNode mark np [fi, j] (oks.headD .nil) c) (recPlain mark np fi (j + 1) oks.tail rest) := by
  rw [recPlain]; rfl

theorem recSliceGo_nil (mark : T) (np : NP) (fi : Nat) (ns : Option Nat) (dict : Bool) (i : Nat) (run : Run) (cur : List T) :
    recSliceGo mark np fi ns dict i run cur [] = ⟨if i < cur.length then [⟨[], .delTail i⟩] else [], false⟩ := by
  rw [recSliceGo]

theorem recSliceGo_skip (mark : T) (np : NP) (fi : Nat) (ns : Option Nat) (dict : Bool) (i : Nat) (run : Run) (cur : List T)
    (x : T) (rest : List T) (h : run.skip > 0) :
    recSliceGo mark np fi ns dict i run cur (x :: rest) =
      recSliceGo mark np fi ns dict (i + 1) { run with skip := run.skip - 1 } cur rest := by
  rw [recSliceGo]; simp [h]

/-- state at the head of the element loop: continue the current run or detect a new one -/
def headState (mark : T) (np : NP) (fi : Nat) (ns : Option Nat) (i : Nat) (run : Run) (cur : List T) (x : T) (rest : List T) :
    List Op × List T × Run :=
  if run.proc > 0 then ([], cur, run) else detect mark np fi ns i cur x rest

def elemRes (mark : T) (np : NP) (fi : Nat) (dict : Bool) (i : Nat) (ok x : T) : R :=
  if dict then
    match x with
    | .node _ _ kv => recPair mark (np.ext [fi, i]) ok.kids kv
    | _ => ⟨[], false⟩
  else recNode mark np [fi, i] ok x

theorem recSliceGo_go (mark : T) (np : NP) (fi : Nat) (ns : Option Nat) (dict : Bool) (i : Nat) (run : Run) (cur : List T)
    (x : T) (rest : List T) (h : ¬ run.skip > 0) :
    recSliceGo mark np fi ns dict i run cur (x :: rest) =
      (let d := headState mark np fi ns i run cur x rest
       if d.2.2.skip > 0 then
         let r2 := recSliceGo mark np fi ns dict (i + 1) { d.2.2 with skip := d.2.2.skip - 1 } d.2.1 rest
         ⟨d.1 ++ r2.ops, r2.fail⟩
       else
         let ins := decide (i ≥ d.2.2.lenRead)
         let cur2 := if ins then d.2.1.take i ++ [erase x] ++ d.2.1.drop i else d.2.1
         let opsIns : List Op := if ins then [⟨[], .putSlice i i .ast (!dict) [erase x]⟩] else []
         let r := elemRes mark np fi dict i ((cur2[i]?).getD .nil) x
         let r2 := recSliceGo mark np fi ns dict (i + 1) { d.2.2 with proc := d.2.2.proc - 1 } cur2 rest
         if r.fail then ⟨d.1 ++ opsIns ++ preAll i r.ops, true⟩
         else ⟨d.1 ++ opsIns ++ preAll i r.ops ++ r2.ops, r2.fail⟩) := by
  rw [recSliceGo]; simp only [h, if_false]; rfl

theorem recPair_seq (mark : T) (npkv : NP) (oks : List T) (k v : T) :
    recPair mark npkv oks [k, v] =
      seqR 0 (if k.isNode then recNode mark npkv [0] (oks.headD .nil) k
              else ⟨if (oks.headD .nil).isNode then [⟨[], .setPrim .nil⟩] else [], false⟩)
        ⟨preAll 1 (recNode mark npkv [1] (oks.tail.headD .nil) v).ops, (recNode mark npkv [1] (oks.tail.headD .nil) v).fail⟩ := by
  rw [recPair]; rfl

theorem runLen_le (tid : Nat) (pp : Path) (cfi : Nat) : ∀ (l : List T) (nxt : Nat), runLen tid pp cfi nxt l ≤ l.length
  | [], _ => by simp [runLen]
  | y :: ys, nxt => by
    simp only [runLen]
    split
    · have := runLen_le tid pp cfi ys (nxt + 1); simp; omega
    · simp

/-- what the run detection needs of a list element: an in-tree origin with a list index names an existing element of the
marked tree, a node of another tree has a tree id `≠ 0` -/
def elemOK (mark : T) : T → Bool
  | .node (.tree (some ⟨pp, cfi, some c⟩)) _ _ => (markAt mark (pp ++ [cfi, c])).isNode
  | .node (.foreign _ tid _ _) _ _ => tid != 0
  | _ => true

theorem wfN_tree (mark : T) (l : Option Loc) (k : Nat) (cs : List T) (h : wfN mark (.node (.tree l) k cs) = true) :
    ∃ mo mcs, markAt mark (qOf l) = .node mo k mcs ∧ shapeOK mcs cs = true ∧ wfFs mark cs = true := by
  simp only [wfN, Bool.and_eq_true] at h
  cases hm : markAt mark (qOf l) with
  | node mo mk mcs =>
    simp only [hm, Bool.and_eq_true, beq_iff_eq] at h
    obtain ⟨⟨rfl, hsh⟩, hcs⟩ := h
    exact ⟨mo, mcs, rfl, hsh, hcs⟩
  | _ => simp [hm] at h

theorem wfN_elemOK (mark : T) (x : T) (h : wfN mark x = true) : elemOK mark x = true := by
  unfold elemOK
  split
  · rename_i pp cfi c k cs
    obtain ⟨mo, mcs, hmq, _⟩ := wfN_tree mark _ k cs h
    have hq : qOf (some ⟨pp, cfi, some c⟩) = pp ++ [cfi, c] := by simp [qOf, Loc.full, Loc.rel]
    rw [← hq, hmq]; rfl
  · rename_i ok tid l sg k cs
    cases ok <;> simp_all [wfN]
  · rfl

theorem pairShape_inv (pk : Nat) (m : T) (h : pairShape pk m = true) :
    ∃ mo mk mv, m = .node mo pk [mk, mv] ∧ (mk.isNode || mk.isNil) = true := by
  unfold pairShape at h
  split at h
  · simp only [Bool.and_eq_true, beq_iff_eq] at h
    exact ⟨_, _, _, by rw [h.1], h.2⟩
  · cases h

theorem pairShape_isNode (pk : Nat) (m : T) (h : pairShape pk m = true) : m.isNode = true := by
  obtain ⟨mo, mk, mv, rfl, _⟩ := pairShape_inv pk m h
  rfl

theorem wfEs_mem (mark : T) : ∀ (l : List T), wfEs mark l = true → ∀ x ∈ l, wfN mark x = true
  | [], _, x, hx => by simp at hx
  | y :: r, h, x, hx => by
    simp only [wfEs, Bool.and_eq_true] at h
    cases List.mem_cons.mp hx with
    | inl e => subst e; exact h.1
    | inr e => exact wfEs_mem mark r h.2 x e

theorem wfPs_mem (mark : T) (pk : Nat) : ∀ (l : List T), wfPs mark pk l = true →
    ∀ x ∈ l, ∃ o kv, x = .node o pk kv ∧ pairCons mark pk o kv = true ∧ wfKV mark kv = true
  | [], _, x, hx => by simp at hx
  | y :: r, h, x, hx => by
    cases y with
    | node o k kv =>
      simp only [wfPs, Bool.and_eq_true, beq_iff_eq] at h
      obtain ⟨⟨⟨rfl, hc⟩, hkv⟩, hr⟩ := h
      cases List.mem_cons.mp hx with
      | inl e => exact ⟨o, kv, e, hc, hkv⟩
      | inr e => exact wfPs_mem mark k r hr x e
    | _ => simp [wfPs] at h

theorem wfKV_two (mark : T) (kv : List T) (h : wfKV mark kv = true) :
    ∃ k v, kv = [k, v] ∧ (k.isNil = true ∨ k.isNode = true) ∧ wfN mark k = true ∧ wfN mark v = true := by
  match kv, h with
  | [k, v], h =>
    simp only [wfKV, Bool.and_eq_true, Bool.or_eq_true] at h
    refine ⟨k, v, rfl, h.1.imp id And.left, ?_, h.2⟩
    cases h.1 with
    | inl hn => cases k <;> simp_all [T.isNil, wfN]
    | inr hn => exact hn.2

theorem wfPs_shaped (mark : T) (pk : Nat) (l : List T) (h : wfPs mark pk l = true) (x : T) (hx : x ∈ l) :
    pairShape pk x = true := by
  obtain ⟨o, kv, rfl, _, hkv⟩ := wfPs_mem mark pk l h x hx
  obtain ⟨k, v, rfl, hkey, _⟩ := wfKV_two mark kv hkv
  cases hkey <;> simp [pairShape, *]

theorem wfEs_elemsOK (mark : T) (l : List T) (h : wfEs mark l = true) : l.all (elemOK mark) = true :=
  List.all_eq_true.mpr fun x hx => wfN_elemOK mark x (wfEs_mem mark l h x hx)

theorem wfPs_elemsOK (mark : T) (pk : Nat) (l : List T) (h : wfPs mark pk l = true) : l.all (elemOK mark) = true := by
  refine List.all_eq_true.mpr fun x hx => ?_
  obtain ⟨o, kv, rfl, hc, _⟩ := wfPs_mem mark pk l h x hx
  match o, hc with
  | .tree (some ⟨a, b, some c⟩), hc =>
    simp only [pairCons, Bool.and_eq_true] at hc
    exact pairShape_isNode pk _ hc.1
  | .foreign _ _ _ _, hc => simpa [pairCons, elemOK] using hc
  | .tree (some ⟨_, _, none⟩), _ => rfl
  | .tree none, _ => rfl
  | .new, _ => rfl

theorem elemOK_idx (mark : T) (pp : Path) (cfi ci k : Nat) (cs : List T)
    (h : elemOK mark (.node (.tree (some ⟨pp, cfi, some ci⟩)) k cs) = true) :
    ci < (markAt mark (pp ++ [cfi])).kids.length := by
  simp only [elemOK] at h
  have hq : pp ++ [cfi, ci] = (pp ++ [cfi]) ++ [ci] := by simp
  rw [hq, markAt_snoc] at h
  by_cases hlt : ci < (markAt mark (pp ++ [cfi])).kids.length
  · exact hlt
  · have : (markAt mark (pp ++ [cfi])).kids[ci]? = none := by simp; omega
    rw [this] at h; simp [T.isNode] at h

theorem origin_node (x : T) (h : x.origin ≠ .new) : ∃ k cs, x = .node x.origin k cs := by
  cases x <;> simp_all [T.origin]

theorem follows_zero (pp : Path) (cfi nxt : Nat) (y : T) (h : follows 0 pp cfi nxt y.origin = true) :
    ∃ k cs, y = .node (.tree (some ⟨pp, cfi, some nxt⟩)) k cs := by
  unfold follows at h
  split at h
  · rename_i l ho
    obtain ⟨a, b, c⟩ := l
    simp only [Bool.and_eq_true, beq_iff_eq] at h
    obtain ⟨⟨⟨_, rfl⟩, rfl⟩, rfl⟩ := h
    cases y <;> simp_all [T.origin]
  · simp at h
  · cases h

theorem run_in_mark (mark : T) (pp : Path) (cfi : Nat) : ∀ (rest : List T) (nxt : Nat), rest.all (elemOK mark) = true →
    nxt ≤ (markAt mark (pp ++ [cfi])).kids.length →
    nxt + runLen 0 pp cfi nxt rest ≤ (markAt mark (pp ++ [cfi])).kids.length
  | [], nxt, _, h => by simp [runLen]; exact h
  | y :: ys, nxt, hw, h => by
    simp only [runLen]
    split
    · rename_i hf
      obtain ⟨k, cs, rfl⟩ := follows_zero pp cfi nxt y hf
      simp only [List.all_cons, Bool.and_eq_true] at hw
      have h1 := elemOK_idx mark pp cfi nxt k cs hw.1
      have := run_in_mark mark pp cfi ys (nxt + 1) hw.2 h1
      omega
    · simpa using h

theorem runFree_runLen (np : NP) (fi i : Nat) (pp : Path) (cfi ci : Nat)
    (hC : ∀ k, inPlace np [fi, i + k] (some ⟨pp, cfi, some (ci + k)⟩) = false) :
    ∀ (rest : List T) (k : Nat), runFree np fi (i + k) (runLen 0 pp cfi (ci + k) rest) rest = true
  | [], k => by simp [runLen, runFree]
  | y :: ys, k => by
    simp only [runLen]
    split
    · rename_i hf
      obtain ⟨kk, cs, rfl⟩ := follows_zero pp cfi (ci + k) y hf
      have := runFree_runLen np fi i pp cfi ci hC ys (k + 1)
      rw [Nat.add_comm 1, runFree]
      simp only [runElem, hC k, Bool.not_false, Bool.true_and]
      simpa [Nat.add_assoc] using this
    · simp [runFree]

theorem sliceHead_zero (mark : T) (np : NP) (fi : Nat) (ns : Option Nat) (i : Nat) (x : T) (pp : Path) (cfi ci : Nat)
    (hwf : elemOK mark x = true) (h : sliceHead mark np fi ns i x.origin = some (0, pp, cfi, ci)) :
    (∃ k cs, x = .node (.tree (some ⟨pp, cfi, some ci⟩)) k cs) ∧
      ∀ k, inPlace np [fi, i + k] (some ⟨pp, cfi, some (ci + k)⟩) = false := by
  obtain ⟨k, cs, hx⟩ := origin_node x (fun hn => by simp [hn, sliceHead] at h)
  generalize x.origin = o at h hx
  subst hx
  unfold sliceHead at h
  split at h
  · -- an in-tree element that is not a single one: not the element in place at `i`, so none of the run is in place
    simp only [Option.ite_none_left_eq_some, Option.some.injEq, Prod.mk.injEq, true_and] at h
    obtain ⟨hsingle, rfl, rfl, rfl⟩ := h
    refine ⟨⟨k, cs, rfl⟩, fun kk => Bool.eq_false_iff.mpr fun hin => ?_⟩
    obtain ⟨rfl, rfl, hc⟩ := (inPlace_elem ..).mp hin
    simp at hsingle
    omega
  · -- an element of another tree has a tree id `≠ 0`
    simp only [Option.ite_none_left_eq_some, Option.some.injEq, Prod.mk.injEq] at h
    simp [elemOK, h.2.1] at hwf
  · cases h

theorem runFree_run (np : NP) (fi i : Nat) (pp : Path) (cfi ci k : Nat) (cs rest : List T)
    (hC : ∀ k, inPlace np [fi, i + k] (some ⟨pp, cfi, some (ci + k)⟩) = false) :
    runFree np fi i (1 + runLen 0 pp cfi (ci + 1) rest) (.node (.tree (some ⟨pp, cfi, some ci⟩)) k cs :: rest) = true := by
  rw [Nat.add_comm 1, runFree]
  simpa [runElem] using ⟨hC 0, runFree_runLen np fi i pp cfi ci hC rest 1⟩

theorem detect_none (mark : T) (np : NP) (fi : Nat) (ns : Option Nat) (i : Nat) (cur : List T) (x : T) (rest : List T)
    (h : sliceHead mark np fi ns i x.origin = none) :
    detect mark np fi ns i cur x rest = ([], cur, { proc := 1, lenRead := cur.length }) := by
  unfold detect; rw [h]

theorem detect_some (mark : T) (np : NP) (fi : Nat) (ns : Option Nat) (i : Nat) (cur : List T) (x : T) (rest : List T)
    (tid : Nat) (pp : Path) (cfi ci : Nat) (h : sliceHead mark np fi ns i x.origin = some (tid, pp, cfi, ci)) :
    detect mark np fi ns i cur x rest =
      (let n := 1 + runLen tid pp cfi (ci + 1) rest
       if tid == 0 then
         let payload := eraseL ((((markAt mark (pp ++ [cfi])).kids).drop ci).take n)
         let cur' := cur.take i ++ payload ++ cur.drop (i + n)
         ([⟨[], .putSlice i (i + n) (.mark (pp ++ [cfi])) false payload⟩], cur', { proc := n, lenRead := cur'.length })
       else if allOk ((x :: rest).take n) then
         let payload := eraseL ((x :: rest).take n)
         let cur' := cur.take i ++ payload ++ cur.drop (i + n)
         ([⟨[], .putSlice i (i + n) (.foreign tid) false payload⟩], cur', { skip := n })
       else ([], cur, { proc := n, lenRead := cur.length })) := by
  unfold detect; rw [h]; rfl

/-- The current run goes on; or a run of `n` elements starts without a slice put (single element, or a run of another tree
that failed verification); or it starts with one slice put of `pl`, which holds either the elements themselves (verified run
of another tree, then skipped) or their originals copied from the marked tree (then processed one by one, none in place). -/
theorem headState_spec (mark : T) (np : NP) (fi : Nat) (ns : Option Nat) (i : Nat) (run : Run) (cur : List T) (x : T)
    (rest : List T) (hwf : (x :: rest).all (elemOK mark) = true) :
    (run.proc > 0 ∧ headState mark np fi ns i run cur x rest = ([], cur, run))
    ∨ (run.proc = 0 ∧ ∃ n, n > 0 ∧ headState mark np fi ns i run cur x rest = ([], cur, { proc := n, lenRead := cur.length }))
    ∨ (run.proc = 0 ∧ ∃ n src pl run1, n > 0 ∧ n ≤ (x :: rest).length ∧ pl.length = n ∧
        headState mark np fi ns i run cur x rest
          = ([⟨[], .putSlice i (i + n) src false pl⟩], cur.take i ++ pl ++ cur.drop (i + n), run1) ∧
        ((run1 = { skip := n } ∧ pl = eraseL ((x :: rest).take n) ∧ allOk ((x :: rest).take n) = true)
         ∨ (run1 = { proc := n, lenRead := (cur.take i ++ pl ++ cur.drop (i + n)).length } ∧
            ∃ pp cfi ci k cs, x = .node (.tree (some ⟨pp, cfi, some ci⟩)) k cs ∧ n = 1 + runLen 0 pp cfi (ci + 1) rest ∧
              pl = eraseL ((((markAt mark (pp ++ [cfi])).kids).drop ci).take n) ∧
              ∀ k, inPlace np [fi, i + k] (some ⟨pp, cfi, some (ci + k)⟩) = false))) := by
  by_cases hp : run.proc > 0
  · exact Or.inl ⟨hp, by simp [headState, hp]⟩
  · refine Or.inr ?_
    have hp0 : run.proc = 0 := by omega
    simp only [headState, hp, if_false]
    cases hsh : sliceHead mark np fi ns i x.origin with
    | none => exact Or.inl ⟨hp0, 1, by omega, detect_none _ _ _ _ _ _ _ _ hsh⟩
    | some v =>
      obtain ⟨tid, pp, cfi, ci⟩ := v
      have hn : runLen tid pp cfi (ci + 1) rest ≤ rest.length := runLen_le _ _ _ _ _
      rw [detect_some _ _ _ _ _ _ _ _ _ _ _ _ hsh]
      simp only [List.all_cons, Bool.and_eq_true] at hwf
      by_cases ht : tid = 0
      · subst ht
        obtain ⟨⟨k, cs, rfl⟩, hC⟩ := sliceHead_zero mark np fi ns i x pp cfi ci hwf.1 hsh
        have h2 := run_in_mark mark pp cfi rest (ci + 1) hwf.2 (elemOK_idx mark pp cfi ci k cs hwf.1)
        refine Or.inr ⟨hp0, _, _, _, _, by omega, by simp; omega, ?_, by simp only [beq_self_eq_true, if_true]; rfl,
          Or.inr ⟨rfl, pp, cfi, ci, k, cs, rfl, rfl, rfl, hC⟩⟩
        rw [eraseL_length, List.length_take, List.length_drop]; omega
      · have ht' : (tid == 0) = false := by simp [ht]
        simp only [ht', Bool.false_eq_true, if_false]
        by_cases hok : allOk ((x :: rest).take (1 + runLen tid pp cfi (ci + 1) rest)) = true
        · simp only [hok, if_true]
          refine Or.inr ⟨hp0, _, _, _, _, by omega, by simp; omega, ?_, rfl, Or.inl ⟨rfl, rfl, hok⟩⟩
          rw [eraseL_length, List.length_take]; simp; omega
        · simp only [hok, Bool.false_eq_true, if_false]
          exact Or.inl ⟨hp0, _, by omega, rfl⟩

/-- invariant of the flattened `while` / `for` loops of `recurse_slice`: `cur` is the predicted output list, `bt` what the
list held from `i` on at loop entry, `g` the number of coming elements known to be put again on their own. -/
def SI (np : NP) (fi i : Nat) (run : Run) (cur body bt : List T) (g : Nat) : Prop :=
  if run.skip > 0 then
    run.proc = 0 ∧ run.skip ≤ body.length ∧ (cur.drop i).take run.skip = eraseL (body.take run.skip) ∧
      cur.drop (i + run.skip) = bt.drop run.skip
  else
    g ≤ run.proc ∧ runFree np fi i g body = true ∧ cur.drop (i + g) = bt.drop g ∧
      (if run.proc > 0 then max i run.lenRead = cur.length else i ≤ cur.length)

theorem SI_start (np : NP) (fi : Nat) (cur body : List T) : SI np fi 0 {} cur body cur 0 := by simp [SI, runFree]

theorem SI_skip {np : NP} {fi i : Nat} {run : Run} {cur body bt : List T} {g : Nat} (hk : run.skip > 0) :
    SI np fi i run cur body bt g ↔ run.proc = 0 ∧ run.skip ≤ body.length ∧
      (cur.drop i).take run.skip = eraseL (body.take run.skip) ∧ cur.drop (i + run.skip) = bt.drop run.skip := by
  simp only [SI, hk, if_true]

theorem SI_proc {np : NP} {fi i : Nat} {run : Run} {cur body bt : List T} {g : Nat} (hk : run.skip = 0) :
    SI np fi i run cur body bt g ↔ g ≤ run.proc ∧ runFree np fi i g body = true ∧ cur.drop (i + g) = bt.drop g ∧
      (if run.proc > 0 then max i run.lenRead = cur.length else i ≤ cur.length) := by
  simp only [SI, hk, Nat.lt_irrefl, if_false]

theorem head_post (mark : T) (np : NP) (fi : Nat) (ns : Option Nat) (i : Nat) (run : Run) (cur : List T) (x : T)
    (rest bt : List T) (g : Nat) (hwf : (x :: rest).all (elemOK mark) = true) (hskip : run.skip = 0)
    (hsi : SI np fi i run cur (x :: rest) bt g) :
    let d := headState mark np fi ns i run cur x rest
    (∀ s md (done : List T), done.length = i →
      applyOps d.1 (.many s md (done ++ cur.drop i)) = .many s md (done ++ d.2.1.drop i)) ∧
    (d.2.2.skip = 0 → d.2.2.proc > 0) ∧ ∃ g1, SI np fi i d.2.2 d.2.1 (x :: rest) bt g1 := by
  obtain ⟨hg, hfree, htail, hlen⟩ := (SI_proc hskip).mp hsi
  rcases headState_spec mark np fi ns i run cur x rest hwf with
    ⟨hp, hd⟩ | ⟨hp, n, hn, hd⟩ | ⟨hp, n, src, pl, run1, hn, hnle, hpl, hd, hrun⟩
  · rw [hd]
    exact ⟨fun _ _ _ _ => rfl, fun _ => hp, g, hsi⟩
  · have hg0 : g = 0 := by omega
    subst hg0
    simp only [hp, Nat.lt_irrefl, if_false] at hlen
    rw [hd]
    exact ⟨fun _ _ _ _ => rfl, fun _ => hn, 0,
      (SI_proc rfl).mpr ⟨Nat.zero_le _, by simp [runFree], htail, by rw [if_pos hn]; simp; omega⟩⟩
  · have hg0 : g = 0 := by omega
    subst hg0
    simp only [hp, Nat.lt_irrefl, if_false, Nat.add_zero, List.drop_zero] at hlen htail
    have htl : (cur.take i ++ pl ++ cur.drop (i + n)).drop (i + n) = bt.drop n := by
      rw [drop_splice_end hlen hpl, ← htail, List.drop_drop]
    rw [hd]
    refine ⟨fun s md done hdone => by rw [putSlice_at _ _ _ _ _ _ _ _ _ hdone, drop_splice hlen], ?_⟩
    rcases hrun with ⟨rfl, rfl, _⟩ | ⟨rfl, pp, cfi, ci, k, cs, rfl, rfl, _, hC⟩
    · exact ⟨fun h => absurd h (Nat.ne_of_gt hn), 0,
        (SI_skip hn).mpr ⟨rfl, hnle, by rw [drop_splice hlen, List.take_left' hpl], htl⟩⟩
    · refine ⟨fun _ => hn, _, (SI_proc rfl).mpr
        ⟨Nat.le_refl _, runFree_run np fi i pp cfi ci k cs rest hC, htl, ?_⟩⟩
      rw [if_pos hn]
      simp only [List.length_append, hpl, List.length_take, List.length_drop]; omega

theorem slot_self (mark : T) (np : NP) (rel : Path) (c : T) (h : np.base = none) : slot mark np rel (erase c) c := by
  simp [slot, h]

theorem slot_mark (mark : T) (np : NP) (q rel : Path) (c : T) (h : np.base = some q) :
    slot mark np rel (erase (markAt mark (q ++ rel))) c := by
  simp [slot, h]

/-- `NP.none`, the root call, is not extended by `NP.ext`. -/
theorem slot_kid (mark : T) (np : NP) (rel : Path) (ok x : T) (j : Nat) (hnn : np ≠ .none) (h : slot mark np rel ok x) :
    slot mark (np.ext rel) [j] ((ok.kids[j]?).getD .nil) ((x.kids[j]?).getD .nil) := by
  match np, hnn with
  | .fst 0 q, _ => simp only [slot, NP.ext, NP.base] at h ⊢; rw [h, erase_kid, markAt_snoc]
  | .fst (_ + 1) _, _ => simp only [slot, NP.ext, NP.base] at h ⊢; rw [h, erase_kid]
  | .ast, _ => simp only [slot, NP.ext, NP.base] at h ⊢; rw [h, erase_kid]

theorem base_ne_ast {np : NP} {q : Path} (h : np.base = some q) : np ≠ .ast := by
  intro h2; subst h2; simp [NP.base] at h

theorem elemSlots_self (mark : T) (np : NP) (fi : Nat) (dict : Bool) (h : np.base = none) :
    ∀ (items : List T) (i : Nat), elemSlots mark np fi dict i (eraseL items) items
  | [], _ => by simp [elemSlots]
  | x :: r, i => by
    simp only [eraseL, elemSlots]
    exact ⟨slot_self mark np _ x h, elemSlots_self mark np fi dict h r (i + 1)⟩

theorem allE_eraseL (pk : Nat) (l : List T) (h : ∀ x ∈ l, pairShape pk x = true) : allE pk (eraseL l) := by
  intro y hy
  rw [eraseL_eq_map] at hy
  obtain ⟨x, hx, rfl⟩ := List.mem_map.mp hy
  exact ⟨x, h x hx, rfl⟩

theorem allShaped_mem (pk : Nat) : ∀ (l : List T), allShaped pk l = true → ∀ x ∈ l, pairShape pk x = true
  | [], _, x, hx => by simp at hx
  | y :: r, h, x, hx => by
    simp only [allShaped, Bool.and_eq_true] at h
    simp only [List.mem_cons] at hx
    cases hx with
    | inl e => subst e; exact h.1
    | inr e => exact allShaped_mem pk r h.2 x e

theorem plainSlots_of_elemSlots (mark : T) (np : NP) (fi : Nat) (dict : Bool) :
    ∀ (bt body : List T) (i : Nat), elemSlots mark np fi dict i bt body → plainSlots mark np fi i bt body
  | [], _, _, _ => by simp [plainSlots]
  | _ :: _, [], _, _ => by simp [plainSlots]
  | _ :: bt, _ :: body, i, h => ⟨h.1, plainSlots_of_elemSlots mark np fi dict bt body (i + 1) h.2⟩

theorem pyNe_scalar_self (c : T) (h : scalar c = true) : pyNe c c = false := by
  cases c <;> simp_all [scalar, pyNe]

theorem wfFs_cons (mark c : T) (r : List T) (h : wfFs mark (c :: r) = true) :
    (match c with
     | .many _ md items => if md == 2 then wfPs mark (items.headD .nil).kind items = true else wfEs mark items = true
     | c => wfN mark c = true) ∧ wfFs mark r = true := by
  cases c <;> simpa [wfFs] using h

theorem fieldSlot_many (mark : T) (np : NP) (fi : Nat) (s : Option Nat) (md : Nat) (ms items : List T)
    (h1 : md ≠ 2 → elemSlots mark np fi false 0 (eraseL ms) items)
    (h2 : md = 2 → elemSlots mark np fi true 0 (eraseL ms) items ∧ (items ≠ [] → allE (items.headD .nil).kind (eraseL ms))) :
    fieldSlot mark np fi (.many s md (eraseL ms)) (.many s md items) := by
  refine ⟨eraseL ms, rfl, ?_⟩
  split
  · exact h1 (by omega)
  · split
    · exact h2 ‹_›
    · exact plainSlots_of_elemSlots mark np fi false _ _ 0 (h1 ‹_›)

theorem fieldSlots_self (mark : T) (np : NP) (h : np.base = none) :
    ∀ (fs : List T) (fi : Nat), wfFs mark fs = true → fieldSlots mark np fi (eraseL fs) fs := by
  intro fs
  induction fs with
  | nil => simp [eraseL, fieldSlots]
  | cons c r ih =>
    intro fi hwf
    obtain ⟨hwc, hwr⟩ := wfFs_cons mark c r hwf
    simp only [eraseL, fieldSlots]
    refine ⟨?_, ih (fi + 1) hwr⟩
    cases c with
    | nil => simp [fieldSlot, scalarSlot, erase]
    | prim v => simp [fieldSlot, scalarSlot, erase]
    | node o k cs => exact slot_self mark np _ _ h
    | many s md items =>
      exact fieldSlot_many mark np fi s md items items (fun _ => elemSlots_self mark np fi false h items 0) fun h2 =>
        ⟨elemSlots_self mark np fi true h items 0,
          fun _ => allE_eraseL _ items (wfPs_shaped mark _ items (by simpa [h2] using hwc))⟩

theorem markAt_elem (mark : T) (q : Path) (fi i : Nat) :
    markAt mark (q ++ [fi, i]) = ((markAt mark (q ++ [fi])).kids[i]?).getD .nil := by
  have : q ++ [fi, i] = (q ++ [fi]) ++ [i] := by simp
  rw [this, markAt_snoc]

/-- a node in place sits over a node of the marked tree: where the marked tree has none, the node is put first -/
theorem putsFirst_of_no_mark (mark : T) (q rel : Path) (x : T) (hwf : wfN mark x = true)
    (hb : (markAt mark (q ++ rel)).isNode = false) : putsFirst (.fst 0 q) rel x = true := by
  unfold putsFirst
  split <;> try simp
  · rename_i l k cs
    cases hin : inPlace (.fst 0 q) rel l with
    | false => rfl
    | true =>
      obtain ⟨q', hb', hq⟩ := inPlace_base _ _ _ hin
      cases hb'
      obtain ⟨mo, mcs, hmq, _⟩ := wfN_tree mark l k cs hwf
      rw [← hq, hmq] at hb
      simp [T.isNode] at hb
  · simp [wfN] at hwf

theorem putsFirst_beyond (mark : T) (q : Path) (fi i : Nat) (x : T) (hwf : wfN mark x = true)
    (hb : (markAt mark (q ++ [fi])).kids.length ≤ i) : putsFirst (.fst 0 q) [fi, i] x = true := by
  refine putsFirst_of_no_mark mark q [fi, i] x hwf ?_
  rw [markAt_elem, List.getElem?_eq_none hb]; rfl

theorem putsFirst_under_leaf (mark : T) (pq : Path) (j : Nat) (x : T) (hwf : wfN mark x = true)
    (hb : (markAt mark pq).kids = []) : putsFirst (.fst 0 pq) [j] x = true := by
  refine putsFirst_of_no_mark mark pq [j] x hwf ?_
  rw [markAt_snoc, hb]; rfl

theorem kidsFree_beyond (mark : T) (q : Path) (fi i : Nat) (kv : List T) (hwf : wfKV mark kv = true)
    (hb : (markAt mark (q ++ [fi])).kids.length ≤ i) : kidsFree (.fst 0 (q ++ [fi, i])) kv = true := by
  have hleaf : (markAt mark (q ++ [fi, i])).kids = [] := by
    rw [markAt_elem]
    have : (markAt mark (q ++ [fi])).kids[i]? = none := by simp; omega
    rw [this]; rfl
  match kv, hwf with
  | [k, v], hwf =>
    simp only [wfKV, Bool.and_eq_true, Bool.or_eq_true] at hwf
    simp only [kidsFree, Bool.and_eq_true, Bool.or_eq_true]
    refine ⟨?_, putsFirst_under_leaf mark _ 1 v hwf.2 hleaf⟩
    cases hwf.1 with
    | inl h => exact Or.inl h
    | inr h => exact Or.inr (putsFirst_under_leaf mark _ 0 k h.2 hleaf)

theorem elemSlots_mark_gen (mark : T) (q : Path) (fi : Nat) (dict : Bool) :
    ∀ (ms items : List T) (i : Nat), (markAt mark (q ++ [fi])).kids.drop i = ms →
      (∀ x ∈ items, ∀ j, (markAt mark (q ++ [fi])).kids.length ≤ j → elemFree (.fst 0 q) fi dict j x = true) →
      elemSlots mark (.fst 0 q) fi dict i (eraseL ms) items
  | _, [], _, _, _ => by simp [elemSlots]
  | [], x :: r, i, hd, hfree => by
    have hle : (markAt mark (q ++ [fi])).kids.length ≤ i := List.drop_eq_nil_iff.mp hd
    exact ⟨hfree x (by simp) i hle, elemSlots_mark_gen mark q fi dict [] r (i + 1) (List.drop_eq_nil_of_le (by omega))
      fun y hy => hfree y (by simp [hy])⟩
  | b :: tl, x :: r, i, hd, hfree => by
    refine ⟨?_, elemSlots_mark_gen mark q fi dict tl r (i + 1) (drop_succ_of_cons hd) fun y hy => hfree y (by simp [hy])⟩
    have : markAt mark (q ++ [fi, i]) = b := by rw [markAt_elem, getElem?_of_drop_cons hd]; rfl
    rw [← this]
    exact slot_mark mark _ q _ x rfl

theorem elemSlots_mark (mark : T) (q : Path) (fi : Nat) (items : List T) (i : Nat) (hwf : wfEs mark items = true) :
    elemSlots mark (.fst 0 q) fi false i (eraseL ((markAt mark (q ++ [fi])).kids.drop i)) items :=
  elemSlots_mark_gen mark q fi false _ items i rfl (fun x hx j hj => by
    simp only [elemFree, Bool.false_eq_true, if_false]
    exact putsFirst_beyond mark q fi j x (wfEs_mem mark items hwf x hx) hj)

theorem elemSlotsD_mark (mark : T) (q : Path) (fi : Nat) (pk : Nat) (items : List T) (i : Nat)
    (hwf : wfPs mark pk items = true) :
    elemSlots mark (.fst 0 q) fi true i (eraseL ((markAt mark (q ++ [fi])).kids.drop i)) items :=
  elemSlots_mark_gen mark q fi true _ items i rfl (fun x hx j hj => by
    simp only [elemFree, if_true, NP.ext]
    obtain ⟨o, kv, rfl, _, hkv⟩ := wfPs_mem mark pk items hwf x hx
    exact kidsFree_beyond mark q fi j kv hkv (by simpa using hj))

theorem pyNe_false_eq (c ok : T) (hsc : scalar c = true) (h : pyNe c ok = false) : c = ok := by
  cases c with
  | nil => cases ok <;> simp_all [pyNe]
  | prim v =>
    cases ok with
    | prim w => simp only [pyNe, bne_eq_false_iff_eq] at h; rw [h]
    | _ => simp [pyNe] at h
  | _ => simp [scalar] at hsc

theorem scalarSlot_mark (np : NP) (m c : T) (hnp : np ≠ .ast) (hsc : scalar c = true) :
    scalarSlot np (erase m) c :=
  ⟨fun h => absurd h hnp, fun _ hne => pyNe_false_eq c (erase m) hsc hne⟩

theorem fieldSlots_mark (mark : T) (q : Path) :
    ∀ (ms fs : List T) (fi : Nat), (markAt mark q).kids.drop fi = ms → shapeOK ms fs = true → wfFs mark fs = true →
      fieldSlots mark (.fst 0 q) fi (eraseL ms) fs
  | [], [], _, _, _, _ => by simp [eraseL, fieldSlots]
  | [], _ :: _, _, _, hsh, _ => by simp [shapeOK] at hsh
  | _ :: _, [], _, _, hsh, _ => by simp [shapeOK] at hsh
  | m :: tl, c :: r, fi, hd, hsh, hwf => by
    simp only [shapeOK, Bool.and_eq_true] at hsh
    obtain ⟨hwc, hwr⟩ := wfFs_cons mark c r hwf
    simp only [eraseL, fieldSlots]
    refine ⟨?_, fieldSlots_mark mark q tl r (fi + 1) (drop_succ_of_cons hd) hsh.2 hwr⟩
    have hm : markAt mark (q ++ [fi]) = m := by rw [markAt_snoc, getElem?_of_drop_cons hd]; rfl
    cases c with
    | nil => exact scalarSlot_mark _ m .nil (by simp) rfl
    | prim v => exact scalarSlot_mark _ m (.prim v) (by simp) rfl
    | node o k cs =>
      show slot mark (.fst 0 q) [fi] (erase m) (.node o k cs)
      rw [← hm]; exact slot_mark mark _ q _ _ rfl
    | many s md items =>
      cases m with
      | many s' md' mitems =>
        simp only [fieldOK, Bool.and_eq_true, beq_iff_eq] at hsh
        obtain ⟨⟨⟨rfl, rfl⟩, hsh2⟩, _⟩ := hsh
        have hk : mitems = (markAt mark (q ++ [fi])).kids.drop 0 := by rw [hm]; rfl
        refine fieldSlot_many mark _ fi s md mitems items
          (fun h => by rw [hk]; exact elemSlots_mark mark q fi items 0 (by simpa [h] using hwc))
          (fun h => ⟨by rw [hk]; exact elemSlotsD_mark mark q fi _ items 0 (by simpa [h] using hwc), fun hne => ?_⟩)
        exact allE_eraseL _ mitems (allShaped_mem _ mitems (by simpa [h, hne] using hsh2))
      | _ => simp [fieldOK] at hsh

theorem elemSlots_tail (mark : T) (np : NP) (fi : Nat) (dict : Bool) (i : Nat) (bt : List T) (x : T) (rest : List T)
    (h : elemSlots mark np fi dict i bt (x :: rest)) : elemSlots mark np fi dict (i + 1) bt.tail rest := by
  cases bt with
  | nil => exact h.2
  | cons b bt => exact h.2

theorem skip_post (np : NP) (fi i : Nat) (run : Run) (cur bt : List T) (g : Nat) (x : T) (rest : List T) (hk : run.skip > 0)
    (hsi : SI np fi i run cur (x :: rest) bt g) :
    cur.drop i = erase x :: cur.drop (i + 1) ∧ SI np fi (i + 1) { run with skip := run.skip - 1 } cur rest bt.tail 0 := by
  obtain ⟨hp, hle, htk, htl⟩ := (SI_skip hk).mp hsi
  obtain ⟨k, hk'⟩ : ∃ k, run.skip = k + 1 := ⟨run.skip - 1, by omega⟩
  rw [hk'] at htk hle htl
  simp only [List.take_succ_cons, eraseL] at htk
  cases hd : cur.drop i with
  | nil => rw [hd] at htk; simp at htk
  | cons a tl =>
    rw [hd] at htk
    simp only [List.take_succ_cons, List.cons.injEq] at htk
    obtain ⟨rfl, htk⟩ := htk
    have hd1 := drop_succ_of_cons hd
    refine ⟨by rw [hd1], ?_⟩
    by_cases hk0 : k > 0
    · refine (SI_skip (by simpa [hk'] using hk0)).mpr ?_
      simp only [hk', Nat.add_sub_cancel]
      refine ⟨hp, by simpa using hle, by rw [hd1]; exact htk, ?_⟩
      rw [List.drop_tail, ← htl]; congr 1; omega
    · -- the last element of the run: the list agrees with `bt` from the next index on
      obtain rfl : k = 0 := by omega
      refine (SI_proc (by simp [hk'])).mpr ?_
      simp only [Nat.zero_le, runFree, true_and, Nat.add_zero, List.drop_zero, hp, Nat.lt_irrefl, if_false]
      refine ⟨?_, ?_⟩
      · rw [← List.drop_one, ← htl]
      · have := lt_of_drop_cons hd; omega

theorem runFree_pred (np : NP) (fi i g : Nat) (x : T) (rest : List T) (h : runFree np fi i g (x :: rest) = true) :
    (g > 0 → runElem np fi i x = true) ∧ runFree np fi (i + 1) (g - 1) rest = true := by
  cases g with
  | zero => simp [runFree]
  | succ g => simp only [runFree, Bool.and_eq_true] at h; simp [h.1, h.2]

/-- what the loop knows about the content `ok` of the output list at `i` when element `x` is processed: `x` belongs to a run
copied from the marked tree (and is not in place), or `ok` is `x` itself just inserted past the end (where nothing of the
marked tree can be in place), or `ok` is what the slot hypothesis names -/
def ElemHyp (mark : T) (np : NP) (fi : Nat) (dict : Bool) (i : Nat) (ok x : T) : Prop :=
  runElem np fi i x = true ∨ (ok = erase x ∧ elemFree np fi dict i x = true) ∨ slot mark np [fi, i] ok x

theorem go_post (mark : T) (np : NP) (fi : Nat) (dict : Bool) (i : Nat) (run1 : Run) (cur1 bt : List T)
    (g1 : Nat) (x : T) (rest : List T) (one : Bool)
    (hslots : elemSlots mark np fi dict i bt (x :: rest)) (hsk0 : run1.skip = 0) (hpr : run1.proc > 0)
    (hsi : SI np fi i run1 cur1 (x :: rest) bt g1) (cur2 : List T) (opsIns : List Op)
    (hc2 : (if decide (i ≥ run1.lenRead) = true then List.take i cur1 ++ [erase x] ++ List.drop i cur1 else cur1) = cur2)
    (hoi : (if decide (i ≥ run1.lenRead) = true then [(⟨[], .putSlice i i .ast one [erase x]⟩ : Op)] else []) = opsIns) :
    ∃ ok tl, cur2.drop i = ok :: tl ∧
        (∀ s md (done : List T), done.length = i →
          applyOps opsIns (.many s md (done ++ cur1.drop i)) = .many s md (done ++ ok :: tl)) ∧
        ElemHyp mark np fi dict i ok x ∧ (cur2 = cur1 ∨ cur2 = cur1 ++ [erase x]) ∧
        SI np fi (i + 1) { proc := run1.proc - 1, skip := run1.skip, lenRead := run1.lenRead } cur2 rest bt.tail (g1 - 1) := by
  obtain ⟨hg1, hfree1, htl1, hmax⟩ := (SI_proc hsk0).mp hsi
  rw [if_pos hpr] at hmax
  obtain ⟨hpf, hfree2⟩ := runFree_pred np fi i g1 x rest hfree1
  have htl2 := drop_pred_tail cur1 bt i g1 htl1
  -- the element belongs to a known run, or the slot hypothesis speaks of what the list holds at `i`
  have hEH : runElem np fi i x = true ∨ elemSlots mark np fi dict i (cur1.drop i) (x :: rest) :=
    (Nat.eq_zero_or_pos g1).symm.imp hpf fun h => by subst h; exact htl1 ▸ hslots
  -- in both cases the new list is as long as was read at the head of the run, or one longer than `i`
  have hSI : ∀ cur2 : List T, cur2.drop (i + 1 + (g1 - 1)) = bt.tail.drop (g1 - 1) → max (i + 1) run1.lenRead = cur2.length →
      SI np fi (i + 1) { proc := run1.proc - 1, skip := run1.skip, lenRead := run1.lenRead } cur2 rest bt.tail (g1 - 1) := by
    intro cur2 h1 h2
    exact (SI_proc (by exact hsk0)).mpr
      ⟨Nat.sub_le_sub_right hg1 1, hfree2, h1, by split; exact h2; rw [← h2]; exact Nat.le_max_left ..⟩
  by_cases hins : i ≥ run1.lenRead
  · -- insertion past the end of the output list
    have hl : cur1.length = i := by rw [← hmax, Nat.max_eq_left hins]
    have hd0 : cur1.drop i = [] := List.drop_eq_nil_of_le (by omega)
    simp only [hins, decide_true, if_true] at hc2 hoi
    rw [List.take_of_length_le (by omega), hd0, List.append_nil] at hc2
    subst hc2 hoi
    refine ⟨erase x, [], by rw [List.drop_left' hl], fun s md done hdone => ?_,
      hEH.imp id fun h => by rw [hd0] at h; exact Or.inl ⟨rfl, h.1⟩, Or.inr rfl, hSI _ ?_ ?_⟩
    · subst hdone
      simp [hd0, applyOps, applyOp, applyAt, applyAct]
    · rw [← htl2, List.drop_eq_nil_of_le (by simp; omega), List.drop_eq_nil_of_le (by omega)]
    · rw [List.length_append, hl, Nat.max_eq_left (by omega)]; rfl
  · -- the element is processed over what the output list holds at `i`
    have hl : i < cur1.length := by omega
    have hd := List.drop_eq_getElem_cons hl
    simp only [hins, decide_false, Bool.false_eq_true, if_false] at hc2 hoi
    subst hc2 hoi
    exact ⟨cur1[i], cur1.drop (i + 1), hd, fun s md done _ => by rw [hd]; rfl,
      hEH.imp id fun h => by rw [hd] at h; exact Or.inr h.1, Or.inl rfl, hSI _ htl2 (by omega)⟩

theorem ElemHyp_plain (mark : T) (np : NP) (fi i : Nat) (ok x : T) (h : ElemHyp mark np fi false i ok x) :
    putsFirst np [fi, i] x = true ∨ slot mark np [fi, i] ok x := by
  rcases h with h | ⟨_, h⟩ | h
  · exact Or.inl (runElem_putsFirst np fi i x h)
  · exact Or.inl (by simpa [elemFree] using h)
  · exact Or.inr h

/-- One round of the loop of `recurse_slice` / `recurse_slice_dict` on the element `x` at index `i`, under the invariant.
The trace is `ops0` (the slice put at the head of a run, the insertion past the end), then what processing `x` over `ok`
emits (`r`; nothing when `x` was put with the verified run it belongs to), then the rest of the loop on the predicted list
`cur'`. -/
theorem slice_step (mark : T) (np : NP) (fi : Nat) (ns : Option Nat) (dict : Bool) (i : Nat) (run : Run)
    (cur bt : List T) (g : Nat) (x : T) (rest : List T) (hwf : (x :: rest).all (elemOK mark) = true)
    (hsl : elemSlots mark np fi dict i bt (x :: rest)) (hsi : SI np fi i run cur (x :: rest) bt g) :
    ∃ ops0 r ok run' cur' g',
      recSliceGo mark np fi ns dict i run cur (x :: rest) =
        ⟨ops0 ++ (seqR i r (recSliceGo mark np fi ns dict (i + 1) run' cur' rest)).ops,
          (seqR i r (recSliceGo mark np fi ns dict (i + 1) run' cur' rest)).fail⟩ ∧
      ((r = ⟨[], false⟩ ∧ ok = erase x) ∨ (r = elemRes mark np fi dict i ok x ∧ ElemHyp mark np fi dict i ok x)) ∧
      (∀ op ∈ ops0, op ∈ (headState mark np fi ns i run cur x rest).1 ∨ op = ⟨[], .putSlice i i .ast (!dict) [erase x]⟩) ∧
      (∀ s md (done : List T), done.length = i →
        applyOps ops0 (.many s md (done ++ cur.drop i)) = .many s md (done ++ ok :: cur'.drop (i + 1))) ∧
      cur'[i]? = some ok ∧
      (∀ y ∈ cur', y ∈ cur ∨ y ∈ (headState mark np fi ns i run cur x rest).2.1 ∨ y = erase x) ∧
      SI np fi (i + 1) run' cur' rest bt.tail g' := by
  by_cases hk : run.skip > 0
  · obtain ⟨hd, hsi'⟩ := skip_post np fi i run cur bt g x rest hk hsi
    refine ⟨[], ⟨[], false⟩, erase x, _, cur, 0, ?_, Or.inl ⟨rfl, rfl⟩, by simp, fun s md done _ => by rw [hd]; rfl,
      getElem?_of_drop_cons hd, fun y hy => Or.inl hy, hsi'⟩
    rw [recSliceGo_skip _ _ _ _ _ _ _ _ _ _ hk]; rfl
  · rw [recSliceGo_go _ _ _ _ _ _ _ _ _ _ hk]
    have hp := head_post mark np fi ns i run cur x rest bt g hwf (by omega) hsi
    generalize headState mark np fi ns i run cur x rest = d at hp ⊢
    obtain ⟨ops0, cur1, run1⟩ := d
    simp only at hp ⊢
    obtain ⟨hops, hpr, g1, hsi1⟩ := hp
    by_cases hsk : run1.skip > 0
    · -- a verified run of another tree was put at once, `x` is its first element
      obtain ⟨hd, hsi'⟩ := skip_post np fi i run1 cur1 bt g1 x rest hsk hsi1
      refine ⟨ops0, ⟨[], false⟩, erase x, _, cur1, 0, ?_, Or.inl ⟨rfl, rfl⟩, fun op hop => Or.inl hop,
        fun s md done hdone => by rw [hops s md done hdone, hd], getElem?_of_drop_cons hd, fun y hy => Or.inr (Or.inl hy), hsi'⟩
      simp only [hsk, if_true]; rfl
    · have hsk0 : run1.skip = 0 := by omega
      simp only [hsk, if_false]
      generalize hc2 : (if decide (i ≥ run1.lenRead) = true then List.take i cur1 ++ [erase x] ++ List.drop i cur1 else cur1)
        = cur2
      generalize hoi : (if decide (i ≥ run1.lenRead) = true then [(⟨[], .putSlice i i .ast (!dict) [erase x]⟩ : Op)] else [])
        = opsIns
      obtain ⟨ok, tl, hdrop, happ, heh, hcur2, hsi2⟩ := go_post mark np fi dict i run1 cur1 bt g1 x rest (!dict)
        hsl hsk0 (hpr hsk0) hsi1 cur2 opsIns hc2 hoi
      have hok := getElem?_of_drop_cons hdrop
      refine ⟨ops0 ++ opsIns, elemRes mark np fi dict i ok x, ok, _, cur2, g1 - 1, ?_, Or.inr ⟨rfl, heh⟩, ?_, ?_, hok, ?_, hsi2⟩
      · rw [hok]
        by_cases hrf : (elemRes mark np fi dict i ok x).fail = true <;> simp [seqR, hrf]
      · intro op hop
        refine (List.mem_append.mp hop).imp id fun h => ?_
        rw [← hoi] at h
        split at h <;> simp at h
        exact h
      · intro s md done hdone
        rw [applyOps_append, hops s md done hdone, happ s md done hdone, drop_succ_of_cons hdrop]
      · intro y hy
        rcases hcur2 with rfl | rfl
        · exact Or.inr (Or.inl hy)
        · exact Or.inr ((List.mem_append.mp hy).imp id (by simp))

end Pfst.Reconcile
