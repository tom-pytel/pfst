import Pfst.Gen.C08Families
import Pfst.Gen.C08Ident
/-
Which fix-up follows a put into an expression slot whose delimiters are shared with its statement, and three further
single decisions of the put path (`annSimple`, `identFormsNormalised`, `posAfter`).  No imports except the extracted tables
`Pfst/Gen/C08Families.lean` (from /repo/src/fst/asttypes.py) and `Pfst/Gen/C08Ident.lean` (from /repo/src/fst/code.py),
regenerated on every run.

`_put_one_withitem_context_expr` (src/fst/fst_put_one.py): after the put, `_fix_With_items(parent)` (which re-adds the
parentheses that keep a sole parenthesised item from being read as the statement's own item list) runs exactly when the
parent statement is in `ASTS_LEAF_WITH`.
-/
namespace Pfst.SharedDelims
open Pfst.Gen.C08Families

/-- membership of a statement kind in family number `i` of the table (ASTS_LEAF_WITH = 0, _FOR = 1, _FUNCDEF = 2, _TRY = 3) -/
def inFamily (i : Nat) (kind : String) : Bool :=
  match table.find? (fun r => r.1 == kind) with
  | some r => r.2.getD i false
  | none => false

/-- `parent.a.__class__ in ASTS_LEAF_WITH` -/
def fixWithItems (parentKind : String) : Bool := inFamily 0 parentKind

/-- the sync / async twins of the statement grammar -/
def twins : List (String × String) :=
  [("With", "AsyncWith"), ("For", "AsyncFor"), ("FunctionDef", "AsyncFunctionDef")]

/-- `_put_one_AnnAssign_target`: the value written to `AnnAssign.simple` after a put into `target`:
`1 if ret.a.__class__ is Name and not ret.pars().n else 0`. -/
def annSimple (targetIsName : Bool) (npars : Nat) : Nat := if targetIsName && npars == 0 then 1 else 0

/-- CPython (Grammar/python.gram, `assignment`): `simple` is 1 for `NAME ':' expression ['=' ...]`, 0 for
`'(' single_target ')'` and for attribute / subscript targets. -/
def annSimpleSpec (targetIsName : Bool) (npars : Nat) : Nat :=
  match targetIsName, npars with
  | true, 0 => 1
  | _, _ => 0

/-- Every identifier normaliser of `code.py` (`code_as_identifier`, `_dotted`, `_star`, `_alias`) returns, for every code
form (str, list of lines, FST node, pure AST), the NFKC form that CPython will read back from the source it is written to
(table extracted by running the functions on non-NFKC probe spellings on every run). -/
def identFormsNormalised : Bool := Pfst.Gen.C08Ident.table.all (fun r => r.2.2)

/-- `astutil.last_block_header_child`, ClassDef case: the last starred base is the last header child exactly when it
starts after the last keyword in SOURCE ORDER: `(base.lineno, base.col_offset) > (kw.lineno, kw.col_offset)`. -/
def posAfter (l1 c1 l2 c2 : Nat) : Bool := decide (l1 > l2) || (l1 == l2 && decide (c1 > c2))

end Pfst.SharedDelims
