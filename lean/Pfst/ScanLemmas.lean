import Pfst.Scan
import Pfst.ListLemmas

/-!
Lemmas about the scanning layer of `Pfst/Scan.lean`: the byte / character conversions of `bistr` (`c2b`, `b2c`); one
regex match (`reMatch`) as a decomposition of its window (`reMatch_iff`); `next_frag` as the search for the first line
of the range whose window has a match (`nextFrag_first`), and its `lcont=None` loop, which stays on the logical line;
`prev_frag` and the `last_match` loop on a single line.
-/

namespace Pfst.Scan

/-! ## `bistr` -/

@[simp] theorem byteLen_nil : byteLen [] = 0 := rfl
@[simp] theorem byteLen_cons (a : Char) (r : Line) : byteLen (a :: r) = a.utf8Size + byteLen r := rfl

theorem byteLen_append (l1 l2 : Line) : byteLen (l1 ++ l2) = byteLen l1 + byteLen l2 := by
  induction l1 with
  | nil => simp
  | cons a r ih => simp [ih, Nat.add_assoc]

@[simp] theorem c2bRaw_zero (l : Line) : c2bRaw l 0 = 0 := by simp [c2bRaw]
@[simp] theorem c2bRaw_nil (c : Nat) : c2bRaw [] c = 0 := by simp [c2bRaw]
@[simp] theorem c2bRaw_cons_succ (a : Char) (r : Line) (c : Nat) :
    c2bRaw (a :: r) (c + 1) = a.utf8Size + c2bRaw r c := by simp [c2bRaw]

theorem c2bRaw_append (l1 l2 : Line) (c : Nat) :
    c2bRaw (l1 ++ l2) (l1.length + c) = byteLen l1 + c2bRaw l2 c := by
  unfold c2bRaw
  rw [List.take_length_add_append]
  exact byteLen_append ..

theorem c2bRaw_length (l : Line) : c2bRaw l l.length = byteLen l := by simp [c2bRaw]

theorem c2bRaw_of_length_le {l : Line} {c : Nat} (h : l.length ≤ c) : c2bRaw l c = byteLen l := by
  simp [c2bRaw, List.take_of_length_le h]

theorem c2bRaw_add (l : Line) (c k : Nat) : c2bRaw l (c + k) = c2bRaw l c + c2bRaw (l.drop c) k := by
  unfold c2bRaw
  rw [List.take_add, byteLen_append]

theorem c2bRaw_mono {l : Line} {c c' : Nat} (h : c ≤ c') : c2bRaw l c ≤ c2bRaw l c' := by
  obtain ⟨k, rfl⟩ := Nat.exists_eq_add_of_le h
  rw [c2bRaw_add]
  exact Nat.le_add_right _ _

theorem c2bRaw_strictMono {l : Line} {c c' : Nat} (h : c < c') (h' : c' ≤ l.length) :
    c2bRaw l c < c2bRaw l c' := by
  obtain ⟨k, rfl⟩ := Nat.exists_eq_add_of_lt h
  -- the character at `c` has at least one byte
  cases hd : l.drop c with
  | nil => have := List.drop_eq_nil_iff.mp hd; omega
  | cons a r =>
    have := Char.utf8Size_pos a
    rw [Nat.add_assoc, c2bRaw_add, hd, c2bRaw_cons_succ]
    omega

theorem c2bRaw_le_byteLen (l : Line) (c : Nat) : c2bRaw l c ≤ byteLen l := by
  by_cases h : c ≤ l.length
  · rw [← c2bRaw_length l]; exact c2bRaw_mono h
  · rw [c2bRaw_of_length_le (by omega)]; exact Nat.le_refl _

theorem length_le_byteLen (l : Line) : l.length ≤ byteLen l := by
  induction l with
  | nil => simp
  | cons a r ih => have := Char.utf8Size_pos a; simp; omega

theorem isAscii_iff {l : Line} : isAscii l = true ↔ ∀ ch ∈ l, ch.utf8Size = 1 := by
  unfold isAscii
  induction l with
  | nil => simp
  | cons a r ih =>
    have h1 := Char.utf8Size_pos a
    have h2 := length_le_byteLen r
    simp only [byteLen_cons, List.length_cons, beq_iff_eq, List.mem_cons, forall_eq_or_imp] at ih ⊢
    constructor
    · intro h
      have : byteLen r = r.length := by omega
      exact ⟨by omega, ih.mp this⟩
    · intro ⟨ha, hr⟩
      have := ih.mpr hr
      omega

theorem c2bRaw_ascii {l : Line} {c : Nat} (h : ∀ ch ∈ l, ch.utf8Size = 1) (hc : c ≤ l.length) :
    c2bRaw l c = c := by
  have := isAscii_iff.mpr fun ch hch => h ch (List.mem_of_mem_take (i := c) hch)
  rw [isAscii, beq_iff_eq, List.length_take, Nat.min_eq_left hc] at this
  exact this

theorem c2b_b2c_ascii {l : Line} {c : Nat} (h : isAscii l = true) : c2b l c = some c ∧ b2c l c = some c := by
  simp [c2b, b2c, h]

theorem b2cAux_c2bRaw {l : Line} {i c : Nat} (hc : c ≤ l.length) : b2cAux l i (c2bRaw l c) = i + c := by
  induction l generalizing i c with
  | nil => simp at hc; simp [hc, b2cAux]
  | cons a r ih =>
    cases c with
    | zero =>
      have := Char.utf8Size_pos a
      simp [b2cAux, this]
    | succ c =>
      have := @ih (i + 1) c (by simpa using hc)
      rw [c2bRaw_cons_succ]
      unfold b2cAux
      rw [if_neg (by omega), Nat.add_sub_cancel_left, this]; omega

theorem b2c_c2b (l : Line) (c : Nat) (hc : c ≤ l.length) : (c2b l c).bind (b2c l) = some c := by
  unfold c2b b2c
  by_cases h : isAscii l = true
  · simp [h]
  · simp [h, hc, c2bRaw_le_byteLen, b2cAux_c2bRaw hc]

theorem b2cAux_shift (l : Line) (i b : Nat) : b2cAux l i b = i + b2cAux l 0 b := by
  induction l generalizing i b with
  | nil => simp [b2cAux]
  | cons a r ih =>
    unfold b2cAux
    split
    · rfl
    · rw [ih (i + 1), ih (0 + 1)]; omega

/-- `b2cAux` rounds a byte offset down to a character start -/
theorem b2cAux_bracket {l : Line} {b : Nat} (hb : b ≤ byteLen l) :
    b2cAux l 0 b ≤ l.length ∧ c2bRaw l (b2cAux l 0 b) ≤ b ∧ (b < byteLen l → b < c2bRaw l (b2cAux l 0 b + 1)) := by
  induction l generalizing b with
  | nil => simp [b2cAux]
  | cons a r ih =>
    unfold b2cAux
    split
    · simp; omega
    · simp at hb
      have := @ih (b - a.utf8Size) (by omega)
      rw [b2cAux_shift, Nat.add_comm 1, c2bRaw_cons_succ, c2bRaw_cons_succ]
      simp; omega

theorem b2cAux_inside {l : Line} {c b : Nat} (h1 : c2bRaw l c ≤ b) (h2 : b < c2bRaw l (c + 1)) :
    b2cAux l 0 b = c := by
  have hb : b < byteLen l := Nat.lt_of_lt_of_le h2 (c2bRaw_le_byteLen l (c + 1))
  obtain ⟨_, h3, h4⟩ := b2cAux_bracket (Nat.le_of_lt hb)
  rcases Nat.lt_trichotomy (b2cAux l 0 b) c with h | h | h
  · have := c2bRaw_mono (l := l) (show b2cAux l 0 b + 1 ≤ c from h)
    have := h4 hb
    omega
  · exact h
  · have := c2bRaw_mono (l := l) (show c + 1 ≤ b2cAux l 0 b from h)
    omega

theorem b2c_inside {l : Line} {c b : Nat} (hna : isAscii l = false) (h1 : c2bRaw l c ≤ b)
    (h2 : b < c2bRaw l (c + 1)) : b2c l b = some c := by
  have : b ≤ byteLen l := Nat.le_of_lt (Nat.lt_of_lt_of_le h2 (c2bRaw_le_byteLen l (c + 1)))
  simp [b2c, hna, this, b2cAux_inside h1 h2]

theorem b2c_bracket {l : Line} {b c : Nat} (hna : isAscii l = false) (h : b2c l b = some c) :
    c ≤ l.length ∧ c2bRaw l c ≤ b ∧ (b < byteLen l → b < c2bRaw l (c + 1)) := by
  unfold b2c at h
  simp only [hna, Bool.false_eq_true, ↓reduceIte] at h
  split at h
  · rename_i hb
    simp only [Option.some.injEq] at h
    subst h
    exact b2cAux_bracket hb
  · simp at h

theorem c2b_b2c_le {l : Line} {b : Nat} (hna : isAscii l = false) (hb : b ≤ byteLen l) :
    ∃ b', (b2c l b).bind (c2b l) = some b' ∧ b' ≤ b := by
  refine ⟨c2bRaw l (b2cAux l 0 b), ?_, (b2cAux_bracket hb).2.1⟩
  simp [b2c, c2b, hna, hb, (b2cAux_bracket hb).1]

/-! ## the regex match -/

/-- the window `l[pos:endpos]` with both ends clipped to the line, as `Pattern.match(l, pos, endpos)` sees it -/
def win (l : Line) (pos ep : Nat) : Line := (l.take (min ep l.length)).drop (min pos l.length)

theorem win_length (l : Line) (pos ep : Nat) : (win l pos ep).length = min ep l.length - min pos l.length := by
  simp [win]

theorem win_getElem? (l : Line) (pos ep i : Nat) :
    (win l pos ep)[i]? = if min pos l.length + i < min ep l.length then l[min pos l.length + i]? else none := by
  simp [win, List.getElem?_drop, List.getElem?_take]

theorem win_decomp (l : Line) (pos ep : Nat) (h : min pos l.length ≤ min ep l.length) :
    l = l.take (min pos l.length) ++ win l pos ep ++ l.drop (min ep l.length) :=
  (take_append_mid_append_drop l h).symm

theorem win_drop {l : Line} {c ec k : Nat} (h : c + k ≤ l.length) : win l (c + k) ec = (win l c ec).drop k := by
  unfold win
  rw [Nat.min_eq_left h, Nat.min_eq_left (by omega : c ≤ l.length), List.drop_drop]

theorem win_mid (A w B : Line) : win (A ++ w ++ B) A.length (A.length + w.length) = w := by
  have h1 : min (A.length + w.length) (A ++ w ++ B).length = (A ++ w).length := by simp
  have h2 : min A.length (A ++ w ++ B).length = A.length := by simp
  rw [win, h1, h2, List.take_left' rfl, List.drop_left]

theorem isCode_imp_not_isSpace {c : Char} (h : isCode c = true) : isSpace c = false := by
  simp [isCode] at h; simp [h]

theorem isCode_ne_hash {c : Char} (h : isCode c = true) : c ≠ '#' := by
  simp [isCode] at h; simp [h]

theorem isCode_ne_bslash {c : Char} (h : isCode c = true) : c ≠ '\\' := by
  simp [isCode] at h; simp [h]

theorem not_code_cases {c : Char} (h : isCode c = false) (hs : isSpace c = false) : c = '#' ∨ c = '\\' := by
  simp [isCode, hs] at h
  by_cases h1 : c = '#'
  · exact Or.inl h1
  · exact Or.inr (h h1)

/-- What group 1 (`tok`) and the text after it (`rest`) look like, per alternative of the pattern. -/
def TokSpec (cm lc : Bool) (tok rest : Line) : Prop :=
  (tok ≠ [] ∧ tok.all isCode = true ∧ ∀ x, rest.head? = some x → isCode x = false) ∨
  (cm = true ∧ tok.head? = some '#' ∧ tok.all notNl = true ∧ ∀ x, rest.head? = some x → x = '\n') ∨
  (lc = true ∧ tok = ['\\'] ∧ atEnd rest = true)

theorem TokSpec_ne_nil {cm lc : Bool} {tok rest : Line} (h : TokSpec cm lc tok rest) : tok ≠ [] := by
  rcases h with ⟨h, _⟩ | ⟨_, h, _⟩ | ⟨_, h, _⟩
  · exact h
  · intro h'; simp [h'] at h
  · simp [h]

theorem TokSpec_false_false {tok rest : Line} :
    TokSpec false false tok rest ↔
      tok ≠ [] ∧ tok.all isCode = true ∧ ∀ x, rest.head? = some x → isCode x = false := by
  simp [TokSpec]

theorem reMatch_decomp {cm lc : Bool} {l : Line} {pos ep : Nat} {sp rest : Line}
    (hpe : min pos l.length ≤ min ep l.length) (hw : win l pos ep = sp ++ rest)
    (hsp : sp.all isSpace = true) (hr : ∀ x, rest.head? = some x → isSpace x = false) :
    reMatch cm lc l pos ep =
      match rest with
      | [] => none
      | ch :: t =>
        if isCode ch then
          some ⟨min pos l.length + sp.length, min pos l.length + sp.length + (rest.takeWhile isCode).length⟩
        else if ch == '#' then
          (if cm then
            some ⟨min pos l.length + sp.length, min pos l.length + sp.length + (rest.takeWhile notNl).length⟩
           else none)
        else if ch == '\\' then
          (if lc && atEnd t then some ⟨min pos l.length + sp.length, min pos l.length + sp.length + 1⟩ else none)
        else none := by
  have hu := span_unique (List.all_eq_true.mp hsp) hr
  unfold win at hw
  unfold reMatch
  simp only [Nat.not_lt.mpr hpe, ↓reduceIte, hw, hu.1, hu.2]
  cases rest <;> rfl

theorem reMatch_clip {cm lc : Bool} {l : Line} {pos ep : Nat} (h : min ep l.length < min pos l.length) :
    reMatch cm lc l pos ep = none := by
  unfold reMatch; simp [h]

/-- What follows the leading spaces of a window on which the pattern does not match. -/
def NoTok (cm lc : Bool) (rest : Line) : Prop :=
  rest = [] ∨ (∃ t, rest = '#' :: t ∧ cm = false) ∨ (∃ t, rest = '\\' :: t ∧ (lc = false ∨ atEnd t = false))

theorem NoTok_head {cm lc : Bool} {rest : Line} (h : NoTok cm lc rest) :
    ∀ x, rest.head? = some x → isSpace x = false := by
  intro x hx
  rcases h with rfl | ⟨t, rfl, _⟩ | ⟨t, rfl, _⟩
  · simp at hx
  · simp at hx; subst hx; decide
  · simp at hx; subst hx; decide

theorem tok_cases (cm lc : Bool) (w : Line) :
    ∃ sp rest, w = sp ++ rest ∧ sp.all isSpace = true ∧
      (NoTok cm lc rest ∨ ∃ tok rest', rest = tok ++ rest' ∧ TokSpec cm lc tok rest') := by
  have hr := fun x (h : (w.dropWhile isSpace).head? = some x) => head?_dropWhile_false h
  refine ⟨w.takeWhile isSpace, w.dropWhile isSpace, List.takeWhile_append_dropWhile.symm,
    List.all_eq_true.mpr fun _ h => mem_takeWhile_true h, ?_⟩
  generalize w.dropWhile isSpace = rest at *
  cases rest with
  | nil => exact .inl (.inl rfl)
  | cons ch t =>
    by_cases hc : isCode ch = true
    · exact .inr ⟨(ch :: t).takeWhile isCode, (ch :: t).dropWhile isCode, List.takeWhile_append_dropWhile.symm,
        .inl ⟨by simp [hc], List.all_eq_true.mpr fun _ hx => mem_takeWhile_true hx,
          fun _ hx => head?_dropWhile_false hx⟩⟩
    · rcases not_code_cases (by simpa using hc) (hr ch rfl) with rfl | rfl
      · cases cm
        · exact .inl (.inr (.inl ⟨t, rfl, rfl⟩))
        · exact .inr ⟨('#' :: t).takeWhile notNl, ('#' :: t).dropWhile notNl, List.takeWhile_append_dropWhile.symm,
            .inr (.inl ⟨rfl, by simp [List.takeWhile_cons, notNl],
              List.all_eq_true.mpr fun _ hx => mem_takeWhile_true hx,
              fun x hx => by simpa [notNl] using head?_dropWhile_false hx⟩)⟩
      · by_cases hlc : lc = true ∧ atEnd t = true
        · exact .inr ⟨['\\'], t, rfl, .inr (.inr ⟨hlc.1, rfl, hlc.2⟩)⟩
        · refine .inl (.inr (.inr ⟨t, rfl, ?_⟩))
          cases lc
          · exact .inl rfl
          · exact .inr (by simpa using hlc)

theorem line_cases (w : Line) :
    w.all isSpace = true ∨
    (∃ sp code rest, w = sp ++ code ++ rest ∧ sp.all isSpace = true ∧ code ≠ [] ∧ code.all isCode = true ∧
      ∀ x, rest.head? = some x → isCode x = false) ∨
    (∃ sp x t, w = sp ++ x :: t ∧ sp.all isSpace = true ∧ isSpace x = false ∧ isCode x = false) := by
  obtain ⟨sp, rest, hw, hsp, (rfl | ⟨t, rfl, _⟩ | ⟨t, rfl, _⟩) | ⟨tok, rest', rfl, hts⟩⟩ := tok_cases false false w
  · exact .inl (by rw [hw, List.append_nil]; exact hsp)
  · exact .inr (.inr ⟨sp, '#', t, hw, hsp, by decide, by decide⟩)
  · exact .inr (.inr ⟨sp, '\\', t, hw, hsp, by decide, by decide⟩)
  · have ⟨h1, h2, h3⟩ := TokSpec_false_false.mp hts
    exact .inr (.inl ⟨sp, tok, rest', by rw [hw, List.append_assoc], hsp, h1, h2, h3⟩)

theorem reMatch_of_tok {cm lc : Bool} {l : Line} {pos ep : Nat} {sp tok rest : Line}
    (hpe : min pos l.length ≤ min ep l.length) (hw : win l pos ep = sp ++ tok ++ rest)
    (hsp : sp.all isSpace = true) (hts : TokSpec cm lc tok rest) :
    reMatch cm lc l pos ep = some ⟨min pos l.length + sp.length, min pos l.length + sp.length + tok.length⟩ := by
  rw [List.append_assoc] at hw
  rcases hts with ⟨hne, hall, hrest⟩ | ⟨hcm, hhd, hall, hrest⟩ | ⟨hlc, rfl, hrest⟩
  · cases tok with
    | nil => contradiction
    | cons c t =>
      have hc : isCode c = true := (List.all_eq_true.mp hall) c (by simp)
      rw [reMatch_decomp hpe hw hsp (by intro x hx; simp at hx; subst hx; exact isCode_imp_not_isSpace hc)]
      have := (span_unique (List.all_eq_true.mp hall) hrest).1
      simp only [List.cons_append, hc, if_true]
      rw [← List.cons_append, this]
  · cases tok with
    | nil => simp at hhd
    | cons c t =>
      have hc : c = '#' := by simpa using hhd
      subst hc
      rw [reMatch_decomp hpe hw hsp (by intro x hx; simp at hx; subst hx; decide)]
      have := (span_unique (p := notNl) (b := rest) (List.all_eq_true.mp hall)
        (by intro x hx; simp [notNl, hrest x hx])).1
      simp only [List.cons_append, hcm, if_true]
      rw [← List.cons_append, this]
      rfl
  · rw [reMatch_decomp hpe hw hsp (by intro x hx; simp at hx; subst hx; decide)]
    have h1 : isCode '\\' = false := by decide
    have h2 : ('\\' == '#') = false := by decide
    simp [h1, h2, hlc, hrest]

theorem reMatch_of_noTok {cm lc : Bool} {l : Line} {pos ep : Nat} {sp rest : Line}
    (hw : win l pos ep = sp ++ rest) (hsp : sp.all isSpace = true) (hn : NoTok cm lc rest) :
    reMatch cm lc l pos ep = none := by
  by_cases hpe : min pos l.length ≤ min ep l.length
  · rw [reMatch_decomp hpe hw hsp (NoTok_head hn)]
    rcases hn with rfl | ⟨t, rfl, hcm⟩ | ⟨t, rfl, hlc⟩
    · rfl
    · have h1 : isCode '#' = false := by decide
      simp [h1, hcm]
    · have h1 : isCode '\\' = false := by decide
      have h2 : ('\\' == '#') = false := by decide
      rcases hlc with hlc | hlc <;> simp [h1, h2, hlc]
  · exact reMatch_clip (by omega)

theorem reMatch_iff {cm lc : Bool} {l : Line} {pos ep : Nat} {m : M} :
    reMatch cm lc l pos ep = some m ↔
      min pos l.length ≤ min ep l.length ∧
      ∃ sp tok rest, win l pos ep = sp ++ tok ++ rest ∧ sp.all isSpace = true ∧ TokSpec cm lc tok rest ∧
        m = ⟨min pos l.length + sp.length, min pos l.length + sp.length + tok.length⟩ := by
  constructor
  · intro h
    by_cases hpe : min pos l.length ≤ min ep l.length
    · obtain ⟨sp, rest, hw, hsp, hn | ⟨tok, rest', rfl, hts⟩⟩ := tok_cases cm lc (win l pos ep)
      · rw [reMatch_of_noTok hw hsp hn] at h; cases h
      · rw [← List.append_assoc] at hw
        rw [reMatch_of_tok hpe hw hsp hts] at h
        exact ⟨hpe, sp, tok, rest', hw, hsp, hts, (Option.some.inj h).symm⟩
    · rw [reMatch_clip (by omega)] at h; cases h
  · rintro ⟨hpe, sp, tok, rest, hw, hsp, hts, rfl⟩
    exact reMatch_of_tok hpe hw hsp hts

theorem group_of_win {l : Line} {pos ep : Nat} {sp tok rest : Line}
    (hpe : min pos l.length ≤ min ep l.length) (hw : win l pos ep = sp ++ tok ++ rest) :
    group l ⟨min pos l.length + sp.length, min pos l.length + sp.length + tok.length⟩ = tok := by
  have hl := win_decomp l pos ep hpe
  rw [hw] at hl
  have hlen : (l.take (min pos l.length) ++ sp).length = min pos l.length + sp.length := by
    simp [List.length_take]
  have hl' : l = (l.take (min pos l.length) ++ sp) ++ tok ++ (rest ++ l.drop (min ep l.length)) := by
    simpa [List.append_assoc] using hl
  have := drop_take_of_eq_append hl'
  rw [hlen] at this
  exact this

/-- the plain pattern `\s*([^\s#\\]+)` -/
theorem reMatch_code_iff {l : Line} {pos ep : Nat} {m : M} :
    reMatch false false l pos ep = some m ↔
      min pos l.length ≤ min ep l.length ∧
      ∃ sp code rest, win l pos ep = sp ++ code ++ rest ∧ sp.all isSpace = true ∧ code ≠ [] ∧
        code.all isCode = true ∧ (∀ x, rest.head? = some x → isCode x = false) ∧
        m = ⟨min pos l.length + sp.length, min pos l.length + sp.length + code.length⟩ ∧ group l m = code := by
  rw [reMatch_iff]
  constructor
  · rintro ⟨hpe, sp, tok, rest, hw, hsp, hts, rfl⟩
    have ⟨h1, h2, h3⟩ := TokSpec_false_false.mp hts
    exact ⟨hpe, sp, tok, rest, hw, hsp, h1, h2, h3, rfl, group_of_win hpe hw⟩
  · rintro ⟨hpe, sp, tok, rest, hw, hsp, h1, h2, h3, hm, _⟩
    exact ⟨hpe, sp, tok, rest, hw, hsp, TokSpec_false_false.mpr ⟨h1, h2, h3⟩, hm⟩

theorem reMatch_group {cm lc : Bool} {l : Line} {pos ep : Nat} {m : M} (h : reMatch cm lc l pos ep = some m) :
    ∃ sp rest, win l pos ep = sp ++ group l m ++ rest ∧ sp.all isSpace = true ∧ TokSpec cm lc (group l m) rest ∧
      m = ⟨min pos l.length + sp.length, min pos l.length + sp.length + (group l m).length⟩ := by
  obtain ⟨hpe, sp, tok, rest, hw, hsp, hts, rfl⟩ := reMatch_iff.mp h
  rw [group_of_win hpe hw]
  exact ⟨sp, rest, hw, hsp, hts, rfl⟩

theorem reMatch_none_iff {cm lc : Bool} {l : Line} {pos ep : Nat} :
    reMatch cm lc l pos ep = none ↔
      min ep l.length < min pos l.length ∨
      ∃ sp rest, win l pos ep = sp ++ rest ∧ sp.all isSpace = true ∧ NoTok cm lc rest := by
  constructor
  · intro h
    by_cases hpe : min pos l.length ≤ min ep l.length
    · obtain ⟨sp, rest, hw, hsp, hn | ⟨tok, rest', rfl, hts⟩⟩ := tok_cases cm lc (win l pos ep)
      · exact .inr ⟨sp, rest, hw, hsp, hn⟩
      · rw [reMatch_of_tok hpe (by rw [hw, List.append_assoc]) hsp hts] at h; cases h
    · left; omega
  · rintro (h | ⟨sp, rest, hw, hsp, hn⟩)
    · exact reMatch_clip h
    · exact reMatch_of_noTok hw hsp hn

theorem reMatch_code_step {l : Line} {ec c : Nat} {sp code rest : Line}
    (hc : c ≤ min ec l.length) (hw : win l c ec = sp ++ code ++ rest) (hsp : sp.all isSpace = true)
    (hne : code ≠ []) (hcode : code.all isCode = true) (hrest : ∀ x, rest.head? = some x → isCode x = false) :
    reMatch false false l c ec = some ⟨c + sp.length, c + sp.length + code.length⟩ ∧
    group l ⟨c + sp.length, c + sp.length + code.length⟩ = code ∧
    win l (c + sp.length + code.length) ec = rest := by
  have hcl : min c l.length = c := Nat.min_eq_left (by omega)
  have hpe : min c l.length ≤ min ec l.length := by omega
  have hm := reMatch_of_tok (cm := false) (lc := false) hpe hw hsp (.inl ⟨hne, hcode, hrest⟩)
  have hg := group_of_win hpe hw
  rw [hcl] at hm hg
  refine ⟨hm, hg, ?_⟩
  have hlen := win_length l c ec
  rw [hw, hcl] at hlen
  simp at hlen
  rw [Nat.add_assoc, win_drop (by omega), hw, ← List.length_append, List.drop_left]

theorem reMatch_code_none {l : Line} {ec c : Nat} {sp t : Line}
    (hw : win l c ec = sp ++ t) (hsp : sp.all isSpace = true)
    (ht : ∀ x, t.head? = some x → isSpace x = false ∧ isCode x = false) : reMatch false false l c ec = none := by
  refine reMatch_of_noTok hw hsp ?_
  cases t with
  | nil => exact .inl rfl
  | cons x t =>
    rcases not_code_cases (ht x rfl).2 (ht x rfl).1 with rfl | rfl
    · exact .inr (.inl ⟨t, rfl, rfl⟩)
    · exact .inr (.inr ⟨t, rfl, .inl rfl⟩)

theorem win_index {l : Line} {pos ep : Nat} {A B C : Line} (hw : win l pos ep = A ++ B ++ C) {i : Nat}
    (h1 : min pos l.length + A.length ≤ i) (h2 : i < min pos l.length + A.length + B.length) :
    i < min ep l.length ∧ ∃ x, l[i]? = some x ∧ x ∈ B := by
  obtain ⟨x, hx, hxB⟩ := getElem?_mid (A := A) (B := B) (C := C) (j := i - min pos l.length)
    (by omega) (by omega)
  rw [← hw, win_getElem?] at hx
  have hi : min pos l.length + (i - min pos l.length) = i := by omega
  rw [hi] at hx
  split at hx
  · exact ⟨by assumption, x, hx, hxB⟩
  · simp at hx

/-- `reMatch_iff` read off the characters of the line, index by index -/
theorem reMatch_sound {cm lc : Bool} {l : Line} {pos ep : Nat} {m : M} (h : reMatch cm lc l pos ep = some m) :
    min pos l.length ≤ m.s ∧ m.s < m.e ∧ m.e ≤ min ep l.length ∧
    (∀ i, min pos l.length ≤ i → i < m.s → ∃ c, l[i]? = some c ∧ isSpace c = true) ∧
    ∃ ch, l[m.s]? = some ch ∧ isSpace ch = false ∧
      ((isCode ch = true ∧ (∀ i, m.s ≤ i → i < m.e → ∃ c, l[i]? = some c ∧ isCode c = true) ∧
          (m.e < min ep l.length → ∃ c, l[m.e]? = some c ∧ isCode c = false)) ∨
       (cm = true ∧ ch = '#' ∧ (∀ i, m.s ≤ i → i < m.e → ∃ c, l[i]? = some c ∧ c ≠ '\n') ∧
          (m.e < min ep l.length → l[m.e]? = some '\n')) ∨
       (lc = true ∧ ch = '\\' ∧ m.e = m.s + 1 ∧
          (m.e = min ep l.length ∨ (m.e + 1 = min ep l.length ∧ l[m.e]? = some '\n')))) := by
  obtain ⟨hpe, sp, tok, rest, hw, hsp, hts, rfl⟩ := reMatch_iff.mp h
  dsimp only
  have hlen := win_length l pos ep
  rw [hw] at hlen
  simp only [List.length_append] at hlen
  have htl : 0 < tok.length := List.length_pos_iff.mpr (TokSpec_ne_nil hts)
  have part : ∀ {A B C : Line} (P : Char → Prop), win l pos ep = A ++ B ++ C → (∀ x ∈ B, P x) →
      ∀ i, min pos l.length + A.length ≤ i → i < min pos l.length + A.length + B.length →
        ∃ c, l[i]? = some c ∧ P c :=
    fun P hw' hP i h1 h2 => (win_index hw' h1 h2).2.imp fun c hc => ⟨hc.1, hP c hc.2⟩
  have hd : ∀ {A r : Line} {c : Char}, win l pos ep = A ++ c :: r → l[min pos l.length + A.length]? = some c := by
    intro A r c hw'
    obtain ⟨x, hx, rfl⟩ := part (A := A) (B := [c]) (C := r) (· = c) (by simpa using hw') (by simp) _
      (Nat.le_refl _) (by simp)
    exact hx
  have hnext : min pos l.length + sp.length + tok.length < min ep l.length →
      ∃ c r, rest = c :: r ∧ l[min pos l.length + sp.length + tok.length]? = some c := by
    intro hlt
    cases rest with
    | nil => simp at hlen; omega
    | cons c r => exact ⟨c, r, rfl, by simpa [Nat.add_assoc] using hd (A := sp ++ tok) hw⟩
  have htok := fun P hP => part (A := sp) (B := tok) (C := rest) P hw hP
  refine ⟨Nat.le_add_right _ _, by omega, by omega, ?_, ?_⟩
  · simpa using part (A := []) (B := sp) (C := tok ++ rest) (isSpace · = true) (by simp [hw])
      (List.all_eq_true.mp hsp)
  · cases tok with
    | nil => cases htl
    | cons x t0 =>
      refine ⟨x, hd (by simpa using hw), ?_⟩
      rcases hts with ⟨_, hall, hrest⟩ | ⟨hcm, hhd, hall, hrest⟩ | ⟨hlc, htk, hrest⟩
      · have hx0 : isCode x = true := List.all_eq_true.mp hall x (by simp)
        refine ⟨isCode_imp_not_isSpace hx0, .inl ⟨hx0, htok _ (List.all_eq_true.mp hall), fun hlt => ?_⟩⟩
        obtain ⟨c, r, rfl, hc⟩ := hnext hlt
        exact ⟨c, hc, hrest c rfl⟩
      · obtain rfl : x = '#' := by simpa using hhd
        refine ⟨by decide, .inr (.inl ⟨hcm, rfl, htok (· ≠ '\n') (fun c hc => ?_), fun hlt => ?_⟩)⟩
        · simpa [notNl] using List.all_eq_true.mp hall c hc
        · obtain ⟨c, r, rfl, hc⟩ := hnext hlt
          rw [← hrest c rfl]; exact hc
      · obtain ⟨rfl, rfl⟩ : x = '\\' ∧ t0 = [] := by simpa using htk
        refine ⟨by decide, .inr (.inr ⟨hlc, rfl, rfl, ?_⟩)⟩
        simp only [atEnd, Bool.or_eq_true, beq_iff_eq] at hrest
        rcases hrest with rfl | rfl
        · left; simp at hlen ⊢; omega
        · obtain ⟨c, r, hcr, hc⟩ := hnext (by simp at hlen ⊢; omega)
          cases hcr
          exact .inr ⟨by simp at hlen ⊢; omega, hc⟩

/-! ## `next_frag` -/

/-- the match of line `i` on its part of the range `(ln, col) .. (endLn, endCol)` -/
def lineMatch (cm lc : Bool) (lines : List Line) (ln col endLn endCol i : Nat) : Option M :=
  reMatch cm lc (lineAt lines i) (if i = ln then col else 0)
    (if i = endLn then endCol else (lineAt lines i).length)

/-- the window of line `i` inside the range `(ln, col) .. (endLn, endCol)` -/
def lineWin (lines : List Line) (ln col endLn endCol i : Nat) : Line :=
  win (lineAt lines i) (if i = ln then col else 0) (if i = endLn then endCol else (lineAt lines i).length)

@[simp] theorem fragOf_ln (l : Line) (i : Nat) (m : M) : (fragOf l i m).ln = i := rfl
@[simp] theorem fragOf_col (l : Line) (i : Nat) (m : M) : (fragOf l i m).col = m.s := rfl
@[simp] theorem fragOf_src (l : Line) (i : Nat) (m : M) : (fragOf l i m).src = group l m := rfl

/-- the first index `k` of `[i, i + n)` with `g k = some a`, with that `a`: what a loop over the lines computes that
stops at the first line where something is found -/
def firstOn {α : Type} (g : Nat → Option α) : Nat → Nat → Option (Nat × α)
  | 0, _ => none
  | n + 1, i =>
    match g i with
    | some a => some (i, a)
    | none => firstOn g n (i + 1)

theorem firstOn_eq_some_iff {α : Type} {g : Nat → Option α} {n i k : Nat} {a : α} :
    firstOn g n i = some (k, a) ↔ i ≤ k ∧ k < i + n ∧ g k = some a ∧ ∀ j, i ≤ j → j < k → g j = none := by
  induction n generalizing i with
  | zero => exact ⟨nofun, fun h => absurd h.2.1 (Nat.not_lt.mpr h.1)⟩
  | succ n ih =>
    unfold firstOn
    cases hg : g i with
    | some b =>
      dsimp only
      constructor
      · rintro ⟨⟩
        exact ⟨Nat.le_refl _, Nat.lt_add_of_pos_right n.succ_pos, hg, fun j h1 h2 => absurd h2 (Nat.not_lt.mpr h1)⟩
      · rintro ⟨h1, _, h3, h4⟩
        -- `k = i`, as `g` answers nothing before `k`
        obtain rfl : i = k :=
          Nat.le_antisymm h1 (Nat.not_lt.mp fun hlt => by rw [h4 i (Nat.le_refl _) hlt] at hg; cases hg)
        rw [hg] at h3
        cases h3
        rfl
    | none =>
      dsimp only
      rw [ih, Nat.add_right_comm, ← Nat.add_assoc]
      constructor
      · rintro ⟨h1, h2, h3, h4⟩
        exact ⟨Nat.le_of_succ_le h1, h2, h3, fun j hj1 hj2 =>
          if hji : j = i then hji ▸ hg else h4 j (Nat.lt_of_le_of_ne hj1 (Ne.symm hji)) hj2⟩
      · rintro ⟨h1, h2, h3, h4⟩
        have : i ≠ k := fun hk => by rw [← hk, hg] at h3; cases h3
        exact ⟨Nat.lt_of_le_of_ne h1 this, h2, h3, fun j hj1 hj2 => h4 j (Nat.le_of_succ_le hj1) hj2⟩

theorem firstOn_eq_none_iff {α : Type} {g : Nat → Option α} {n i : Nat} :
    firstOn g n i = none ↔ ∀ j, i ≤ j → j < i + n → g j = none := by
  induction n generalizing i with
  | zero => exact ⟨fun _ j h1 h2 => absurd h2 (Nat.not_lt.mpr h1), fun _ => rfl⟩
  | succ n ih =>
    unfold firstOn
    cases hg : g i with
    | some a =>
      exact ⟨nofun, fun h => by rw [h i (Nat.le_refl _) (Nat.lt_add_of_pos_right n.succ_pos)] at hg; cases hg⟩
    | none =>
      dsimp only
      rw [ih, Nat.add_right_comm, ← Nat.add_assoc]
      exact ⟨fun h j h1 h2 => if hji : j = i then hji ▸ hg else h j (Nat.lt_of_le_of_ne h1 (Ne.symm hji)) h2,
        fun h j h1 h2 => h j (Nat.le_of_succ_le h1) h2⟩

/-- the loop of the `lcont is not None` branch, entered at line `i` of a scan that started at `(ln, col)` -/
theorem nextLoopA_eq_firstOn (cm lc : Bool) (lines : List Line) (ln col endLn endCol n i : Nat)
    (hi : ln ≤ i) (hb : i + n = endLn) :
    (match nextLoopA cm lc lines n i (if i = ln then col else 0) with
      | some f => some f
      | none => (lineMatch cm lc lines ln col endLn endCol endLn).map (fragOf (lineAt lines endLn) endLn)) =
      (firstOn (lineMatch cm lc lines ln col endLn endCol) (n + 1) i).map fun km =>
        fragOf (lineAt lines km.1) km.1 km.2 := by
  induction n generalizing i with
  | zero =>
    obtain rfl : i = endLn := hb
    simp only [nextLoopA, firstOn]
    cases lineMatch cm lc lines ln col i endCol i <;> rfl
  | succ n ih =>
    have h0 : lineMatch cm lc lines ln col endLn endCol i =
        reMatch cm lc (lineAt lines i) (if i = ln then col else 0) (lineAt lines i).length := by
      simp [lineMatch, show i ≠ endLn by omega]
    unfold nextLoopA firstOn
    simp only [h0]
    cases reMatch cm lc (lineAt lines i) (if i = ln then col else 0) (lineAt lines i).length with
    | some m => rfl
    | none => simpa [show i + 1 ≠ ln by omega] using ih (i + 1) (by omega) (by omega)

theorem nextFrag_same_line (lines : List Line) (ln col endCol : Nat) (cm : Bool) (lcont : LCont) :
    nextFrag lines ln col ln endCol cm lcont =
      (reMatch cm (lcont == .t) (lineAt lines ln) col endCol).map (fragOf (lineAt lines ln) ln) := by
  simp [nextFrag]

theorem nextFrag_of_flags {lines : List Line} {ln col endLn endCol : Nat} {cm : Bool} {lcont : LCont}
    (hl : lcont ≠ .n) :
    nextFrag lines ln col endLn endCol cm lcont =
      match nextLoopA cm (lcont == .t) lines (endLn - ln) ln col with
      | some f => some f
      | none =>
        (lineMatch cm (lcont == .t) lines ln col endLn endCol endLn).map (fragOf (lineAt lines endLn) endLn) := by
  by_cases he : endLn = ln
  · subst he
    simp [nextFrag, nextLoopA, lineMatch]
  · have he' : (endLn == ln) = false := by simpa using he
    cases lcont
    · simp only [nextFrag, he', lineMatch, he, Bool.false_eq_true, if_false]; rfl
    · simp only [nextFrag, he', lineMatch, he, Bool.false_eq_true, if_false]; rfl
    · contradiction

theorem nextFrag_lcontNone {lines : List Line} {ln col endLn endCol : Nat} {cm : Bool} :
    nextFrag lines ln col endLn endCol cm .n =
      match nextLoopB cm lines (endLn - ln) ln col with
      | some r => r
      | none => (lineMatch cm false lines ln col endLn endCol endLn).map (fragOf (lineAt lines endLn) endLn) := by
  by_cases he : endLn = ln
  · subst he
    simp [nextFrag, nextLoopB, lineMatch]
    rfl
  · have he' : (endLn == ln) = false := by simpa using he
    simp only [nextFrag, he', lineMatch, he, Bool.false_eq_true, if_false, show (LCont.n == LCont.t) = false by decide]
    rfl

theorem nextFrag_eq_firstOn {lines : List Line} {ln col endLn endCol : Nat} {cm : Bool} {lcont : LCont}
    (hl : lcont ≠ .n) (hle : ln ≤ endLn) :
    nextFrag lines ln col endLn endCol cm lcont =
      (firstOn (lineMatch cm (lcont == .t) lines ln col endLn endCol) (endLn - ln + 1) ln).map fun km =>
        fragOf (lineAt lines km.1) km.1 km.2 := by
  have hA := nextLoopA_eq_firstOn cm (lcont == .t) lines ln col endLn endCol (endLn - ln) ln (Nat.le_refl _)
    (by omega)
  rw [if_pos rfl] at hA
  rw [nextFrag_of_flags hl, hA]

/-- `next_frag` for every `comment` and `lcont ∈ {False, True}` returns the match of the first line of the range
whose window has a match under the pattern chosen by the flags, and every such match is returned. -/
theorem nextFrag_first {lines : List Line} {ln col endLn endCol : Nat} {cm : Bool} {lcont : LCont}
    (hl : lcont ≠ .n) (hle : ln ≤ endLn) :
    (∀ fr, nextFrag lines ln col endLn endCol cm lcont = some fr →
      ln ≤ fr.ln ∧ fr.ln ≤ endLn ∧
      (∃ m, lineMatch cm (lcont == .t) lines ln col endLn endCol fr.ln = some m ∧
        fr = fragOf (lineAt lines fr.ln) fr.ln m) ∧
      ∀ i, ln ≤ i → i < fr.ln → lineMatch cm (lcont == .t) lines ln col endLn endCol i = none) ∧
    (∀ k m, ln ≤ k → k ≤ endLn → lineMatch cm (lcont == .t) lines ln col endLn endCol k = some m →
      (∀ i, ln ≤ i → i < k → lineMatch cm (lcont == .t) lines ln col endLn endCol i = none) →
      nextFrag lines ln col endLn endCol cm lcont = some (fragOf (lineAt lines k) k m)) := by
  rw [nextFrag_eq_firstOn hl hle]
  refine ⟨fun fr h => ?_, fun k m hk1 hk2 hm hb => ?_⟩
  · obtain ⟨⟨k, m⟩, hf, rfl⟩ := Option.map_eq_some_iff.mp h
    obtain ⟨h1, h2, h3, h4⟩ := firstOn_eq_some_iff.mp hf
    exact ⟨h1, (by omega : k ≤ endLn), ⟨m, h3, rfl⟩, h4⟩
  · rw [firstOn_eq_some_iff.mpr ⟨hk1, by omega, hm, hb⟩]
    rfl

theorem nextFrag_eq_none {lines : List Line} {ln col endLn endCol : Nat} {cm : Bool} {lcont : LCont}
    (hl : lcont ≠ .n) (hle : ln ≤ endLn) :
    nextFrag lines ln col endLn endCol cm lcont = none ↔
      ∀ i, ln ≤ i → i ≤ endLn → lineMatch cm (lcont == .t) lines ln col endLn endCol i = none := by
  rw [nextFrag_eq_firstOn hl hle, Option.map_eq_none_iff, firstOn_eq_none_iff]
  exact ⟨fun h i h1 h2 => h i h1 (by omega), fun h i h1 h2 => h i h1 (by omega)⟩

/-- `next_frag(..., comment=False, lcont=False)`, the combination used by `next_delims` / `pars` -/
theorem nextFrag_spec {lines : List Line} {ln col endLn endCol : Nat} {fr : Frag}
    (h : nextFrag lines ln col endLn endCol false .f = some fr) (hle : ln ≤ endLn) :
    ln ≤ fr.ln ∧ fr.ln ≤ endLn ∧
    (∃ m, lineMatch false false lines ln col endLn endCol fr.ln = some m ∧
      fr = fragOf (lineAt lines fr.ln) fr.ln m) ∧
    ∀ i, ln ≤ i → i < fr.ln → lineMatch false false lines ln col endLn endCol i = none :=
  (nextFrag_first (cm := false) (lcont := .f) (by decide) hle).1 fr h

theorem nextFrag_none {lines : List Line} {ln col endLn endCol : Nat}
    (h : nextFrag lines ln col endLn endCol false .f = none) (hle : ln ≤ endLn) :
    ∀ i, ln ≤ i → i ≤ endLn → lineMatch false false lines ln col endLn endCol i = none :=
  (nextFrag_eq_none (lcont := .f) (by decide) hle).mp h

/-- `nextFrag_spec` with the matches spelt out as decompositions of the line windows -/
theorem nextFrag_spec_decomp {lines : List Line} {ln col endLn endCol : Nat} {fr : Frag}
    (h : nextFrag lines ln col endLn endCol false .f = some fr) (hle : ln ≤ endLn) :
    ln ≤ fr.ln ∧ fr.ln ≤ endLn ∧
    (∃ sp rest, lineWin lines ln col endLn endCol fr.ln = sp ++ fr.src ++ rest ∧ sp.all isSpace = true ∧
      fr.src ≠ [] ∧ fr.src.all isCode = true ∧ (∀ x, rest.head? = some x → isCode x = false) ∧
      fr.col = min (if fr.ln = ln then col else 0) (lineAt lines fr.ln).length + sp.length) ∧
    ∀ i, ln ≤ i → i < fr.ln →
      ∃ sp rest, lineWin lines ln col endLn endCol i = sp ++ rest ∧ sp.all isSpace = true ∧
        (rest = [] ∨ (∃ t, rest = '#' :: t) ∨ (∃ t, rest = '\\' :: t)) := by
  obtain ⟨h1, h2, ⟨m, h3, h4⟩, h5⟩ := nextFrag_spec h hle
  refine ⟨h1, h2, ?_, ?_⟩
  · obtain ⟨_, sp, code, rest, hw, hsp, hne, hall, hrest, hm, hg⟩ := reMatch_code_iff.mp h3
    have hsrc : fr.src = code := by rw [h4]; exact hg
    have hcol : fr.col = m.s := by rw [h4]; rfl
    refine ⟨sp, rest, by rw [hsrc]; exact hw, hsp, by rw [hsrc]; exact hne, by rw [hsrc]; exact hall, hrest, ?_⟩
    rw [hcol, hm]
  · intro i hi1 hi2
    have hn := h5 i hi1 hi2
    have hpe : min (if i = ln then col else 0) (lineAt lines i).length ≤
        min (if i = endLn then endCol else (lineAt lines i).length) (lineAt lines i).length := by
      have : i ≠ endLn := by omega
      simp only [this, ↓reduceIte, Nat.min_self]
      exact Nat.min_le_right _ _
    rcases reMatch_none_iff.mp hn with hlt | ⟨sp, rest, hw, hsp, hnt⟩
    · omega
    refine ⟨sp, rest, hw, hsp, ?_⟩
    rcases hnt with h | ⟨t, h, _⟩ | ⟨t, h, _⟩
    · exact Or.inl h
    · exact Or.inr (Or.inl ⟨t, h⟩)
    · exact Or.inr (Or.inr ⟨t, h⟩)

/-! ### `lcont=None`: the scan stays on the logical line -/

/-- the match of loop B (`_re_next_frag_or_comment_or_lcont`) on line `i`: `lineMatch true true` of a line before `endLn` -/
def lineB (lines : List Line) (ln col i : Nat) : Option M :=
  reMatch true true (lineAt lines i) (if i = ln then col else 0) (lineAt lines i).length

/-- line `i` holds, from the start column on, nothing but spaces and a closing line-continuation backslash -/
def IsCont (lines : List Line) (ln col i : Nat) : Prop :=
  ∃ m, lineB lines ln col i = some m ∧ group (lineAt lines i) m = ['\\']

/-- loop B stops at line `k` with the result `r`: on no match or on a comment that is not asked for with `None`, on a
match that is not a lone backslash (a comment only if asked for) with that match -/
def StopB (cm : Bool) (lines : List Line) (ln col k : Nat) : Option Frag → Prop
  | none => lineB lines ln col k = none ∨
      ∃ m, lineB lines ln col k = some m ∧ (group (lineAt lines k) m).head? = some '#' ∧ cm = false
  | some fr => ∃ m, lineB lines ln col k = some m ∧ fr = fragOf (lineAt lines k) k m ∧
      group (lineAt lines k) m ≠ ['\\'] ∧ ((group (lineAt lines k) m).head? = some '#' → cm = true)

/-- what loop B does at line `k` of a scan that started at `(ln, col)`: `some r` = `return r`, `none` = the loop goes
on below a continuation line -/
def stepB (cm : Bool) (lines : List Line) (ln col k : Nat) : Option (Option Frag) :=
  match lineB lines ln col k with
  | none => some none
  | some m =>
    if (group (lineAt lines k) m).head? == some '#' then some (if cm then some (fragOf (lineAt lines k) k m) else none)
    else if group (lineAt lines k) m != ['\\'] then some (some (fragOf (lineAt lines k) k m))
    else none

theorem stepB_spec (cm : Bool) (lines : List Line) (ln col k : Nat) :
    match stepB cm lines ln col k with
    | none => IsCont lines ln col k
    | some r => StopB cm lines ln col k r := by
  unfold stepB
  cases hm : lineB lines ln col k with
  | none => exact .inl hm
  | some m =>
    by_cases hh : (group (lineAt lines k) m).head? = some '#'
    · have hne : group (lineAt lines k) m ≠ ['\\'] := fun hc => by rw [hc] at hh; cases hh
      cases cm
      · simpa [hh] using .inr ⟨m, hm, hh, rfl⟩
      · simpa [hh] using ⟨m, hm, rfl, hne, fun _ => rfl⟩
    · by_cases hb : group (lineAt lines k) m = ['\\']
      · simpa [hh, hb] using ⟨m, hm, hb⟩
      · simpa [hh, hb] using ⟨m, hm, rfl, hb, fun h => absurd h hh⟩

theorem nextLoopB_eq_firstOn (cm : Bool) (lines : List Line) (ln col n i : Nat) (hi : ln ≤ i) :
    nextLoopB cm lines n i (if i = ln then col else 0) = (firstOn (stepB cm lines ln col) n i).map (·.2) := by
  induction n generalizing i with
  | zero => rfl
  | succ n ih =>
    simp only [nextLoopB, firstOn, stepB, lineB]
    cases reMatch true true (lineAt lines i) (if i = ln then col else 0) (lineAt lines i).length with
    | none => rfl
    | some m =>
      have := ih (i + 1) (by omega)
      rw [if_neg (by omega)] at this
      simp only [this]
      split
      · rfl
      · split <;> rfl

theorem nextLoopB_spec (cm : Bool) (lines : List Line) (n i col : Nat) :
    (∃ k r, i ≤ k ∧ k < i + n ∧ (∀ j, i ≤ j → j < k → IsCont lines i col j) ∧ StopB cm lines i col k r ∧
        nextLoopB cm lines n i col = some r) ∨
    ((∀ j, i ≤ j → j < i + n → IsCont lines i col j) ∧ nextLoopB cm lines n i col = none) := by
  have hB := nextLoopB_eq_firstOn cm lines i col n i (Nat.le_refl _)
  rw [if_pos rfl] at hB
  have hcont : ∀ j, stepB cm lines i col j = none → IsCont lines i col j := fun j hj => by
    have := stepB_spec cm lines i col j
    rwa [hj] at this
  rw [hB]
  cases hf : firstOn (stepB cm lines i col) n i with
  | some kr =>
    obtain ⟨k, r⟩ := kr
    obtain ⟨hk1, hk2, hkr, hc⟩ := firstOn_eq_some_iff.mp hf
    have hst := stepB_spec cm lines i col k
    rw [hkr] at hst
    exact .inl ⟨k, r, hk1, hk2, fun j h1 h2 => hcont j (hc j h1 h2), hst, rfl⟩
  | none => exact .inr ⟨fun j h1 h2 => hcont j (firstOn_eq_none_iff.mp hf j h1 h2), rfl⟩

theorem nextFrag_lcontNone_stop (cm : Bool) (lines : List Line) (ln col endLn endCol : Nat) (hle : ln ≤ endLn) :
    ∃ k, ln ≤ k ∧ k ≤ endLn ∧ (∀ j, ln ≤ j → j < k → IsCont lines ln col j) ∧
      (k < endLn → StopB cm lines ln col k (nextFrag lines ln col endLn endCol cm .n)) ∧
      (k = endLn → nextFrag lines ln col endLn endCol cm .n =
        (lineMatch cm false lines ln col endLn endCol endLn).map (fragOf (lineAt lines endLn) endLn)) := by
  rw [nextFrag_lcontNone]
  rcases nextLoopB_spec cm lines (endLn - ln) ln col with ⟨k, r, hk1, hk2, hc, hst, hr⟩ | ⟨hc, hr⟩
  · exact ⟨k, hk1, by omega, hc, fun _ => by rw [hr]; exact hst, fun _ => by omega⟩
  · exact ⟨endLn, hle, Nat.le_refl _, fun j h1 h2 => hc j h1 (by omega), fun _ => by omega, fun _ => by rw [hr]⟩

/-- `lcont=None`, a fragment is returned: every line before it (inside the range) is, from the start column on, a
lone continuation backslash; the fragment is either the `_re_next_frag_or_comment_or_lcont` match of a line before
`endLn` (not a lone backslash; a comment only if `comment`), or the plain / comment match of the last line up to
`endCol`. -/
theorem nextFrag_lcontNone_sound {lines : List Line} {ln col endLn endCol : Nat} {cm : Bool} {fr : Frag}
    (h : nextFrag lines ln col endLn endCol cm .n = some fr) (hle : ln ≤ endLn) :
    ln ≤ fr.ln ∧ fr.ln ≤ endLn ∧ (∀ j, ln ≤ j → j < fr.ln → IsCont lines ln col j) ∧
    (fr.ln < endLn →
      ∃ m, lineB lines ln col fr.ln = some m ∧ fr = fragOf (lineAt lines fr.ln) fr.ln m ∧
        group (lineAt lines fr.ln) m ≠ ['\\'] ∧ ((group (lineAt lines fr.ln) m).head? = some '#' → cm = true)) ∧
    (fr.ln = endLn →
      ∃ m, lineMatch cm false lines ln col endLn endCol endLn = some m ∧
        fr = fragOf (lineAt lines endLn) endLn m) := by
  obtain ⟨k, hk1, hk2, hc, hlt, heq⟩ := nextFrag_lcontNone_stop cm lines ln col endLn endCol hle
  rw [h] at hlt heq
  have hlast := fun hk => Option.map_eq_some_iff.mp (heq hk).symm
  obtain rfl : fr.ln = k := by
    rcases Nat.lt_or_eq_of_le hk2 with hk | hk
    · obtain ⟨m, _, rfl, _⟩ := hlt hk; rfl
    · obtain ⟨m, _, rfl⟩ := hlast hk; exact hk.symm
  exact ⟨hk1, hk2, hc, hlt, fun hk => (hlast hk).imp fun m hm => ⟨hm.1, hm.2.symm⟩⟩

/-- `lcont=None`, nothing is returned: the scan stopped at some line `k` reached through continuation lines
only; line `k` (before `endLn`) has nothing after its leading spaces / has a backslash that is not a continuation, or
starts a comment while `comment=False`; or `k = endLn` and the last window has no match. -/
theorem nextFrag_lcontNone_none {lines : List Line} {ln col endLn endCol : Nat} {cm : Bool}
    (h : nextFrag lines ln col endLn endCol cm .n = none) (hle : ln ≤ endLn) :
    ∃ k, ln ≤ k ∧ k ≤ endLn ∧ (∀ j, ln ≤ j → j < k → IsCont lines ln col j) ∧
      (k < endLn →
        lineB lines ln col k = none ∨
        ∃ m, lineB lines ln col k = some m ∧ (group (lineAt lines k) m).head? = some '#' ∧ cm = false) ∧
      (k = endLn → lineMatch cm false lines ln col endLn endCol endLn = none) := by
  obtain ⟨k, hk1, hk2, hc, hlt, heq⟩ := nextFrag_lcontNone_stop cm lines ln col endLn endCol hle
  rw [h] at hlt heq
  exact ⟨k, hk1, hk2, hc, hlt, fun hk => Option.map_eq_none_iff.mp (heq hk).symm⟩

theorem IsCont_iff {lines : List Line} {ln col i : Nat} :
    IsCont lines ln col i ↔
      ∃ sp rest, win (lineAt lines i) (if i = ln then col else 0) (lineAt lines i).length = sp ++ '\\' :: rest ∧
        sp.all isSpace = true ∧ atEnd rest = true := by
  unfold IsCont lineB
  constructor
  · rintro ⟨m, hm, hg⟩
    obtain ⟨sp, rest, hw, hsp, hts, _⟩ := reMatch_group hm
    rw [hg] at hw hts
    refine ⟨sp, rest, by simpa using hw, hsp, ?_⟩
    rcases hts with ⟨_, h, _⟩ | ⟨_, h, _⟩ | ⟨_, _, h⟩
    · have : isCode '\\' = false := by decide
      simp [this] at h
    · simp at h
    · exact h
  · rintro ⟨sp, rest, hw, hsp, hr⟩
    have hpe : min (if i = ln then col else 0) (lineAt lines i).length ≤
        min (lineAt lines i).length (lineAt lines i).length := by
      rw [Nat.min_self]; exact Nat.min_le_right _ _
    have hw' : win (lineAt lines i) (if i = ln then col else 0) (lineAt lines i).length = sp ++ ['\\'] ++ rest := by
      simpa using hw
    exact ⟨_, reMatch_of_tok hpe hw' hsp (.inr (.inr ⟨rfl, rfl, hr⟩)), group_of_win hpe hw'⟩

/-! ## `prev_frag` on a single line -/

theorem reMatch_pos_min (cm lc : Bool) (l : Line) (pos ep : Nat) :
    reMatch cm lc l (min pos l.length) ep = reMatch cm lc l pos ep := by
  unfold reMatch
  have : min (min pos l.length) l.length = min pos l.length := by omega
  simp only [this]

theorem win_pos_min (l : Line) (pos ep : Nat) : win l (min pos l.length) ep = win l pos ep := by
  unfold win
  have : min (min pos l.length) l.length = min pos l.length := by omega
  rw [this]

theorem lastMatchLoop_pos_min (cm : Bool) (lcont : LCont) (pc pl : Bool) (l : Line) (ec fuel c : Nat) (st : List PM) :
    lastMatchLoop cm lcont pc pl l ec fuel (min c l.length) st = lastMatchLoop cm lcont pc pl l ec fuel c st := by
  cases fuel with
  | zero => rfl
  | succ f =>
    conv => lhs; unfold lastMatchLoop
    conv => rhs; unfold lastMatchLoop
    rw [reMatch_pos_min]

theorem lastMatchLoop_length (comment : Bool) (lcont : LCont) (pc pl : Bool) (l : Line) (ec : Nat) :
    ∀ (fuel c : Nat) (st : List PM),
      (lastMatchLoop comment lcont pc pl l ec fuel c st).length ≤ st.length + fuel := by
  intro fuel
  induction fuel with
  | zero => intro c st; simp [lastMatchLoop]
  | succ fuel ih =>
    intro c st
    unfold lastMatchLoop
    split
    · omega
    · dsimp only
      split
      · omega
      · rename_i m _ _
        have := ih m.e (⟨m.s, m.e, group l m⟩ :: st)
        simp only [List.length_cons] at this
        omega

/-- a window of spaces ends the `while m := p.match(...)` loop -/
theorem lastMatchLoop_spaces {cm : Bool} {lcont : LCont} {pc pl : Bool} {l : Line} {ec fuel c : Nat} {st : List PM}
    (hw : (win l c ec).all isSpace = true) : lastMatchLoop cm lcont pc pl l ec fuel c st = st := by
  cases fuel with
  | zero => rfl
  | succ f =>
    unfold lastMatchLoop
    rw [reMatch_of_noTok (sp := win l c ec) (rest := []) (by simp) hw (.inl rfl)]

theorem lastMatchLoop_step {l : Line} {ec fuel c : Nat} {st : List PM} {sp0 code0 rest : Line}
    (hc : c ≤ min ec l.length) (hw : win l c ec = sp0 ++ code0 ++ rest) (hsp0 : sp0.all isSpace = true)
    (hne : code0 ≠ []) (hcode0 : code0.all isCode = true) (hrest : ∀ x, rest.head? = some x → isCode x = false) :
    lastMatchLoop false .f false false l ec (fuel + 1) c st =
      lastMatchLoop false .f false false l ec fuel (c + sp0.length + code0.length)
        (⟨c + sp0.length, c + sp0.length + code0.length, code0⟩ :: st) ∧
    win l (c + sp0.length + code0.length) ec = rest := by
  obtain ⟨hm, hg, hrw⟩ := reMatch_code_step hc hw hsp0 hne hcode0 hrest
  refine ⟨?_, hrw⟩
  conv => lhs; unfold lastMatchLoop
  simp only [hm, hg]
  cases code0 with
  | nil => contradiction
  | cons x t =>
    have hx : isCode x = true := List.all_eq_true.mp hcode0 x (by simp)
    simp [isCode_ne_hash hx, isCode_ne_bslash hx]

/-- The loop on a window of spaces and code characters: the top of the stack it leaves is the LAST maximal code run
(`pre` ends with a space or is empty, `sp` is the trailing space). -/
theorem lastMatchLoop_last {l : Line} {ec fuel c : Nat} {st : List PM} {pre code sp : Line}
    (hw : win l c ec = pre ++ code ++ sp)
    (hpre : pre.all (fun x => isSpace x || isCode x) = true)
    (hlast : ∀ x, pre.getLast? = some x → isSpace x = true)
    (hne : code ≠ []) (hcode : code.all isCode = true) (hsp : sp.all isSpace = true)
    (hf : (win l c ec).length < fuel) :
    (lastMatchLoop false .f false false l ec fuel c st).head? =
      some ⟨c + pre.length, c + pre.length + code.length, code⟩ := by
  induction fuel generalizing c st pre with
  | zero => omega
  | succ fuel ih =>
    -- the window holds `code`, so it starts inside the line
    have hlen := win_length l c ec
    have hl := List.length_pos_iff.mpr hne
    rw [hw] at hlen hf
    simp only [List.length_append] at hlen hf
    have hc : c ≤ min ec l.length := by omega
    rw [Nat.min_eq_left (Nat.le_trans hc (Nat.min_le_right _ _))] at hlen
    rcases line_cases pre with hb | ⟨sp0, code0, pre2, rfl, hsp0, hne0, hcode0, hy0⟩ | ⟨sp0, x, t, rfl, _, hxs, hxc⟩
    · -- only blanks before the run: one match, then the trailing blanks end the loop
      obtain ⟨h1, h2⟩ := lastMatchLoop_step (fuel := fuel) (st := st) hc hw hb hne hcode
        fun x hx => by simp [isCode, List.all_eq_true.mp hsp x (List.mem_of_mem_head? hx)]
      rw [h1, lastMatchLoop_spaces (by rw [h2]; exact hsp)]
      rfl
    · cases pre2 with
      | nil =>
        -- `pre` would end with a code character
        have hz := hlast _ (by rw [List.append_nil, List.getLast?_append, List.getLast?_eq_some_getLast hne0, Option.some_or])
        rw [isCode_imp_not_isSpace (List.all_eq_true.mp hcode0 _ (List.getLast_mem hne0))] at hz
        cases hz
      | cons y pre2' =>
        -- an earlier run `code0`: one match, then the same situation with `pre2` in place of `pre`
        simp only [List.length_append] at hlen hf
        have hw' : win l c ec = sp0 ++ code0 ++ ((y :: pre2') ++ code ++ sp) := by
          rw [hw]; simp only [List.append_assoc]
        obtain ⟨h1, h2⟩ := lastMatchLoop_step (fuel := fuel) (st := st) hc hw' hsp0 hne0 hcode0
          (fun z hz => hy0 z (by simpa using hz))
        rw [h1, ih (c := c + sp0.length + code0.length) (pre := y :: pre2') h2
          (List.all_eq_true.mpr fun z hz => List.all_eq_true.mp hpre z (by simp [hz]))
          (fun z hz => hlast z (by rw [List.getLast?_append, hz, Option.some_or]))
          (by rw [h2]; simp only [List.length_append]; have := List.length_pos_iff.mpr hne0; omega)]
        simp only [List.length_append]
        congr 2 <;> omega
    · have := List.all_eq_true.mp hpre x (by simp)
      simp [hxs, hxc] at this

/-- `prev_frag` on one line without cached state: the top of the stack that the scan of `last_match` leaves -/
theorem prevFrag_single (lines : List Line) (ln col endCol : Nat) (cm : Bool) (lcont : LCont) :
    prevFrag lines ln col ln endCol cm lcont =
      (lastMatchLoop cm lcont cm (lcont == .t) (lineAt lines ln) endCol ((lineAt lines ln).length + 1) col []).head?.map
        (pmFrag ln) := by
  unfold prevFrag prevFragSt
  simp only [beq_self_eq_true, ↓reduceIte, lastMatch]
  cases lastMatchLoop cm lcont cm (lcont == .t) (lineAt lines ln) endCol ((lineAt lines ln).length + 1) col [] <;> rfl

/-- ... and with the cached stack `st`: `last_match` pops it, or scans when it is empty -/
theorem prevFragSt_single (l : Line) (c : Nat) (st : List PM) :
    prevFragSt [l] 0 0 0 c false .f st =
      ((lastMatch false .f false false st l 0 c).1.map (pmFrag 0), (lastMatch false .f false false st l 0 c).2) := by
  simp [prevFragSt, lineAt, show (LCont.f == LCont.t) = false by decide]

/-- `prev_frag` on one line with `comment=False`, `lcont=False`, no cached state: if the window `col .. endCol`
of the line holds only space and code characters, the result is the last maximal code run of the window. -/
theorem prevFrag_single_partial {lines : List Line} {ln col endCol : Nat} {pre code sp : Line}
    (hw : win (lineAt lines ln) col endCol = pre ++ code ++ sp)
    (hpre : pre.all (fun x => isSpace x || isCode x) = true)
    (hlast : ∀ x, pre.getLast? = some x → isSpace x = true)
    (hne : code ≠ []) (hcode : code.all isCode = true) (hsp : sp.all isSpace = true) :
    prevFrag lines ln col ln endCol false .f =
      some ⟨ln, min col (lineAt lines ln).length + pre.length, code⟩ := by
  have key := lastMatchLoop_last (l := lineAt lines ln) (ec := endCol) (fuel := (lineAt lines ln).length + 1)
    (c := min col (lineAt lines ln).length) (st := []) (by rw [win_pos_min]; exact hw) hpre hlast hne hcode hsp
    (by rw [win_length]; omega)
  rw [lastMatchLoop_pos_min] at key
  rw [prevFrag_single]
  exact congrArg (Option.map (pmFrag ln)) key

theorem prevFrag_single_spaces {lines : List Line} {ln col endCol : Nat}
    (hw : (win (lineAt lines ln) col endCol).all isSpace = true) :
    prevFrag lines ln col ln endCol false .f = none := by
  rw [prevFrag_single, lastMatchLoop_spaces hw]
  rfl

/-! ## concrete instances (non-vacuity) -/

example : c2b "aé日b".toList 3 = some 6 := by decide +kernel
example : b2c "aé日b".toList 2 = some 1 := by decide +kernel
example : b2c "aé日b".toList 5 = some 2 := by decide +kernel
example : b2c "aé日b".toList 7 = some 4 := by decide +kernel
example : b2c "aé日b".toList 8 = none := by decide +kernel
example : c2b "aé日b".toList 5 = none := by decide +kernel
example : c2b "abc".toList 7 = some 7 := by decide +kernel
example : isAscii "aé".toList = false := by decide +kernel
example : reMatch false false "  ab# c".toList 0 100 = some ⟨2, 4⟩ := by decide +kernel
example : reMatch true false "  # c\nx".toList 0 100 = some ⟨2, 5⟩ := by decide +kernel
example : reMatch false true " \\".toList 0 100 = some ⟨1, 2⟩ := by decide +kernel
example : reMatch false true " \\ ".toList 0 100 = none := by decide +kernel
example : reMatch false false "ab cd".toList 1 4 = some ⟨1, 2⟩ := by decide +kernel
example : nextFrag ["a  # c".toList, " \\".toList, "  (b".toList] 0 1 2 4 false .f = some ⟨2, 2, "(b".toList⟩ := by
  decide +kernel
example : nextFrag ["a  # c".toList, " \\".toList, "  (b".toList] 0 1 2 2 false .f = none := by decide +kernel
example : nextFrag ["a \\".toList, " \\".toList, "  (b".toList] 0 1 2 4 false .n = some ⟨2, 2, "(b".toList⟩ := by
  decide +kernel
example : nextFrag ["a  # c".toList, "  (b".toList] 0 1 1 4 false .n = none := by decide +kernel
example : nextFrag ["a  # c".toList, "  (b".toList] 0 1 1 4 true .n = some ⟨0, 3, "# c".toList⟩ := by decide +kernel
example : prevFrag ["x = (a) ) ".toList] 0 4 0 10 false .f = some ⟨0, 8, ")".toList⟩ := by decide +kernel
example : prevFrag ["ab cd  ".toList] 0 0 0 100 false .f = some ⟨0, 3, "cd".toList⟩ := by decide +kernel

/-- the hypotheses of `prevFrag_single_partial` are satisfiable -/
example : prevFrag ["ab cd  ".toList] 0 0 0 100 false .f = some ⟨0, 3, "cd".toList⟩ :=
  prevFrag_single_partial (pre := "ab ".toList) (code := "cd".toList) (sp := "  ".toList)
    (by decide +kernel) (by decide +kernel) (by decide +kernel) (by decide +kernel) (by decide +kernel) (by decide +kernel)

end Pfst.Scan
