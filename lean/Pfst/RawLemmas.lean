import Pfst.Raw
/-! Helper lemmas for the raw reparse model (`Pfst/Raw.lean`). -/
namespace Pfst.Raw

theorem utf8Len_append (a b : Line) : utf8Len (a ++ b) = utf8Len a + utf8Len b := by
  simp [utf8Len, List.map_append, List.sum_append]

theorem spaces_length (n : Nat) : (spaces n).length = n := List.length_replicate

/-- a line whose characters are all one byte long -/
def Ascii (l : Line) : Prop := ∀ c ∈ l, c.utf8Size = 1

theorem utf8Len_ascii (l : Line) (h : Ascii l) : utf8Len l = l.length := by
  induction l with
  | nil => rfl
  | cons c t ih =>
    have := List.forall_mem_cons.1 h
    simp only [utf8Len, List.map_cons, List.sum_cons, List.length_cons] at ih ⊢
    rw [ih this.2, this.1, Nat.add_comm]

theorem ascii_take (l : Line) (n : Nat) (h : Ascii l) : Ascii (l.take n) :=
  fun c hc => h c (List.mem_of_mem_take hc)

theorem ascii_append (a b : Line) (ha : Ascii a) (hb : Ascii b) : Ascii (a ++ b) :=
  List.forall_mem_append.2 ⟨ha, hb⟩

theorem ascii_spaces (n : Nat) : Ascii (spaces n) := by
  intro c hc
  rw [List.eq_of_mem_replicate hc]; rfl

theorem utf8Len_spaces (n : Nat) : utf8Len (spaces n) = n := by
  rw [utf8Len_ascii _ (ascii_spaces n), spaces_length]

theorem pcolIndent_length (indent : Line) (pcol : Nat) : (pcolIndent indent pcol).length = pcol := by
  unfold pcolIndent
  simp only
  split
  · rw [List.length_append, spaces_length]; omega
  · rw [List.length_take]; omega

theorem pcolIndent_ascii (indent : Line) (pcol : Nat) (h : Ascii indent) : Ascii (pcolIndent indent pcol) := by
  unfold pcolIndent
  simp only
  split
  · exact ascii_append _ _ h (ascii_spaces _)
  · exact ascii_take _ _ h

theorem lineAt_append_left (a b : Lines) (i : Nat) (h : i < a.length) : lineAt (a ++ b) i = lineAt a i := by
  simp [lineAt, List.getD_eq_getElem?_getD, List.getElem?_append_left h]

theorem lineAt_append_right (a b : Lines) (i : Nat) (h : a.length ≤ i) : lineAt (a ++ b) i = lineAt b (i - a.length) := by
  simp [lineAt, List.getD_eq_getElem?_getD, List.getElem?_append_right h]

theorem slice_length (lines : Lines) (a b : Nat) (h : b ≤ lines.length) : (slice lines a b).length = b - a := by
  simp [slice, List.length_take, List.length_drop]; omega

theorem lineAt_slice (lines : Lines) (a b i : Nat) (h : i < b - a) : lineAt (slice lines a b) i = lineAt lines (a + i) := by
  simp [lineAt, slice, List.getD_eq_getElem?_getD, h, List.getElem?_drop]

theorem lineAt_append_cons (pre post : Lines) (x : Line) (i : Nat) (h : pre.length = i) :
    lineAt (pre ++ x :: post) i = x := by
  simp [lineAt, ← h]

theorem lineAt_prefix_slice (pre lines : Lines) (a b i : Nat) (ha : pre.length = a) (hi : a ≤ i) (hib : i < b) :
    lineAt (pre ++ slice lines a b) i = lineAt lines i := by
  rw [lineAt_append_right _ _ _ (ha ▸ hi), lineAt_slice _ _ _ _ (by omega), ha]
  congr 1; omega

theorem putSrc_shape (lines new : Lines) (r : Rect) (hcol : r.col ≤ (lineAt lines r.ln).length) (hnew : new ≠ []) :
    ∃ init last, putSrc lines new r
        = lines.take r.ln ++ init ++ (last ++ (lineAt lines r.endLn).drop r.endCol) :: lines.drop (r.endLn + 1)
      ∧ retEnd new r = (r.ln + init.length, last.length) := by
  match new, hnew with
  | [l], _ => exact ⟨[], (lineAt lines r.ln).take r.col ++ l, by simp [putSrc], by simp [retEnd, hcol]⟩
  | l :: l2 :: rest, _ =>
    exact ⟨((lineAt lines r.ln).take r.col ++ l) :: (l2 :: rest).dropLast, (l2 :: rest).getLast?.getD [],
      by simp [putSrc], by simp [retEnd]⟩

end Pfst.Raw
