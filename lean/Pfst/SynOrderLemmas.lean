import Pfst.SynOrder
/-!
# Pfst.SynOrderLemmas — permutation / sortedness facts about the child orders of `Pfst.SynOrder` (property C14)
-/
namespace Pfst.SynOrder

/-- `a` does not start after `b` -/
def posLe (a b : PNode) : Prop := posGt a b = false
/-- positions non-decreasing along the list -/
def Sorted (l : List PNode) : Prop := l.Pairwise posLe

theorem posLe_iff (a b : PNode) : posLe a b ↔ (a.ln < b.ln ∨ (a.ln = b.ln ∧ a.col ≤ b.col)) := by
  unfold posLe posGt
  simp
  omega

theorem posGt_iff (a b : PNode) : posGt a b = true ↔ (b.ln < a.ln ∨ (a.ln = b.ln ∧ b.col < a.col)) := by
  unfold posGt
  simp

theorem posLe_trans {a b c : PNode} (h1 : posLe a b) (h2 : posLe b c) : posLe a c := by
  rw [posLe_iff] at *
  omega

theorem posLe_refl (a : PNode) : posLe a a := by
  rw [posLe_iff]; omega

theorem posLe_of_posGt {a b : PNode} (h : posGt a b = true) : posLe b a := by
  rw [posGt_iff] at h
  rw [posLe_iff]
  omega

theorem posGt_asymm {a b : PNode} (h : posGt a b = true) : posGt b a = false :=
  posLe_of_posGt h

theorem posLe_total (a b : PNode) : posLe a b ∨ posLe b a := by
  rw [posLe_iff, posLe_iff]; omega

theorem mix_perm (turnK : Bool) (pend : PNode) (as ks : List PNode) :
    (mix turnK pend as ks).Perm (pend :: (as ++ ks)) := by
  fun_induction mix turnK pend as ks with
  | case1 pend as => simp
  | case2 pend as k ks' h ih =>
    exact (List.Perm.cons pend (ih.trans List.perm_middle.symm))
  | case3 pend as k ks' h ih =>
    exact ((List.Perm.cons k ih).trans (List.Perm.swap pend k _)).trans
      (List.Perm.cons pend List.perm_middle.symm)
  | case4 turnK pend ks hT => simp
  | case5 turnK pend ks hT a as' h ih =>
    exact List.Perm.cons pend ih
  | case6 turnK pend ks hT a as' h ih =>
    exact (List.Perm.cons a ih).trans (List.Perm.swap pend a _)

theorem mem_mix {turnK : Bool} {pend : PNode} {as ks : List PNode} {x : PNode} :
    x ∈ mix turnK pend as ks ↔ x = pend ∨ x ∈ as ∨ x ∈ ks := by
  rw [(mix_perm turnK pend as ks).mem_iff]
  simp

/-- the two modes of `mix` are one procedure with the roles of the lists exchanged -/
theorem mix_swap (turnK : Bool) (pend : PNode) (as ks : List PNode) :
    mix turnK pend as ks = mix (!turnK) pend ks as := by
  -- unfolding the right side once lands in the case of the other mode that makes the same comparison
  fun_induction mix turnK pend as ks <;> rw [mix.eq_def (!_)] <;> simp_all

theorem sorted_cons_mix {x q : PNode} {t : Bool} {as ks : List PNode} (hq : posLe x q)
    (ha : ∀ y ∈ as, posLe x y) (hk : ∀ y ∈ ks, posLe x y) (h : Sorted (mix t q as ks)) :
    Sorted (x :: mix t q as ks) := by
  refine List.pairwise_cons.mpr ⟨fun y hy => ?_, h⟩
  rcases mem_mix.1 hy with rfl | hy | hy
  · exact hq
  · exact ha y hy
  · exact hk y hy

theorem mix_sorted_K (pend : PNode) (as ks : List PNode) (h1 : Sorted (pend :: as)) (h2 : Sorted ks) :
    Sorted (mix true pend as ks) := by
  induction hn : as.length + ks.length using Nat.strongRecOn generalizing pend as ks with
  | ind n ih =>
    subst hn
    cases ks with
    | nil => rw [mix.eq_def]; simpa using h1
    | cons k ks =>
      have ⟨hpa, has⟩ := List.pairwise_cons.mp h1
      have ⟨hkk, hks⟩ := List.pairwise_cons.mp h2
      rw [mix.eq_def]
      simp only [if_true]
      split
      · next h =>
        -- `pend` goes out, `k` is pending and the roles swap
        have hpk : posLe pend k := posLe_of_posGt h
        rw [mix_swap]
        exact sorted_cons_mix hpk (fun y hy => posLe_trans hpk (hkk y hy)) hpa
          (ih _ (by simp; omega) k ks as h2 has rfl)
      · next h =>
        have hkp : posLe k pend := by simpa [posLe] using h
        exact sorted_cons_mix hkp (fun y hy => posLe_trans hkp (hpa y hy)) hkk
          (ih _ (by simp) pend as ks h1 hks rfl)

theorem mix_sorted_A (pend : PNode) (as ks : List PNode) (h1 : Sorted (pend :: ks)) (h2 : Sorted as) :
    Sorted (mix false pend as ks) := by
  rw [mix_swap]
  exact mix_sorted_K pend ks as h1 h2

theorem mergeArgsKws_perm (args kws : List PNode) : (mergeArgsKws args kws).Perm (args ++ kws) := by
  unfold mergeArgsKws
  split
  · exact List.Perm.refl _
  · exact List.Perm.refl _
  · split
    · exact List.Perm.refl _
    · exact (mix_perm _ _ _ _).trans List.perm_middle.symm

theorem merge_sorted (args kws : List PNode) (ha : Sorted args) (hk : Sorted kws)
    (hsep : (∀ last, args.getLast? = some last → last.star = false → ∀ a ∈ args, ∀ k ∈ kws, posLe a k)) :
    Sorted (mergeArgsKws args kws) ∧ (mergeArgsKws args kws).Perm (args ++ kws) := by
  refine ⟨?_, mergeArgsKws_perm args kws⟩
  unfold mergeArgsKws
  split
  · next hnone =>
    have : args = [] := by simpa using hnone
    subst this
    simpa using hk
  · simpa using ha
  · next last kw0 kwt hlast =>
    split
    · next hs =>
      have hs' : last.star = false := by simpa using hs
      unfold Sorted
      rw [List.pairwise_append]
      exact ⟨ha, hk, hsep last hlast hs'⟩
    · exact mix_sorted_A kw0 args kwt hk ha

theorem callOrder_perm (func : Nat) (args kws : List PNode) :
    (callOrder func args kws).Perm (func :: (args ++ kws).map PNode.id) := by
  unfold callOrder
  exact List.Perm.cons _ ((mergeArgsKws_perm args kws).map _)

theorem classDefOrder_perm (decos tparams : List Nat) (bases kws : List PNode) (body : List Nat) :
    (classDefOrder decos tparams bases kws body).Perm
      (decos ++ tparams ++ (bases ++ kws).map PNode.id ++ body) := by
  unfold classDefOrder
  exact List.Perm.append_right _ (List.Perm.append_left _ ((mergeArgsKws_perm bases kws).map _))

/-- the shape of every branch of `compareOrder`: the lists interleaved as far as both reach, then what is left of either -/
theorem interleave_append_perm (as' bs' : List Nat) : ∀ as bs : List Nat, as.length = bs.length →
    (interleave as bs ++ (as' ++ bs')).Perm ((as ++ as') ++ (bs ++ bs'))
  | [], [], _ => .refl _
  | a :: as, b :: bs, h =>
    .cons a ((List.Perm.cons b (interleave_append_perm as' bs' as bs (by simpa using h))).trans List.perm_middle.symm)
  | [], _ :: _, h | _ :: _, [], h => by simp at h

theorem interleave_perm (as bs : List Nat) (h : as.length = bs.length) : (interleave as bs).Perm (as ++ bs) := by
  simpa using interleave_append_perm [] [] as bs h

theorem zipKV_map_some : ∀ ks vs : List Nat, zipKV (ks.map some) vs = interleave ks vs
  | [], _ | _ :: _, [] => by simp [zipKV, interleave]
  | k :: ks, v :: vs => by simp [zipKV, interleave, zipKV_map_some ks vs]

theorem dictOrder_perm_noNone (ks vs : List Nat) (h : ks.length = vs.length) :
    (dictOrder (ks.map some) vs).Perm (ks ++ vs) := by
  rw [dictOrder, zipKV_map_some]
  exact interleave_perm ks vs h

theorem compareOrder_perm (left : Nat) (ops comps : List Nat) :
    (compareOrder left ops comps).Perm (left :: (ops ++ comps)) := by
  unfold compareOrder
  simp only
  split
  · next h =>
    simpa using interleave_append_perm [] (comps.drop ops.length) ops (comps.take ops.length) (by simp; omega)
  · split
    · next h => simpa using interleave_perm ops comps (by simpa using h)
    · next h1 h2 =>
      have hne : ¬ ops.length = comps.length := by simpa using h2
      simpa using interleave_append_perm (ops.drop comps.length) [] (ops.take comps.length) comps (by simp; omega)

theorem zipAD_perm : ∀ (as : List Nat) (ds : List (Option Nat)), ds.length = as.length →
    (argumentsOrder.zipAD as ds).Perm (as ++ ds.filterMap id)
  | [], [], _ => .refl _
  | a :: as, none :: ds, h => .cons a (zipAD_perm as ds (by simpa using h))
  | a :: as, some d :: ds, h =>
    .cons a ((List.Perm.cons d (zipAD_perm as ds (by simpa using h))).trans List.perm_middle.symm)
  | [], _ :: _, h | _ :: _, [], h => by simp at h

theorem argumentsOrder_perm_simple (po args defaults : List Nat) (vararg : Option Nat) (kwonly : List Nat)
    (kwDefaults : List (Option Nat)) (kwarg : Option Nat)
    (hd : defaults.length ≤ args.length) (hk : kwDefaults.length = kwonly.length) :
    (argumentsOrder po args defaults vararg kwonly kwDefaults kwarg).Perm
      (po ++ args ++ defaults ++ vararg.toList ++ kwonly ++ kwDefaults.filterMap id ++ kwarg.toList) := by
  unfold argumentsOrder
  simp only
  refine (((List.Perm.append_right vararg.toList (?_ : List.Perm _ (po ++ args ++ defaults))).append
    (?_ : List.Perm _ (kwonly ++ kwDefaults.filterMap id))).append_right kwarg.toList).trans
    (by simp [List.append_assoc])
  · split
    · next he =>
      have : defaults = [] := by simpa using he
      subst this
      simp
    · have h1 := interleave_perm (args.drop (args.length - defaults.length)) defaults
        (by simp [List.length_drop]; omega)
      have h2 := h1.append_left (po ++ args.take (args.length - defaults.length))
      refine h2.trans ?_
      rw [List.append_assoc po, ← List.append_assoc (args.take _), List.take_append_drop,
        ← List.append_assoc]
  · split
    · next he =>
      have : kwDefaults = [] := by simpa using he
      subst this
      simp
    · exact zipAD_perm kwonly kwDefaults hk

/-! ## Non-vacuity -/

/-- `f(a, k=1, *b)` -/
example :
    let args : List PNode := [⟨1, 2, 10, false⟩, ⟨1, 12, 12, true⟩]
    let kws : List PNode := [⟨1, 5, 11, false⟩]
    Sorted args ∧ Sorted kws ∧
    (∀ last, args.getLast? = some last → last.star = false → ∀ a ∈ args, ∀ k ∈ kws, posLe a k) ∧
    (mergeArgsKws args kws).map PNode.id = [10, 11, 12] := by
  intro args kws
  refine ⟨?_, ?_, ?_, ?_⟩
  · delta Sorted posLe; decide +kernel
  · simp [kws, Sorted]
  · intro last h hs
    simp [args] at h
    subst h
    simp at hs
  · decide +kernel

/-- `f(*a, k=1, *b, j=2, *c)` -/
example :
    let args : List PNode := [⟨1, 2, 10, true⟩, ⟨1, 12, 12, true⟩, ⟨2, 3, 14, true⟩]
    let kws : List PNode := [⟨1, 6, 11, false⟩, ⟨2, 0, 13, false⟩]
    Sorted args ∧ Sorted kws ∧
    (∀ last, args.getLast? = some last → last.star = false → ∀ a ∈ args, ∀ k ∈ kws, posLe a k) ∧
    (mergeArgsKws args kws).map PNode.id = [10, 11, 12, 13, 14] ∧
    Sorted (mergeArgsKws args kws) := by
  intro args kws
  have hA : Sorted args := by delta Sorted posLe; decide +kernel
  have hK : Sorted kws := by delta Sorted posLe; decide +kernel
  have hsep : ∀ last, args.getLast? = some last → last.star = false → ∀ a ∈ args, ∀ k ∈ kws, posLe a k := by
    intro last h hs
    simp [args] at h
    subst h
    simp at hs
  refine ⟨hA, hK, hsep, ?_, (merge_sorted args kws hA hK hsep).1⟩
  decide +kernel

end Pfst.SynOrder
