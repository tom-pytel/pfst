import Pfst.TrailSep
/-! Specification of the repaired trailing-separator patterns and proof that the deterministic scan decides it. -/
namespace Pfst.TrailSep

/-- the strings `(?: [)\s] | \\\n | \#[^\n]*\n )*` matches -/
inductive Trivia : List Char → Prop
  | nil : Trivia []
  | skip (c : Char) (h : isSkip c = true) {r : List Char} : Trivia r → Trivia (c :: r)
  | lcont {r : List Char} : Trivia r → Trivia ('\\' :: '\n' :: r)
  | comment (body : List Char) (hb : ∀ x ∈ body, x ≠ '\n') {r : List Char} : Trivia r → Trivia ('#' :: (body ++ '\n' :: r))

/-- `_re_trailing_<sep>.match(s)` succeeds -/
def Matches (sep : Char) (s : List Char) : Prop := ∃ pre rest, Trivia pre ∧ s = pre ++ sep :: rest

theorem scan_comment_body (sep : Char) (body t : List Char) (hb : ∀ x ∈ body, x ≠ '\n') :
    scan sep .comment (body ++ '\n' :: t) = scan sep .unit t := by
  induction body with
  | nil => simp [scan]
  | cons c cs ih =>
    have hc : c ≠ '\n' := hb c (by simp)
    simp only [List.cons_append, scan, hc, if_false]
    exact ih (fun x hx => hb x (by simp [hx]))

theorem scan_of_matches (sep : Char) (hs : isSkip sep = false) (h1 : sep ≠ '\\') (h2 : sep ≠ '#')
    (pre rest : List Char) (h : Trivia pre) : scan sep .unit (pre ++ sep :: rest) = true := by
  induction h with
  | nil => simp [scan]
  | skip c hc _ ih =>
    have : c ≠ sep := by intro e; rw [e, hs] at hc; exact absurd hc (by simp)
    simp [scan, this, hc, ih]
  | lcont _ ih =>
    have e1 : ¬ ('\\' = sep) := fun e => h1 e.symm
    have e2 : isSkip '\\' = false := by decide
    simp [scan, e1, e2, ih]
  | comment body hb _ ih =>
    have e1 : ¬ ('#' = sep) := fun e => h2 e.symm
    have e2 : isSkip '#' = false := by decide
    have e3 : ¬ ('#' = '\\') := by decide
    simp only [List.cons_append, scan, e1, e2, e3, if_false, Bool.false_eq_true]
    rw [List.append_assoc, List.cons_append, scan_comment_body sep body _ hb]
    exact ih

theorem matches_of_scan (sep : Char) : ∀ s : List Char,
    (scan sep .unit s = true → Matches sep s)
    ∧ (scan sep .comment s = true → ∃ body t, (∀ x ∈ body, x ≠ '\n') ∧ s = body ++ '\n' :: t ∧ Matches sep t)
    ∧ (scan sep .bslash s = true → ∃ t, s = '\n' :: t ∧ Matches sep t) := by
  intro s
  induction s with
  | nil => simp [scan]
  | cons c cs ih =>
    obtain ⟨ihU, ihC, ihB⟩ := ih
    refine ⟨fun h => ?_, fun h => ?_, fun h => ?_⟩ <;> rw [scan] at h
    · by_cases hc : c = sep
      · exact ⟨[], cs, .nil, by rw [hc]; rfl⟩
      rw [if_neg hc] at h
      by_cases hk : isSkip c = true
      · obtain ⟨pre, rest, hp, he⟩ := ihU (by rwa [if_pos hk] at h)
        exact ⟨c :: pre, rest, .skip c hk hp, by rw [he]; rfl⟩
      rw [if_neg hk] at h
      by_cases hb : c = '\\'
      · obtain ⟨t, he, pre, rest, hp, he2⟩ := ihB (by rwa [if_pos hb] at h)
        exact ⟨'\\' :: '\n' :: pre, rest, .lcont hp, by rw [hb, he, he2]; rfl⟩
      rw [if_neg hb] at h
      by_cases hh : c = '#'
      · obtain ⟨body, t, hbody, he, pre, rest, hp, he2⟩ := ihC (by rwa [if_pos hh] at h)
        exact ⟨'#' :: (body ++ '\n' :: pre), rest, .comment body hbody hp, by simp [hh, he, he2]⟩
      · rw [if_neg hh] at h; cases h
    · by_cases hc : c = '\n'
      · exact ⟨[], cs, by simp, by rw [hc]; rfl, ihU (by rwa [if_pos hc] at h)⟩
      · obtain ⟨body, t, hbody, he, hm⟩ := ihC (by rwa [if_neg hc] at h)
        exact ⟨c :: body, t, List.forall_mem_cons.mpr ⟨hc, hbody⟩, by rw [he]; rfl, hm⟩
    · by_cases hc : c = '\n'
      · exact ⟨cs, by rw [hc], ihU (by rwa [if_pos hc] at h)⟩
      · rw [if_neg hc] at h; cases h

/-! ### the pattern before the repair accepts the same strings -/

/-- `(?: \\\\ | \#[^\n]* ) \n` or nothing: the optional tail of one round of the old pattern -/
def OptTail (e : List Char) : Prop :=
  e = [] ∨ e = ['\\', '\n'] ∨ ∃ body, (∀ x ∈ body, x ≠ '\n') ∧ e = '#' :: (body ++ ['\n'])

/-- the strings `(?: [)\s]* (?: (?: \\\\ | \#[^\n]* ) \n )? )*` matches (pattern before the repair: a star over a starred class) -/
inductive TriviaOld : List Char → Prop
  | nil : TriviaOld []
  | round (w e : List Char) (hw : ∀ x ∈ w, isSkip x = true) (he : OptTail e) {r : List Char} :
      TriviaOld r → TriviaOld (w ++ e ++ r)

theorem Trivia.append {a b : List Char} (ha : Trivia a) (hb : Trivia b) : Trivia (a ++ b) := by
  induction ha with
  | nil => simpa using hb
  | skip c hc _ ih => exact Trivia.skip c hc ih
  | lcont _ ih => exact Trivia.lcont ih
  | @comment body hbody r _ ih =>
    have : '#' :: (body ++ '\n' :: r) ++ b = '#' :: (body ++ '\n' :: (r ++ b)) := by simp
    rw [this]
    exact Trivia.comment body hbody ih

theorem Trivia.ofSkips (w : List Char) (hw : ∀ x ∈ w, isSkip x = true) : Trivia w := by
  induction w with
  | nil => exact Trivia.nil
  | cons c cs ih => exact Trivia.skip c (hw c (by simp)) (ih (fun x hx => hw x (by simp [hx])))

theorem Trivia.ofOptTail (e : List Char) (he : OptTail e) : Trivia e := by
  rcases he with rfl | rfl | ⟨body, hb, rfl⟩
  · exact Trivia.nil
  · exact Trivia.lcont Trivia.nil
  · exact Trivia.comment body hb Trivia.nil

theorem triviaOld_iff (s : List Char) : TriviaOld s ↔ Trivia s := by
  constructor
  · intro h
    induction h with
    | nil => exact Trivia.nil
    | round w e hw he _ ih => exact ((Trivia.ofSkips w hw).append (Trivia.ofOptTail e he)).append ih
  · intro h
    induction h with
    | nil => exact TriviaOld.nil
    | skip c hc _ ih =>
      have := TriviaOld.round [c] [] (by simpa using hc) (Or.inl rfl) ih
      simpa using this
    | lcont _ ih =>
      have := TriviaOld.round [] ['\\', '\n'] (by simp) (Or.inr (Or.inl rfl)) ih
      simpa using this
    | comment body hb _ ih =>
      have := TriviaOld.round [] ('#' :: (body ++ ['\n'])) (by simp) (Or.inr (Or.inr ⟨body, hb, rfl⟩)) ih
      simpa using this

end Pfst.TrailSep
