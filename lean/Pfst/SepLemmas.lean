import Pfst.Sep
import Pfst.ScanLemmas
import Pfst.TextLemmas
/-!
Lemmas about the separator primitives (`Pfst/Sep.lean`).

The scanning loop shared by `_trail_sep` and `_maybe_ins_sep` (`sepScan`) is characterised declaratively on the windows
of the lines of the bound (`Pfst.Scan.lineWin`): what it skips (`SkipTo`), where it stops (`FragAt`), and what
"the separator follows" means independently of the loop (`Target`).  `_trail_sep` then has two cases (`trailSep_cases`).

What `_maybe_ins_sep` and `_delimit_node` put is text inserted inside one line (`insLine`, `insLines`, with `insEnd` the
end of the bound afterwards): the window of that line is the old one with the text inserted, so a target stays one or
becomes one (`target_after_insert`, `target_space_after`).  `_maybe_ins_sep` has three cases (`maybeInsSep_cases`);
`delimitNode_flat` is the effect of `_delimit_node` on the flat source.
-/
namespace Pfst.Sep
open Pfst.Scan

/-! ### Blanks and closing parentheses at the front of a window -/

def isSkip (c : Char) : Bool := isSpace c || c == ')'

def afterSkip (w : Line) : Line := w.dropWhile isSkip

def skipLen (w : Line) : Nat := (w.takeWhile isSkip).length

def codeRun (w : Line) : Line := (afterSkip w).takeWhile isCode

/-- the window holds nothing but blanks and closing parentheses up to its end, a comment or a backslash -/
def Skippable (w : Line) : Prop := ∀ x, (afterSkip w).head? = some x → x = '#' ∨ x = '\\'

theorem isSkip_iff {c : Char} : isSkip c = true ↔ isSpace c = true ∨ c = ')' := by simp [isSkip]

theorem isSkip_of_space {c : Char} (h : isSpace c = true) : isSkip c = true := isSkip_iff.mpr (Or.inl h)

theorem isSkip_par : isSkip ')' = true := by decide

theorem not_isSkip_of_code {c : Char} (h : isCode c = true) (hp : c ≠ ')') : isSkip c = false := by
  simp [isSkip, isCode_imp_not_isSpace h, hp]

theorem not_isCode_of_skip_ne_par {c : Char} (h : isSkip c = true) (hp : c ≠ ')') : isCode c = false := by
  simp only [isSkip, Bool.or_eq_true, beq_iff_eq] at h
  rcases h with h | h
  · simp [isCode, h]
  · exact absurd h hp

theorem afterSkip_append {a b : Line} (h : ∀ c ∈ a, isSkip c = true) : afterSkip (a ++ b) = afterSkip b :=
  List.dropWhile_append_of_pos h

theorem skipLen_append {a b : Line} (h : ∀ c ∈ a, isSkip c = true) : skipLen (a ++ b) = a.length + skipLen b := by
  unfold skipLen; rw [List.takeWhile_append_of_pos h]; simp

theorem afterSkip_self {w : Line} (h : ∀ x, w.head? = some x → isSkip x = false) : afterSkip w = w ∧ skipLen w = 0 := by
  simpa [afterSkip, skipLen] using (span_unique (a := []) (by simp) h).symm

theorem skip_drop {w : Line} {k : Nat} (hk : k ≤ w.length) (h : ∀ x ∈ w.take k, isSkip x = true) :
    afterSkip w = afterSkip (w.drop k) ∧ skipLen w = k + skipLen (w.drop k) := by
  have h1 := afterSkip_append (b := w.drop k) h
  have h2 := skipLen_append (b := w.drop k) h
  rw [List.take_append_drop] at h1 h2
  rw [List.length_take_of_le hk] at h2
  exact ⟨h1, h2⟩

theorem skipLen_le (w : Line) : skipLen w ≤ w.length :=
  (List.takeWhile_prefix isSkip).length_le

theorem take_skipLen (w : Line) : w.take (skipLen w) = w.takeWhile isSkip :=
  (List.prefix_iff_eq_take.mp (List.takeWhile_prefix isSkip)).symm

theorem drop_skipLen (w : Line) : w.drop (skipLen w) = afterSkip w := by
  have h1 := List.take_append_drop (skipLen w) w
  have h2 := List.takeWhile_append_dropWhile (p := isSkip) (l := w)
  rw [take_skipLen] at h1
  exact List.append_cancel_left (h1.trans h2.symm)

theorem codeRun_nil_of_skippable {w : Line} (h : Skippable w) : codeRun w = [] := by
  unfold codeRun
  cases hw : afterSkip w with
  | nil => rfl
  | cons c t =>
    have := h c (by rw [hw]; rfl)
    rcases this with rfl | rfl <;> simp [List.takeWhile, isCode]

theorem skippable_of_decomp {body rest : Line} (hb : ∀ c ∈ body, isSkip c = true)
    (hr : rest = [] ∨ rest.head? = some '#' ∨ rest.head? = some '\\') : Skippable (body ++ rest) := by
  intro x hx
  rw [afterSkip_append hb] at hx
  cases rest with
  | nil => simp [afterSkip] at hx
  | cons c t =>
    have hc : c = '#' ∨ c = '\\' := by simpa using hr
    have : isSkip c = false := by rcases hc with rfl | rfl <;> decide
    rw [(afterSkip_self (w := c :: t) (by intro y hy; cases hy; exact this)).1] at hx
    cases hx; exact hc

theorem isSkip_of_all_space {sp : Line} (h : sp.all isSpace = true) : ∀ c ∈ sp, isSkip c = true :=
  fun c hc => isSkip_of_space (List.all_eq_true.mp h c hc)

theorem codeRun_of_decomp {w body run rest : Line} (hw : w = body ++ run ++ rest) (hb : ∀ c ∈ body, isSkip c = true)
    (hne : run ≠ []) (hcode : run.all isCode = true) (hhd : run.head? ≠ some ')')
    (hrest : ∀ x, rest.head? = some x → isCode x = false) :
    afterSkip w = run ++ rest ∧ skipLen w = body.length ∧ codeRun w = run := by
  cases run with
  | nil => contradiction
  | cons c t =>
    have hc : isCode c = true := List.all_eq_true.mp hcode c (by simp)
    have hcp : c ≠ ')' := by intro h; apply hhd; simp [h]
    have hns : isSkip c = false := not_isSkip_of_code hc hcp
    have h0 := afterSkip_self (w := c :: t ++ rest) (by intro x hx; simp at hx; subst hx; exact hns)
    have h1 : afterSkip w = c :: t ++ rest := by
      rw [hw, List.append_assoc, afterSkip_append hb]; exact h0.1
    refine ⟨h1, ?_, ?_⟩
    · rw [hw, List.append_assoc, skipLen_append hb, h0.2]; rfl
    · unfold codeRun
      rw [h1]
      exact (span_unique (List.all_eq_true.mp hcode) hrest).1

/-! ### The windows of the lines of a bound -/

/-- the first column of the window of line `i` -/
def wstart (lines : List Line) (ln col i : Nat) : Nat := min (if i = ln then col else 0) (lineAt lines i).length

/-- the unclipped end bound of line `i` -/
def wbound (lines : List Line) (endLn endCol i : Nat) : Nat := if i = endLn then endCol else (lineAt lines i).length

theorem lineWin_eq (lines : List Line) (ln col endLn endCol i : Nat) :
    lineWin lines ln col endLn endCol i = win (lineAt lines i) (wstart lines ln col i) (wbound lines endLn endCol i) := by
  unfold lineWin wstart wbound
  rw [win_pos_min]

theorem wstart_le (lines : List Line) (ln col i : Nat) : wstart lines ln col i ≤ (lineAt lines i).length :=
  Nat.min_le_right ..

theorem lineWin_length (lines : List Line) (ln col endLn endCol i : Nat) :
    (lineWin lines ln col endLn endCol i).length + wstart lines ln col i
      = max (wstart lines ln col i) (min (wbound lines endLn endCol i) (lineAt lines i).length) := by
  rw [lineWin_eq, win_length, Nat.min_eq_left (wstart_le lines ln col i)]
  omega

theorem lineWin_le_line (lines : List Line) (ln col endLn endCol i : Nat) :
    wstart lines ln col i + (lineWin lines ln col endLn endCol i).length ≤ (lineAt lines i).length := by
  have := lineWin_length lines ln col endLn endCol i
  have := wstart_le lines ln col i
  omega

theorem lineWin_le_bound (lines : List Line) (ln col endLn endCol : Nat) :
    wstart lines ln col endLn + (lineWin lines ln col endLn endCol endLn).length
      ≤ max (wstart lines ln col endLn) endCol := by
  have := lineWin_length lines ln col endLn endCol endLn
  rw [wbound, if_pos rfl] at this
  omega

theorem lineWin_other {lines : List Line} {ln col ln' col' endLn endCol i : Nat} (h1 : i ≠ ln) (h2 : i ≠ ln') :
    lineWin lines ln col endLn endCol i = lineWin lines ln' col' endLn endCol i := by
  unfold lineWin; simp [h1, h2]

theorem wstart_self {lines : List Line} {l c : Nat} (h : c ≤ (lineAt lines l).length) : wstart lines l c l = c := by
  unfold wstart; simp; omega

theorem wstart_other {lines : List Line} {ln col i : Nat} (h : i ≠ ln) : wstart lines ln col i = 0 := by
  unfold wstart; simp [h]

theorem lineWin_advance {lines : List Line} {ln col endLn endCol i k : Nat}
    (hk : k ≤ (lineWin lines ln col endLn endCol i).length) :
    lineWin lines i (wstart lines ln col i + k) endLn endCol i = (lineWin lines ln col endLn endCol i).drop k ∧
    wstart lines i (wstart lines ln col i + k) i = wstart lines ln col i + k ∧
    wstart lines ln col i + k ≤ (lineAt lines i).length := by
  have hle : wstart lines ln col i + k ≤ (lineAt lines i).length := by
    have := lineWin_le_line lines ln col endLn endCol i
    omega
  refine ⟨?_, wstart_self hle, hle⟩
  rw [lineWin_eq, lineWin_eq, wstart_self hle, win_drop hle]

def StartLeEnd (ln col endLn endCol : Nat) : Prop := ln < endLn ∨ (ln = endLn ∧ col ≤ endCol)

theorem startLeEnd_le {ln col endLn endCol : Nat} (h : StartLeEnd ln col endLn endCol) : ln ≤ endLn := by
  rcases h with h | h <;> omega

theorem wstart_le_wbound (lines : List Line) {ln col endLn endCol : Nat} (hse : StartLeEnd ln col endLn endCol)
    (i : Nat) : wstart lines ln col i ≤ wbound lines endLn endCol i := by
  unfold wstart wbound
  by_cases he : i = endLn
  · rw [if_pos he]
    refine Nat.le_trans (Nat.min_le_left ..) ?_
    unfold StartLeEnd at hse
    split <;> omega
  · rw [if_neg he]
    exact Nat.min_le_right ..

/-- From the start `(ln, col)` up to `(l, c)` the bound holds only blanks, closing parentheses, comments and
continuation lines: every earlier line window is `Skippable` and the window of line `l` starts with `c - start`
blanks / closing parentheses. -/
structure SkipTo (lines : List Line) (ln col endLn endCol l c : Nat) : Prop where
  lo : ln ≤ l
  hi : l ≤ endLn
  before : ∀ i, ln ≤ i → i < l → Skippable (lineWin lines ln col endLn endCol i)
  here : ∃ k, c = wstart lines ln col l + k ∧ k ≤ (lineWin lines ln col endLn endCol l).length ∧
    ∀ x ∈ (lineWin lines ln col endLn endCol l).take k, isSkip x = true

/-- Seen from the start `(ln, col)`, the first fragment that is not made of closing parentheses only is `src` at
`(cln, ccol)` (leading closing parentheses of the fragment stripped by the caller): every earlier line window is
`Skippable`, the window of line `cln` is `blanks ++ src ++ rest` with `src` a non-empty maximal run of code characters
that does not start with `)`. -/
structure FragAt (lines : List Line) (ln col endLn endCol cln ccol : Nat) (src : Line) : Prop where
  lo : ln ≤ cln
  hi : cln ≤ endLn
  before : ∀ i, ln ≤ i → i < cln → Skippable (lineWin lines ln col endLn endCol i)
  here : ∃ sp rest, lineWin lines ln col endLn endCol cln = sp ++ src ++ rest ∧ sp.all isSpace = true ∧
    (∀ x, rest.head? = some x → isCode x = false) ∧ ccol = wstart lines ln col cln + sp.length
  ne : src ≠ []
  code : src.all isCode = true
  hd : src.head? ≠ some ')'

/-- **The separator follows the span**: inside the bound `(ln, col) .. (endLn, endCol)`, `(pl, pc)` is the position of
the first character that is not a blank, not a closing parenthesis, not inside a comment and not on the rest of a line
after a backslash; it is a code character and the maximal run of code characters starting there begins with `sep`. -/
structure Target (lines : List Line) (ln col endLn endCol : Nat) (sep : Line) (pl pc : Nat) : Prop where
  lo : ln ≤ pl
  hi : pl ≤ endLn
  before : ∀ i, ln ≤ i → i < pl → Skippable (lineWin lines ln col endLn endCol i)
  run : codeRun (lineWin lines ln col endLn endCol pl) ≠ []
  pos : pc = wstart lines ln col pl + skipLen (lineWin lines ln col endLn endCol pl)
  pre : sep <+: codeRun (lineWin lines ln col endLn endCol pl)

theorem SkipTo.refl {lines : List Line} {ln col endLn endCol : Nat} (hle : ln ≤ endLn)
    (hcol : col ≤ (lineAt lines ln).length) : SkipTo lines ln col endLn endCol ln col :=
  ⟨Nat.le_refl _, hle, fun i h1 h2 => absurd h1 (by omega), 0, (wstart_self hcol).symm, Nat.zero_le _, by simp⟩

theorem SkipTo.col_le {lines : List Line} {ln col endLn endCol l c : Nat} (h : SkipTo lines ln col endLn endCol l c) :
    c ≤ (lineAt lines l).length := by
  obtain ⟨k, rfl, hk, _⟩ := h.here
  exact (lineWin_advance hk).2.2

theorem SkipTo.col_le_end {lines : List Line} {ln col endLn endCol l c : Nat}
    (h : SkipTo lines ln col endLn endCol l c) (hse : StartLeEnd ln col endLn endCol) (he : l = endLn) :
    c ≤ endCol := by
  obtain ⟨k, hc, hk, _⟩ := h.here
  subst he
  have hl := lineWin_le_bound lines ln col l endCol
  have hws := wstart_le_wbound lines hse l
  rw [wbound, if_pos rfl] at hws
  omega

theorem FragAt.bounds {lines : List Line} {ln col endLn endCol cln ccol : Nat} {src : Line}
    (h : FragAt lines ln col endLn endCol cln ccol src) :
    wstart lines ln col cln ≤ ccol ∧ ccol + src.length ≤ (lineAt lines cln).length ∧ cln < lines.length ∧
    ∀ j, wstart lines ln col cln ≤ j → j < ccol → ∃ ch, (lineAt lines cln)[j]? = some ch ∧ isSpace ch = true := by
  obtain ⟨sp, rest, hw, hsp, _, hcc⟩ := h.here
  have hl := lineWin_le_line lines ln col endLn endCol cln
  rw [hw, List.length_append, List.length_append] at hl
  have hws := wstart_le lines ln col cln
  have hsl : 0 < src.length := List.length_pos_iff.mpr h.ne
  have hb : ccol + src.length ≤ (lineAt lines cln).length := by omega
  refine ⟨by omega, hb, ?_, ?_⟩
  · rcases Nat.lt_or_ge cln lines.length with hlt | hge
    · exact hlt
    · have : lineAt lines cln = [] := by
        unfold lineAt; simp [List.getD_eq_getElem?_getD, List.getElem?_eq_none hge]
      rw [this] at hb; simp only [List.length_nil] at hb; omega
  · intro j h1 h2
    rw [lineWin_eq] at hw
    have hw' : win (lineAt lines cln) (wstart lines ln col cln) (wbound lines endLn endCol cln)
        = [] ++ sp ++ (src ++ rest) := by simp [hw]
    have hmin : min (wstart lines ln col cln) (lineAt lines cln).length = wstart lines ln col cln := by omega
    obtain ⟨_, x, hx, hxm⟩ := win_index hw' (i := j) (by simp [hmin]; exact h1) (by simp [hmin]; omega)
    exact ⟨x, hx, List.all_eq_true.mp hsp x hxm⟩

theorem FragAt.bound_end {lines : List Line} {ln col endLn endCol cln ccol : Nat} {src : Line}
    (h : FragAt lines ln col endLn endCol cln ccol src) (he : cln = endLn) : ccol + src.length ≤ endCol := by
  obtain ⟨sp, rest, hw, _, _, hcc⟩ := h.here
  subst he
  have hl := lineWin_le_bound lines ln col cln endCol
  rw [hw, List.length_append, List.length_append] at hl
  have hsl : 0 < src.length := List.length_pos_iff.mpr h.ne
  omega

theorem Target.skipTo {lines : List Line} {ln col endLn endCol pl pc : Nat} {sep : Line}
    (t : Target lines ln col endLn endCol sep pl pc) : SkipTo lines ln col endLn endCol pl pc :=
  ⟨t.lo, t.hi, t.before, _, t.pos, skipLen_le _, by rw [take_skipLen]; exact fun x hx => mem_takeWhile_true hx⟩

/-- `Skippable` and `codeRun` see a window only through `afterSkip`, and the blanks and closing parentheses stepped
over are counted by `c`. -/
theorem skipTo_tail {lines : List Line} {ln col endLn endCol l c : Nat} (h : SkipTo lines ln col endLn endCol l c)
    {i : Nat} (hi : l ≤ i) :
    (Skippable (lineWin lines ln col endLn endCol i) ↔ Skippable (lineWin lines l c endLn endCol i)) ∧
    codeRun (lineWin lines ln col endLn endCol i) = codeRun (lineWin lines l c endLn endCol i) ∧
    wstart lines ln col i + skipLen (lineWin lines ln col endLn endCol i)
      = wstart lines l c i + skipLen (lineWin lines l c endLn endCol i) := by
  have key : afterSkip (lineWin lines ln col endLn endCol i) = afterSkip (lineWin lines l c endLn endCol i) ∧
      wstart lines ln col i + skipLen (lineWin lines ln col endLn endCol i)
        = wstart lines l c i + skipLen (lineWin lines l c endLn endCol i) := by
    by_cases hil : i = l
    · subst hil
      obtain ⟨k, rfl, hk, hsk⟩ := h.here
      obtain ⟨a1, a2, _⟩ := lineWin_advance hk
      obtain ⟨e1, e2⟩ := skip_drop hk hsk
      rw [a1, a2, e1, e2]
      exact ⟨rfl, by omega⟩
    · have h1 : i ≠ ln := by have := h.lo; omega
      rw [lineWin_other (ln' := l) (col' := c) h1 hil, wstart_other h1, wstart_other hil]
      exact ⟨rfl, rfl⟩
  unfold Skippable codeRun
  rw [key.1]
  exact ⟨Iff.rfl, rfl, key.2⟩

theorem Target.le_of_before {lines : List Line} {ln col endLn endCol pl pc l : Nat} {sep : Line}
    (t : Target lines ln col endLn endCol sep pl pc)
    (hb : ∀ i, ln ≤ i → i < l → Skippable (lineWin lines ln col endLn endCol i)) : l ≤ pl :=
  Nat.le_of_not_lt fun hlt => t.run (codeRun_nil_of_skippable (hb pl t.lo hlt))

theorem target_skipTo {lines : List Line} {ln col endLn endCol l c : Nat} (h : SkipTo lines ln col endLn endCol l c)
    (sep : Line) (pl pc : Nat) :
    Target lines ln col endLn endCol sep pl pc ↔ Target lines l c endLn endCol sep pl pc := by
  constructor
  · intro t
    have hpl : l ≤ pl := t.le_of_before h.before
    obtain ⟨_, hr, hp⟩ := skipTo_tail h hpl
    exact ⟨hpl, t.hi, fun i hi1 hi2 => (skipTo_tail h hi1).1.mp (t.before i (Nat.le_trans h.lo hi1) hi2),
      hr ▸ t.run, hp ▸ t.pos, hr ▸ t.pre⟩
  · intro t
    obtain ⟨_, hr, hp⟩ := skipTo_tail h t.lo
    refine ⟨Nat.le_trans h.lo t.lo, t.hi, fun i hi1 hi2 => ?_, hr ▸ t.run, hp ▸ t.pos, hr ▸ t.pre⟩
    rcases Nat.lt_or_ge i l with hlt | hge
    · exact h.before i hi1 hlt
    · exact (skipTo_tail h hge).1.mpr (t.before i hge hi2)

theorem SkipTo.trans {lines : List Line} {ln col endLn endCol l c l2 c2 : Nat}
    (h1 : SkipTo lines ln col endLn endCol l c) (h2 : SkipTo lines l c endLn endCol l2 c2) :
    SkipTo lines ln col endLn endCol l2 c2 := by
  refine ⟨Nat.le_trans h1.lo h2.lo, h2.hi, fun i hi1 hi2 => ?_, ?_⟩
  · rcases Nat.lt_or_ge i l with hlt | hge
    · exact h1.before i hi1 hlt
    · exact (skipTo_tail h1 hge).1.mpr (h2.before i hge hi2)
  · obtain ⟨k2, hc2, hk2, hsk2⟩ := h2.here
    by_cases hl : l2 = l
    · -- the two runs of blanks and closing parentheses on line `l` follow each other
      subst hl
      obtain ⟨k1, rfl, hk1, hsk1⟩ := h1.here
      obtain ⟨a1, a2, _⟩ := lineWin_advance hk1
      rw [a1] at hk2 hsk2
      rw [a2] at hc2
      refine ⟨k1 + k2, by omega, by rw [List.length_drop] at hk2; omega, fun x hx => ?_⟩
      rw [List.take_add] at hx
      exact (List.mem_append.mp hx).elim (hsk1 x) (hsk2 x)
    · have hn : l2 ≠ ln := by have := h1.lo; have := h2.lo; omega
      rw [← lineWin_other (ln := ln) (col := col) hn hl] at hk2 hsk2
      rw [wstart_other hl] at hc2
      exact ⟨k2, by rw [wstart_other hn]; exact hc2, hk2, hsk2⟩

theorem target_fragAt {lines : List Line} {ln col endLn endCol cln ccol : Nat} {src : Line}
    (h : FragAt lines ln col endLn endCol cln ccol src) (sep : Line) (pl pc : Nat) :
    Target lines ln col endLn endCol sep pl pc ↔ pl = cln ∧ pc = ccol ∧ sep <+: src := by
  obtain ⟨sp, rest, hw, hsp, hrest, hcc⟩ := h.here
  obtain ⟨_, f2, f3⟩ := codeRun_of_decomp hw (isSkip_of_all_space hsp) h.ne h.code h.hd hrest
  have mk : ∀ {s : Line}, s <+: src → Target lines ln col endLn endCol s cln ccol := fun hp =>
    ⟨h.lo, h.hi, h.before, f3 ▸ h.ne, by rw [f2, hcc], f3 ▸ hp⟩
  constructor
  · intro t
    obtain rfl : pl = cln :=
      Nat.le_antisymm ((mk (List.nil_prefix (l := src))).le_of_before t.before) (t.le_of_before h.before)
    exact ⟨rfl, by rw [t.pos, f2, hcc], f3 ▸ t.pre⟩
  · rintro ⟨rfl, rfl, hp⟩
    exact mk hp

theorem Target.unique {lines : List Line} {ln col endLn endCol : Nat} {sep : Line} {pl pc pl' pc' : Nat}
    (t : Target lines ln col endLn endCol sep pl pc) (t' : Target lines ln col endLn endCol sep pl' pc') :
    pl = pl' ∧ pc = pc' := by
  obtain rfl : pl = pl' := Nat.le_antisymm (t'.le_of_before t.before) (t.le_of_before t'.before)
  exact ⟨rfl, by rw [t.pos, t'.pos]⟩

/-! ### The scanning loop `sepScan` -/

theorem nextFrag_some_skippable {lines : List Line} {ln col endLn endCol : Nat} {fr : Frag}
    (h : nextFrag lines ln col endLn endCol false .f = some fr) (hle : ln ≤ endLn) :
    ln ≤ fr.ln ∧ fr.ln ≤ endLn ∧
    (∀ i, ln ≤ i → i < fr.ln → Skippable (lineWin lines ln col endLn endCol i)) ∧
    ∃ sp rest, lineWin lines ln col endLn endCol fr.ln = sp ++ fr.src ++ rest ∧ sp.all isSpace = true ∧
      fr.src ≠ [] ∧ fr.src.all isCode = true ∧ (∀ x, rest.head? = some x → isCode x = false) ∧
      fr.col = wstart lines ln col fr.ln + sp.length := by
  obtain ⟨h1, h2, ⟨sp, rest, hw, hsp, hne, hall, hrest, hcol⟩, h4⟩ := nextFrag_spec_decomp h hle
  refine ⟨h1, h2, ?_, sp, rest, hw, hsp, hne, hall, hrest, hcol⟩
  intro i hi1 hi2
  obtain ⟨sp', rest', hw', hsp', hr'⟩ := h4 i hi1 hi2
  rw [hw']
  refine skippable_of_decomp (isSkip_of_all_space hsp') (hr'.imp_right (Or.imp ?_ ?_)) <;> rintro ⟨t, rfl⟩ <;> rfl

theorem nextFrag_none_skippable {lines : List Line} {ln col endLn endCol : Nat}
    (h : nextFrag lines ln col endLn endCol false .f = none) (hle : ln ≤ endLn) :
    ∀ i, ln ≤ i → i ≤ endLn → Skippable (lineWin lines ln col endLn endCol i) := by
  intro i hi1 hi2
  have hm := nextFrag_none h hle i hi1 hi2
  unfold lineMatch at hm
  rcases reMatch_none_iff.mp hm with hc | ⟨sp, rest, hw, hsp, hnt⟩
  · have : lineWin lines ln col endLn endCol i = [] := by
      apply List.eq_nil_of_length_eq_zero
      unfold lineWin; rw [win_length]; omega
    rw [this]; intro x hx; simp [afterSkip] at hx
  · unfold lineWin; rw [hw]
    refine skippable_of_decomp (isSkip_of_all_space hsp) (Or.imp_right (Or.imp ?_ ?_) hnt) <;> rintro ⟨t, rfl, _⟩ <;> rfl

theorem lstripPar_decomp (s : Line) (hcode : s.all isCode = true) :
    ∃ ps, s = ps ++ lstripPar s ∧ (∀ c ∈ ps, isSkip c = true) ∧
      (lstripPar s).all isCode = true ∧ (lstripPar s).head? ≠ some ')' ∧ (s.head? = some ')' → ps ≠ []) := by
  refine ⟨s.takeWhile (· == ')'), (List.takeWhile_append_dropWhile).symm, ?_, ?_, ?_, ?_⟩
  · intro c hc
    have := mem_takeWhile_true hc
    simp only [beq_iff_eq] at this
    subst this; exact isSkip_par
  · apply List.all_eq_true.mpr
    intro c hc
    exact List.all_eq_true.mp hcode c ((List.dropWhile_sublist _).mem hc)
  · intro hh
    have := head?_dropWhile_false (p := (· == ')')) hh
    simp at this
  · intro hh
    cases s with
    | nil => simp at hh
    | cons c t =>
      simp at hh; subst hh
      simp [List.takeWhile]

theorem step_skipTo {lines : List Line} {ln col endLn endCol : Nat} {fr : Frag}
    (h : nextFrag lines ln col endLn endCol false .f = some fr) (hle : ln ≤ endLn)
    {ps src' : Line} (hs : fr.src = ps ++ src') (hps : ∀ c ∈ ps, isSkip c = true) :
    SkipTo lines ln col endLn endCol fr.ln (fr.col + ps.length) ∧ wstart lines ln col fr.ln ≤ fr.col ∧
    (src' ≠ [] → src'.all isCode = true → src'.head? ≠ some ')' →
      FragAt lines fr.ln (fr.col + ps.length) endLn endCol fr.ln (fr.col + ps.length) src') := by
  obtain ⟨h1, h2, h3, sp, rest, hw, hsp, hne, hall, hrest, hcol⟩ := nextFrag_some_skippable h hle
  have hw2 : lineWin lines ln col endLn endCol fr.ln = (sp ++ ps) ++ (src' ++ rest) := by
    rw [hw, hs]; simp
  have hk : wstart lines ln col fr.ln + (sp ++ ps).length = fr.col + ps.length := by
    rw [hcol, List.length_append]; omega
  have hlen : (sp ++ ps).length ≤ (lineWin lines ln col endLn endCol fr.ln).length := by rw [hw2]; simp
  obtain ⟨a1, a2, _⟩ := lineWin_advance hlen
  rw [hk] at a1 a2
  rw [hw2, List.drop_left] at a1
  refine ⟨⟨h1, h2, h3, (sp ++ ps).length, hk.symm, hlen, ?_⟩, by omega,
    fun n c d => ?_⟩
  · intro x hx
    rw [hw2, List.take_left' rfl] at hx
    exact (List.mem_append.mp hx).elim (isSkip_of_all_space hsp x) (hps x)
  · exact ⟨Nat.le_refl _, h2, fun i a b => absurd a (by omega), ⟨[], rest, by simpa using a1, rfl, hrest, by simp [a2]⟩,
      n, c, d⟩

def leftToScan (lines : List Line) (endLn ln col : Nat) : Nat := spanChars lines ln (endLn + 1 - ln) - col

theorem spanChars_split (lines : List Line) (i a b : Nat) :
    spanChars lines i (a + b) = spanChars lines i a + spanChars lines (i + a) b := by
  induction a generalizing i with
  | zero => simp [spanChars]
  | succ a ih =>
    have : a + 1 + b = (a + b) + 1 := by omega
    rw [this]
    simp only [spanChars]
    rw [ih (i + 1)]
    have : i + 1 + a = i + (a + 1) := by omega
    rw [this]; omega

theorem spanChars_pos (lines : List Line) (i n : Nat) (h : 0 < n) :
    (lineAt lines i).length + 1 ≤ spanChars lines i n := by
  cases n with
  | zero => omega
  | succ n => simp only [spanChars]; omega

theorem leftToScan_decrease {lines : List Line} {endLn ln col l' c' : Nat} (h1 : ln ≤ l') (h2 : l' ≤ endLn)
    (hcol : col ≤ (lineAt lines ln).length) (hc : c' ≤ (lineAt lines l').length)
    (hp : wstart lines ln col l' < c') : leftToScan lines endLn l' c' < leftToScan lines endLn ln col := by
  unfold leftToScan
  have hpos := spanChars_pos lines l' (endLn + 1 - l') (Nat.sub_pos_of_lt (Nat.lt_succ_of_le h2))
  rcases Nat.eq_or_lt_of_le h1 with rfl | hlt
  · rw [wstart_self hcol] at hp
    exact Nat.sub_lt_sub_left (by omega) hp
  · -- the lines from `ln` up to `l'` alone hold more than `col` characters
    have := spanChars_pos lines ln (l' - ln) (Nat.sub_pos_of_lt hlt)
    rw [← Nat.sub_add_sub_cancel (Nat.le_succ_of_le h2) h1, Nat.add_comm (endLn + 1 - l'), spanChars_split,
      Nat.add_sub_cancel' h1]
    exact Nat.lt_of_le_of_lt (Nat.sub_le _ _) (by omega)

/-- What the scanning loop started at `(ln, col)` promises about its result `r`: the search start `(r.ln, r.col)` is
reached over blanks, closing parentheses, comments and continuation lines only; and seen from there either nothing but
such text follows inside the bound, or the fragment reported is the first one that is not just closing parentheses. -/
def ScanSpec (lines : List Line) (ln col endLn endCol : Nat) (r : ScanOut) : Prop :=
  SkipTo lines ln col endLn endCol r.ln r.col ∧
  match r.frag with
  | none => ∀ i, r.ln ≤ i → i ≤ endLn → Skippable (lineWin lines r.ln r.col endLn endCol i)
  | some (cln, ccol, src) => FragAt lines r.ln r.col endLn endCol cln ccol src

theorem ScanSpec.target {lines : List Line} {ln col endLn endCol : Nat} {r : ScanOut}
    (s : ScanSpec lines ln col endLn endCol r) (sep : Line) (pl pc : Nat) :
    Target lines ln col endLn endCol sep pl pc ↔ ∃ src, r.frag = some (pl, pc, src) ∧ sep <+: src := by
  obtain ⟨rl, rc, frag⟩ := r
  obtain ⟨s1, s2⟩ := s
  rw [target_skipTo s1]
  cases frag with
  | none =>
    refine ⟨fun t => absurd (codeRun_nil_of_skippable (s2 pl t.lo t.hi)) t.run, ?_⟩
    rintro ⟨_, h, _⟩
    cases h
  | some q =>
    obtain ⟨cln, ccol, src⟩ := q
    rw [target_fragAt s2]
    constructor
    · rintro ⟨rfl, rfl, hp⟩
      exact ⟨src, rfl, hp⟩
    · rintro ⟨_, h, hp⟩
      cases h
      exact ⟨rfl, rfl, hp⟩

theorem sepScan_spec_fuel (lines : List Line) (endLn endCol : Nat) :
    ∀ (fuel ln col : Nat), ln ≤ endLn → col ≤ (lineAt lines ln).length → leftToScan lines endLn ln col < fuel →
      ScanSpec lines ln col endLn endCol (sepScan lines endLn endCol fuel ln col) := by
  intro fuel
  induction fuel with
  | zero => intro ln col _ _ h; omega
  | succ fuel ih =>
    intro ln col hle hcol hmu
    unfold sepScan
    cases hnf : nextFrag lines ln col endLn endCol false .f with
    | none => exact ⟨SkipTo.refl hle hcol, nextFrag_none_skippable hnf hle⟩
    | some fr =>
      simp only
      obtain ⟨f1, f2, f3, sp, rest0, hw, hsp, hne, hall, hrest0, hfc⟩ := nextFrag_some_skippable hnf hle
      by_cases hh : fr.src.head? = some ')'
      · obtain ⟨ps, hs, hps, hcode', hhd', hpsne⟩ := lstripPar_decomp fr.src hall
        have hcc : fr.col + fr.src.length - (lstripPar fr.src).length = fr.col + ps.length := by
          have := congrArg List.length hs
          simp only [List.length_append] at this
          omega
        obtain ⟨hskip, hwle, hfa⟩ := step_skipTo hnf hle hs hps
        have hh' : (fr.src.head? == some ')') = true := by simp [hh]
        simp only [hh', ↓reduceIte, hcc]
        by_cases hemp : (lstripPar fr.src).isEmpty = true
        · -- only closing parentheses: the loop goes on behind them
          simp only [hemp, ↓reduceIte]
          have hpos : 0 < ps.length := List.length_pos_iff.mpr (hpsne hh)
          have hdec := leftToScan_decrease (endLn := endLn) f1 f2 hcol hskip.col_le (by omega)
          obtain ⟨s1, s2⟩ := ih fr.ln (fr.col + ps.length) f2 hskip.col_le (by omega)
          exact ⟨hskip.trans s1, s2⟩
        · simp only [hemp, Bool.false_eq_true, ↓reduceIte]
          have hne' : lstripPar fr.src ≠ [] := by
            intro h0; apply hemp; simp [h0]
          exact ⟨hskip, hfa hne' hcode' hhd'⟩
      · have hh' : (fr.src.head? == some ')') = false := by simp [hh]
        simp only [hh', Bool.false_eq_true, ↓reduceIte]
        exact ⟨SkipTo.refl hle hcol, f1, f2, f3, ⟨sp, rest0, hw, hsp, hrest0, hfc⟩, hne, hall, hh⟩

theorem sepScan_spec (lines : List Line) {ln col endLn : Nat} (endCol : Nat) (hle : ln ≤ endLn)
    (hcol : col ≤ (lineAt lines ln).length) :
    ScanSpec lines ln col endLn endCol (sepScan lines endLn endCol (sepFuel lines ln endLn) ln col) :=
  sepScan_spec_fuel lines endLn endCol _ ln col hle hcol (by unfold leftToScan sepFuel; omega)

/-! ### `_trail_sep` -/

theorem trailSepTail_pos (lines : List Line) (endLn endCol : Nat) (sep : Line) (del : Del) (ln col cln ccol : Nat)
    (src : Line) :
    (trailSepTail lines endLn endCol sep del ln col cln ccol src).pos
      = if sep.isPrefixOf src then some (cln, ccol) else none := by
  unfold trailSepTail
  by_cases h : sep.isPrefixOf src = true
  · simp only [h, Bool.not_true, Bool.false_eq_true, ↓reduceIte]
    split <;> rfl
  · simp [h]

theorem trailCount_spec (p : Char → Bool) (w : Line) :
    trailCount p w ≤ w.length ∧
    ∀ j, w.length ≤ j + trailCount p w → j < w.length → ∃ ch, w[j]? = some ch ∧ p ch = true := by
  have hsplit : w = (w.reverse.dropWhile p).reverse ++ (w.reverse.takeWhile p).reverse := by
    rw [← List.reverse_append, List.takeWhile_append_dropWhile, List.reverse_reverse]
  have hlen : w.length = (w.reverse.dropWhile p).reverse.length + (w.reverse.takeWhile p).reverse.length := by
    rw [← List.length_append, ← hsplit]
  have htc : trailCount p w = (w.reverse.takeWhile p).reverse.length := by rw [List.length_reverse]; rfl
  refine ⟨by omega, fun j h1 h2 => ?_⟩
  obtain ⟨x, hx, hm⟩ := getElem?_mid (C := []) (j := j) (by omega) (hlen ▸ h2)
  rw [List.append_nil, ← hsplit] at hx
  exact ⟨x, hx, mem_takeWhile_true (List.mem_reverse.mp hm)⟩

/-- `\s*$` on the window `l[pos:endpos]` -/
theorem emptySpaceStart_spec {l : Line} {pos endpos : Nat} (hpe : pos ≤ endpos) (he : endpos ≤ l.length) :
    pos ≤ emptySpaceStart l pos endpos ∧ emptySpaceStart l pos endpos ≤ endpos ∧
    ∀ j, emptySpaceStart l pos endpos ≤ j → j < endpos → ∃ ch, l[j]? = some ch ∧ isSpace ch = true := by
  obtain ⟨m, rfl⟩ := Nat.exists_eq_add_of_le hpe
  obtain ⟨t1, t2⟩ := trailCount_spec isSpace ((l.take (pos + m)).drop pos)
  have hwl : ((l.take (pos + m)).drop pos).length = m := by
    rw [List.length_drop, List.length_take, Nat.min_eq_left he, Nat.add_sub_cancel_left]
  have e : emptySpaceStart l pos (pos + m) = pos + m - trailCount isSpace ((l.take (pos + m)).drop pos) := by
    unfold emptySpaceStart
    simp only [Nat.min_eq_left he, Nat.min_eq_left (Nat.le_trans hpe he), Nat.not_lt.mpr hpe, ↓reduceIte]
  rw [e]
  rw [hwl] at t1 t2
  generalize trailCount isSpace ((l.take (pos + m)).drop pos) = n at t1 t2 ⊢
  refine ⟨by omega, Nat.sub_le _ _, fun j h1 h2 => ?_⟩
  obtain ⟨d, rfl⟩ := Nat.exists_eq_add_of_le (show pos ≤ j by omega)
  obtain ⟨ch, hch, hs⟩ := t2 d (by omega) (by omega)
  rw [List.getElem?_drop, List.getElem?_take_of_lt h2] at hch
  exact ⟨ch, hch, hs⟩

theorem delFrom_spec {lines : List Line} {ln col endLn endCol cln ccol : Nat} {src : Line}
    (hfa : FragAt lines ln col endLn endCol cln ccol src) (hrc : col ≤ (lineAt lines ln).length) :
    delFrom lines ln col cln ccol ≤ ccol ∧
    ∀ j, delFrom lines ln col cln ccol ≤ j → j < ccol → ∃ ch, (lineAt lines cln)[j]? = some ch ∧ isSpace ch = true := by
  obtain ⟨b1, b2, _, b4⟩ := hfa.bounds
  unfold delFrom
  by_cases hsame : cln = ln
  · subst hsame
    rw [wstart_self hrc] at b1 b4
    simp only [bne_self_eq_false, Bool.false_eq_true, ↓reduceIte]
    split
    · exact ⟨Nat.le_refl _, fun j h1 h2 => absurd h1 (by omega)⟩
    · exact ⟨b1, b4⟩
  · have hne : (cln != ln) = true := by simp [hsame]
    have hgt : cln > ln := by have := hfa.lo; omega
    obtain ⟨_, e2, e3⟩ := emptySpaceStart_spec (l := lineAt lines cln) (Nat.zero_le ccol) (by omega)
    simp only [hne, ↓reduceIte, hgt]
    split
    · exact ⟨Nat.le_refl _, fun j h1 h2 => absurd h1 (by omega)⟩
    · exact ⟨e2, e3⟩

/-- **The two things `_trail_sep` can do.**  No fragment that starts with the separator follows and it answers `None`; or
the scan, having reached `(rl, rc)`, reports the fragment `src` at `(cln, ccol)` that starts with the separator: that
position is answered and, if `del_` says so, one `_put_src(None, …)` on that line removes the separator together with
the whitespace from `delFrom` on. -/
theorem trailSep_cases (lines : List Line) (ln col endLn endCol : Nat) (sep : Line) (del : Del)
    (hle : ln ≤ endLn) (hcol : col ≤ (lineAt lines ln).length) :
    trailSep lines ln col endLn endCol sep del = ⟨none, none, lines⟩ ∨
    ∃ rl rc cln ccol src, rc ≤ (lineAt lines rl).length ∧ FragAt lines rl rc endLn endCol cln ccol src ∧ sep <+: src ∧
      trailSep lines ln col endLn endCol sep del
        = if doDelete lines endLn endCol del cln (ccol + sep.length) then
            ⟨some (cln, ccol), some (cln, delFrom lines rl rc cln ccol, ccol + sep.length),
             Pfst.Text.putSrc lines [] cln (delFrom lines rl rc cln ccol) cln (ccol + sep.length)⟩
          else ⟨some (cln, ccol), none, lines⟩ := by
  obtain ⟨s1, s2⟩ := sepScan_spec lines endCol hle hcol
  have hrc := s1.col_le
  unfold trailSep
  generalize sepScan lines endLn endCol (sepFuel lines ln endLn) ln col = r at *
  obtain ⟨rl, rc, frag⟩ := r
  cases frag with
  | none => exact Or.inl rfl
  | some q =>
    obtain ⟨cln, ccol, src⟩ := q
    simp only [trailSepTail]
    by_cases hp : sep.isPrefixOf src = true
    · exact Or.inr ⟨rl, rc, cln, ccol, src, hrc, s2, List.isPrefixOf_iff_prefix.mp hp, by simp [hp]⟩
    · exact Or.inl (by simp [hp])

/-! ### Text inserted inside a line -/

def insLine (l : Line) (c : Nat) (s : Line) : Line := l.take c ++ s ++ l.drop c

theorem insLine_length (l : Line) (c : Nat) (s : Line) : (insLine l c s).length = l.length + s.length := by
  unfold insLine; simp; omega

theorem insLine_mid (P W Q s : Line) {k : Nat} (hk : k ≤ W.length) :
    insLine (P ++ W ++ Q) (P.length + k) s = P ++ (W.take k ++ s ++ W.drop k) ++ Q := by
  unfold insLine
  rw [List.append_assoc P, List.take_length_add_append, List.drop_length_add_append,
    List.take_append_of_le_length hk, List.drop_append_of_le_length hk]
  simp only [List.append_assoc]

theorem win_insLine {l : Line} {p ep k : Nat} (s : Line) (hp : p ≤ l.length) (hpep : p ≤ ep)
    (hk : k ≤ (win l p ep).length) :
    win (insLine l (p + k) s) p (ep + s.length) = (win l p ep).take k ++ s ++ (win l p ep).drop k := by
  have hd := win_decomp l p ep (by omega)
  have hwl := win_length l p ep
  have hPl : (l.take p).length = p := List.length_take_of_le hp
  rw [Nat.min_eq_left hp] at hd hwl
  -- the line is `l[:p] ++ window ++ rest`, and the text goes into the window
  have hins := insLine_mid (l.take p) (win l p ep) (l.drop (min ep l.length)) s hk
  rw [← hd, hPl] at hins
  have hw := drop_take_of_eq_append hins
  rw [hPl] at hw
  have hm : p ≤ min ep l.length := Nat.le_min.mpr ⟨hpep, hp⟩
  have he : min (ep + s.length) (l.length + s.length)
      = p + ((win l p ep).take k ++ s ++ (win l p ep).drop k).length := by
    rw [Nat.add_min_add_right, List.length_append, List.length_append, List.length_take_of_le hk, List.length_drop]
    omega
  rw [win, insLine_length, he, Nat.min_eq_left (Nat.le_add_right_of_le hp)]
  exact hw

def insLines (lines : List Line) (l c : Nat) (s : Line) : List Line := lines.set l (insLine (lineAt lines l) c s)

theorem putSrc_ins (lines : List Line) (l c : Nat) (s : Line) :
    Pfst.Text.putSrc lines [s] l c l c = insLines lines l c s := by
  simp [Pfst.Text.putSrc, insLines, insLine, Pfst.Text.lineAt, lineAt]

theorem length_insLines (lines : List Line) (l c : Nat) (s : Line) : (insLines lines l c s).length = lines.length :=
  List.length_set

/-- the end bound after the insertion (what re-reading the bound from the offset tree gives) -/
def insEnd (l : Nat) (s : Line) (endLn endCol : Nat) : Nat := if l = endLn then endCol + s.length else endCol

theorem lineAt_insLines {lines : List Line} {l : Nat} (hl : l < lines.length) (c : Nat) (s : Line) (i : Nat) :
    lineAt (insLines lines l c s) i = if i = l then insLine (lineAt lines l) c s else lineAt lines i := by
  unfold insLines lineAt
  by_cases h : i = l
  · subst h; simp [List.getD_eq_getElem?_getD, hl]
  · simp [List.getD_eq_getElem?_getD, List.getElem?_set_ne (Ne.symm h), h]

theorem le_lineAt_insLines {lines : List Line} {l : Nat} (hl : l < lines.length) (c : Nat) (s : Line) {i col : Nat}
    (h : col ≤ (lineAt lines i).length) : col ≤ (lineAt (insLines lines l c s) i).length := by
  rw [lineAt_insLines hl]
  split
  · next e => subst e; rw [insLine_length]; omega
  · exact h

theorem lineWin_insLines_other {lines : List Line} {l : Nat} (hl : l < lines.length) (c : Nat) (s : Line)
    (ln col endLn endCol i : Nat) (hi : i ≠ l) :
    lineWin (insLines lines l c s) ln col endLn (insEnd l s endLn endCol) i = lineWin lines ln col endLn endCol i ∧
    wstart (insLines lines l c s) ln col i = wstart lines ln col i := by
  unfold lineWin wstart insEnd
  rw [lineAt_insLines hl, if_neg hi]
  by_cases he : i = endLn
  · have : l ≠ endLn := by omega
    simp [he, this]
  · simp [he]

theorem lineWin_insLines_self {lines : List Line} {l : Nat} (hl : l < lines.length) (s : Line)
    {ln col endLn endCol k : Nat} (hcol : col ≤ (lineAt lines ln).length) (hse : StartLeEnd ln col endLn endCol)
    (hk : k ≤ (lineWin lines ln col endLn endCol l).length) :
    lineWin (insLines lines l (wstart lines ln col l + k) s) ln col endLn (insEnd l s endLn endCol) l
      = (lineWin lines ln col endLn endCol l).take k ++ s ++ (lineWin lines ln col endLn endCol l).drop k ∧
    wstart (insLines lines l (wstart lines ln col l + k) s) ln col l = wstart lines ln col l := by
  have hw : wstart (insLines lines l (wstart lines ln col l + k) s) ln col l = wstart lines ln col l := by
    unfold wstart
    rw [lineAt_insLines hl, if_pos rfl, insLine_length]
    by_cases h : l = ln
    · subst h
      simp only [↓reduceIte]
      omega
    · simp [h]
  refine ⟨?_, hw⟩
  rw [lineWin_eq, hw, lineAt_insLines hl, if_pos rfl]
  have hb : wbound (insLines lines l (wstart lines ln col l + k) s) endLn (insEnd l s endLn endCol) l
      = wbound lines endLn endCol l + s.length := by
    unfold wbound insEnd
    rw [lineAt_insLines hl, if_pos rfl, insLine_length]
    by_cases h : l = endLn <;> simp [h]
  rw [hb, lineWin_eq] at *
  exact win_insLine s (wstart_le lines ln col l) (wstart_le_wbound lines hse l) hk

theorem target_at_inserted {lines : List Line} {l c endLn endCol : Nat} {sep pre tail : Line}
    (hw : lineWin lines l c endLn endCol l = pre ++ sep ++ tail) (hws : wstart lines l c l = c) (hle : l ≤ endLn)
    (hpre : ∀ x ∈ pre, isSkip x = true) (sne : sep ≠ []) (scode : sep.all isCode = true)
    (shd : sep.head? ≠ some ')') :
    Target lines l c endLn endCol sep l (c + pre.length) := by
  have hsplit : sep ++ tail = sep ++ tail.takeWhile isCode ++ tail.dropWhile isCode := by
    rw [List.append_assoc, List.takeWhile_append_dropWhile]
  have hw' : lineWin lines l c endLn endCol l = pre ++ (sep ++ tail.takeWhile isCode) ++ tail.dropWhile isCode := by
    rw [hw, List.append_assoc, hsplit]; simp
  have hrun : (sep ++ tail.takeWhile isCode).all isCode = true := by
    apply List.all_eq_true.mpr
    intro x hx
    rcases List.mem_append.mp hx with hx | hx
    · exact List.all_eq_true.mp scode x hx
    · exact mem_takeWhile_true hx
  have hhd : (sep ++ tail.takeWhile isCode).head? ≠ some ')' := by
    cases sep with
    | nil => contradiction
    | cons a t => simpa using shd
  obtain ⟨_, f2, f3⟩ := codeRun_of_decomp hw' hpre (by simp [sne]) hrun hhd (fun x hx => head?_dropWhile_false hx)
  exact ⟨Nat.le_refl _, hle, fun i a b => absurd a (by omega), by rw [f3]; simp [sne], by rw [f2, hws],
    by rw [f3]; exact List.prefix_append _ _⟩

/-- Text inserted `j` characters behind a point the scan reached: everything stepped over is still stepped over, and
seen from that point the window is the old one with the text inserted at `j`. -/
theorem ins_after_skipTo {lines : List Line} {ln col endLn endCol l c : Nat}
    (h : SkipTo lines ln col endLn endCol l c) (hl : l < lines.length) (hcol : col ≤ (lineAt lines ln).length)
    (hse : StartLeEnd ln col endLn endCol) (s : Line) {j : Nat} (hj : j ≤ (lineWin lines l c endLn endCol l).length) :
    SkipTo (insLines lines l (c + j) s) ln col endLn (insEnd l s endLn endCol) l c ∧
    lineWin (insLines lines l (c + j) s) l c endLn (insEnd l s endLn endCol) l
      = (lineWin lines l c endLn endCol l).take j ++ s ++ (lineWin lines l c endLn endCol l).drop j ∧
    wstart (insLines lines l (c + j) s) l c l = c := by
  obtain ⟨k, hc, hk, hsk⟩ := h.here
  subst hc
  generalize hW : lineWin lines ln col endLn endCol l = W at hk hsk
  have hlen : (W.take k).length = k := List.length_take_of_le hk
  obtain ⟨a1, _, _⟩ := lineWin_advance (hW ▸ hk)
  rw [hW] at a1
  rw [a1, List.length_drop] at hj
  -- with `c` at `k` in the window `W` seen from the start: insert at `k + j` there (`w1`), then step over the first `k`
  -- characters again (`b1`)
  obtain ⟨w1, w2⟩ := lineWin_insLines_self hl s hcol hse (k := k + j) (by rw [hW]; omega)
  rw [hW, List.take_add, ← List.drop_drop, List.append_assoc, List.append_assoc, ← Nat.add_assoc] at w1
  rw [← Nat.add_assoc] at w2
  have hk' : k ≤ (lineWin (insLines lines l (wstart lines ln col l + k + j) s) ln col endLn (insEnd l s endLn endCol)
      l).length := by rw [w1, List.length_append, hlen]; omega
  obtain ⟨b1, b2, _⟩ := lineWin_advance hk'
  rw [w2] at b1 b2
  rw [w1, List.drop_left' hlen] at b1
  refine ⟨⟨h.lo, h.hi, ?_, k, by rw [w2], hk', ?_⟩, by rw [b1, a1, List.append_assoc], b2⟩
  · intro i hi1 hi2
    rw [(lineWin_insLines_other hl _ s ln col endLn endCol i (by omega)).1]
    exact h.before i hi1 hi2
  · rw [w1, List.take_left' hlen]
    exact hsk

theorem target_after_insert {lines : List Line} {ln col endLn endCol l c : Nat}
    (h : SkipTo lines ln col endLn endCol l c) (hl : l < lines.length) (hcol : col ≤ (lineAt lines ln).length)
    (hse : StartLeEnd ln col endLn endCol) {sep pre post : Line}
    (hpre : ∀ x ∈ pre, isSkip x = true) (sne : sep ≠ []) (scode : sep.all isCode = true)
    (shd : sep.head? ≠ some ')') :
    Target (insLines lines l c (pre ++ sep ++ post)) ln col endLn (insEnd l (pre ++ sep ++ post) endLn endCol) sep
      l (c + pre.length) := by
  obtain ⟨sk, hw, hws⟩ := ins_after_skipTo h hl hcol hse (pre ++ sep ++ post) (Nat.zero_le _)
  rw [Nat.add_zero] at sk hw hws
  rw [target_skipTo sk]
  exact target_at_inserted (tail := post ++ lineWin lines l c endLn endCol l) (by rw [hw]; simp) hws h.hi hpre sne
    scode shd

theorem target_space_after {lines : List Line} {ln col endLn endCol pl pc : Nat} {sep : Line}
    (t : Target lines ln col endLn endCol sep pl pc) (sne : sep ≠ []) (scode : sep.all isCode = true)
    (shd : sep.head? ≠ some ')') (hl : pl < lines.length)
    (hcol : col ≤ (lineAt lines ln).length) (hse : StartLeEnd ln col endLn endCol) :
    Target (insLines lines pl (pc + sep.length) [' ']) ln col endLn (insEnd pl [' '] endLn endCol) sep pl pc := by
  -- seen from the target itself the window starts with its code run, hence with `sep`
  have t' := (target_skipTo t.skipTo sep pl pc).mp t
  have h0 : skipLen (lineWin lines pl pc endLn endCol pl) = 0 := by
    have := t'.pos
    rw [wstart_self t.skipTo.col_le] at this
    omega
  obtain ⟨tail, htail⟩ : sep <+: lineWin lines pl pc endLn endCol pl := by
    have := t'.pre
    rw [codeRun, ← drop_skipLen, h0] at this
    exact this.trans (List.takeWhile_prefix isCode)
  obtain ⟨sk, hw, hws⟩ := ins_after_skipTo t.skipTo hl hcol hse [' '] (j := sep.length) (by rw [← htail]; simp)
  rw [target_skipTo sk]
  have := target_at_inserted (pre := []) (tail := ' ' :: tail) (by rw [hw, ← htail]; simp) hws t.hi (by simp) sne
    scode shd
  simpa using this

theorem insLine_get_in (l : Line) (c : Nat) (s : Line) (hc : c ≤ l.length) (j : Nat) (hj : j < s.length) :
    (insLine l c s)[c + j]? = s[j]? := by
  unfold insLine
  have h1 : (l.take c).length = c := by simp; omega
  rw [List.append_assoc, List.getElem?_append_right (by omega), h1]
  have : c + j - c = j := by omega
  rw [this, List.getElem?_append_left hj]

theorem insLine_get_after (l : Line) (c : Nat) (s : Line) (hc : c ≤ l.length) :
    (insLine l c s)[c + s.length]? = l[c]? := by
  unfold insLine
  have h1 : (l.take c ++ s).length = c + s.length := by simp; omega
  rw [List.getElem?_append_right (by omega), h1]
  simp

/-! ### `_maybe_ins_sep` -/

/-- the text `_maybe_ins_sep` puts when the separator is missing: `sep` itself, with a blank in front unless it is a
comma, and a blank behind if `post` -/
def newSepText (sep : Line) (post : Bool) : Line :=
  (if sep != [','] then [' '] else []) ++ sep ++ (if post then [' '] else [])

/-- `space and ((ln == end_ln and col == end_col) or not _re_one_space_or_end.match(lines[ln], col))` -/
def wantSpace (lines : List Line) (space : Bool) (endLn endCol l c : Nat) : Bool :=
  space && ((l == endLn && c == endCol) || !oneSpaceOrEnd (lineAt lines l) c)

theorem insNew_eq (lines : List Line) (endLn endCol : Nat) (sep : Line) (space : Bool) (l c : Nat) :
    insNew lines endLn endCol sep space l c
      = ⟨some (l, c, newSepText sep (wantSpace lines space endLn endCol l c)),
         insLines lines l c (newSepText sep (wantSpace lines space endLn endCol l c))⟩ := by
  unfold insNew newSepText wantSpace
  simp only [putSrc_ins]
  by_cases h1 : (sep != [',']) = true <;>
    by_cases h2 : (space && (l == endLn && c == endCol || !oneSpaceOrEnd (lineAt lines l) c)) = true <;>
    simp [h1, h2]

theorem insTail_eq (lines : List Line) (endLn endCol : Nat) (sep : Line) (space : Bool) (ln col cln ccol : Nat)
    (src : Line) :
    insTail lines endLn endCol sep space ln col cln ccol src
      = if sep.isPrefixOf src then
          if wantSpace lines space endLn endCol cln (ccol + sep.length) then
            ⟨some (cln, ccol + sep.length, [' ']), insLines lines cln (ccol + sep.length) [' ']⟩
          else ⟨none, lines⟩
        else insNew lines endLn endCol sep space ln col := by
  unfold insTail wantSpace
  simp only [putSrc_ins]

/-- **The three things `_maybe_ins_sep` can do.**  (A) the separator follows and nothing is put; (B) the separator
follows and one blank is put right behind it; (C) no separator follows: the separator text is put at the point the scan
reached (behind the closing parentheses that follow the span). -/
theorem maybeInsSep_cases (lines : List Line) (ln col : Nat) (space : Bool) (endLn endCol : Nat) (sep : Line)
    (hle : ln ≤ endLn) (hcol : col ≤ (lineAt lines ln).length) :
    (∃ pl pc, Target lines ln col endLn endCol sep pl pc ∧
      wantSpace lines space endLn endCol pl (pc + sep.length) = false ∧
      maybeInsSep lines ln col space endLn endCol sep = ⟨none, lines⟩) ∨
    (∃ pl pc, Target lines ln col endLn endCol sep pl pc ∧
      wantSpace lines space endLn endCol pl (pc + sep.length) = true ∧
      pl < lines.length ∧ pc + sep.length ≤ (lineAt lines pl).length ∧ (pl = endLn → pc + sep.length ≤ endCol) ∧
      maybeInsSep lines ln col space endLn endCol sep
        = ⟨some (pl, pc + sep.length, [' ']), insLines lines pl (pc + sep.length) [' ']⟩) ∨
    ((∀ pl pc, ¬ Target lines ln col endLn endCol sep pl pc) ∧
      ∃ l c, SkipTo lines ln col endLn endCol l c ∧
        maybeInsSep lines ln col space endLn endCol sep
          = ⟨some (l, c, newSepText sep (wantSpace lines space endLn endCol l c)),
             insLines lines l c (newSepText sep (wantSpace lines space endLn endCol l c))⟩) := by
  have s := sepScan_spec lines endCol hle hcol
  have htgt := s.target sep
  unfold maybeInsSep
  generalize sepScan lines endLn endCol (sepFuel lines ln endLn) ln col = r at s htgt ⊢
  obtain ⟨rl, rc, frag⟩ := r
  obtain ⟨s1, s2⟩ := s
  cases frag with
  | none =>
    refine Or.inr (Or.inr ⟨fun pl pc t => ?_, rl, rc, s1, insNew_eq ..⟩)
    obtain ⟨_, h, _⟩ := (htgt pl pc).mp t
    cases h
  | some q =>
    obtain ⟨cln, ccol, src⟩ := q
    simp only [insTail_eq]
    by_cases hp : sep.isPrefixOf src = true
    · have hp' : sep <+: src := List.isPrefixOf_iff_prefix.mp hp
      have ht : Target lines ln col endLn endCol sep cln ccol := (htgt cln ccol).mpr ⟨src, rfl, hp'⟩
      cases hws : wantSpace lines space endLn endCol cln (ccol + sep.length) with
      | false =>
        simp only [hp, Bool.false_eq_true, ↓reduceIte]
        exact Or.inl ⟨cln, ccol, ht, hws, trivial⟩
      | true =>
        simp only [hp, ↓reduceIte]
        obtain ⟨_, b2, b3, _⟩ := s2.bounds
        have hsl : sep.length ≤ src.length := hp'.length_le
        exact Or.inr (Or.inl ⟨cln, ccol, ht, hws, b3, by omega, fun he => by have := s2.bound_end he; omega, rfl⟩)
    · simp only [hp, Bool.false_eq_true, ↓reduceIte]
      refine Or.inr (Or.inr ⟨fun pl pc t => ?_, rl, rc, s1, insNew_eq ..⟩)
      obtain ⟨_, h, hpre⟩ := (htgt pl pc).mp t
      cases h
      exact hp (List.isPrefixOf_iff_prefix.mpr hpre)

theorem maybeInsSep_settled {lines : List Line} {ln col : Nat} {space : Bool} {endLn endCol : Nat} {sep : Line}
    {pl pc : Nat} (hle : ln ≤ endLn) (hcol : col ≤ (lineAt lines ln).length)
    (t : Target lines ln col endLn endCol sep pl pc)
    (hw : wantSpace lines space endLn endCol pl (pc + sep.length) = false) :
    maybeInsSep lines ln col space endLn endCol sep = ⟨none, lines⟩ := by
  rcases maybeInsSep_cases lines ln col space endLn endCol sep hle hcol with
    ⟨pl', pc', _, _, h⟩ | ⟨pl', pc', t', hw', _⟩ | ⟨hno, _⟩
  · exact h
  · obtain ⟨rfl, rfl⟩ := t.unique t'
    rw [hw] at hw'; simp at hw'
  · exact absurd t (hno pl pc)

/-- the end column of the bound after `_maybe_ins_sep` put something (what re-reading the bound from the offset tree
gives: text put on the last line of the bound moves its end) -/
def endAfter (put : Option (Nat × Nat × Line)) (endLn endCol : Nat) : Nat :=
  match put with
  | none => endCol
  | some (l, _, s) => insEnd l s endLn endCol

theorem wantSpace_after_new {lines : List Line} {l c endLn endCol : Nat} {space post : Bool} (a : Line)
    (hl : l < lines.length) (hc : c ≤ (lineAt lines l).length) (hce : l = endLn → c ≤ endCol)
    (hpost : wantSpace lines space endLn endCol l c = post) :
    wantSpace (insLines lines l c (a ++ (if post then [' '] else []))) space endLn
      (insEnd l (a ++ (if post then [' '] else [])) endLn endCol) l (c + a.length) = false := by
  unfold wantSpace at hpost ⊢
  rw [lineAt_insLines hl, if_pos rfl, oneSpaceOrEnd]
  cases post with
  | true =>
    -- a blank follows, and the end of the bound lies behind it
    rw [insLine_get_in _ c _ hc a.length (by simp)]
    have hne : (l == endLn && c + a.length == insEnd l (a ++ [' ']) endLn endCol) = false := by
      unfold insEnd
      by_cases he : l = endLn
      · have := hce he
        simp [he]; omega
      · simp [he]
    simp [hne, (by decide : isSpace ' ' = true)]
  | false =>
    -- the same character follows as before, at the same distance from the end of the bound
    have he : (l == endLn && c + a.length == insEnd l a endLn endCol) = (l == endLn && c == endCol) := by
      unfold insEnd
      by_cases he : l = endLn
      · rw [if_pos he, Bool.eq_iff_iff]; simp
      · rw [beq_eq_false_iff_ne.mpr he]; rfl
    rw [if_neg (by simp), List.append_nil, insLine_get_after _ c a hc, ← oneSpaceOrEnd, he]
    exact hpost

theorem newSepText_eq (sep : Line) (post : Bool) :
    newSepText sep post = ((if sep != [','] then [' '] else []) ++ sep) ++ (if post then [' '] else []) := rfl

/-! ### `_delimit_node` -/

theorem insLines_flat (lines : List Line) (l c : Nat) (s : Line) (hl : l < lines.length)
    (hc : c ≤ (lineAt lines l).length) :
    Pfst.Text.flat (insLines lines l c s)
      = (Pfst.Text.flat lines).take (Pfst.Text.off lines l c) ++ s ++ (Pfst.Text.flat lines).drop (Pfst.Text.off lines l c) := by
  have hv : Pfst.Text.ValidSpan lines l c l c := ⟨Nat.le_refl _, hl, hc, hc, Or.inr ⟨rfl, Nat.le_refl _⟩⟩
  rw [← putSrc_ins, Pfst.Text.putSrc_flat lines [s] l c l c hv (by simp)]
  simp [Pfst.Text.flat, Pfst.Text.flatTail]

/-- **`_delimit_node` on a node that is not the root** (`_fix_Tuple` on a naked tuple that needs parentheses): the flat
source gains exactly the opening delimiter at the start of the node and the closing one at its end; the text before,
between and after is untouched. -/
theorem delimitNode_flat (lines : List Line) (l c eL eC : Nat) (lc : Option (Nat × Nat)) (ld rd : Char)
    (hend : eL < lines.length) (hord : Pfst.Text.le2 l c eL eC) (hc : c ≤ (lineAt lines l).length)
    (hec : eC ≤ (lineAt lines eL).length) :
    Pfst.Text.flat (delimitNode lines ⟨l, c, eL, eC⟩ false lc ld rd)
      = (Pfst.Text.flat lines).take (Pfst.Text.off lines l c) ++ [ld] ++ Pfst.Text.getFlat lines l c eL eC ++ [rd]
        ++ (Pfst.Text.flat lines).drop (Pfst.Text.off lines eL eC) := by
  have hl : l < lines.length := by have := Pfst.Text.le2_line hord; omega
  have hun : delimitNode lines ⟨l, c, eL, eC⟩ false lc ld rd = insLines (insLines lines eL eC [rd]) l c [ld] := by
    unfold delimitNode
    simp only [Bool.false_eq_true, ↓reduceIte, Bool.not_false, putSrc_ins]
  rw [hun]
  have hv : Pfst.Text.ValidSpan lines eL eC eL eC := ⟨Nat.le_refl _, hend, hec, hec, Or.inr ⟨rfl, Nat.le_refl _⟩⟩
  have hoff : Pfst.Text.off (insLines lines eL eC [rd]) l c = Pfst.Text.off lines l c := by
    rw [← putSrc_ins]
    exact Pfst.Text.off_putSrc_before lines [[rd]] eL eC eL eC hv l c hord
  rw [insLines_flat _ l c [ld] (by rw [length_insLines]; exact hl) (le_lineAt_insLines hend eC [rd] hc), hoff,
    insLines_flat lines eL eC [rd] hend hec]
  have hke : Pfst.Text.off lines l c ≤ Pfst.Text.off lines eL eC := Pfst.Text.off_mono lines l c eL eC hord hec
  have hel : Pfst.Text.off lines eL eC ≤ (Pfst.Text.flat lines).length := Pfst.Text.off_le_length lines eL eC hend
  unfold Pfst.Text.getFlat
  generalize Pfst.Text.flat lines = F at *
  generalize Pfst.Text.off lines l c = k at *
  generalize Pfst.Text.off lines eL eC = e at *
  have hk : k ≤ (F.take e).length := by simp; omega
  rw [List.append_assoc (F.take e), List.take_append_of_le_length hk, List.drop_append_of_le_length hk,
    List.take_take, Nat.min_eq_left hke, List.drop_take]
  simp

end Pfst.Sep
