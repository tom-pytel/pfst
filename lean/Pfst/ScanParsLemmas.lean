import Pfst.ScanLemmas

/-!
Lemmas about `parsModel` (`FST.pars()`), `nextDelims` and `prevDelims`: "parenthesis queries report exactly the
balanced grouping parentheses that belong to the node".

* A. the counting rule of `parsModel` for arbitrary lines in terms of the two delimiter lists.
* B. on one line `next_delims` = the character-level scan `scanClose`; its value on `pre ++ closeRun g s ++ post`.
* C. on one line (prefix without `#` and backslash) `prev_delims` with its `state` cache = the character-level scan
  `scanOpenK` of the reversed prefix.
* D. `parsModel` on `pre ++ openRun g s ++ node ++ closeRun g s ++ post`.
All of B, C, D are single-line statements (bounds `(0, 0)` and `(0, line length)`).
-/

namespace Pfst.Scan

/-! ## A. the counting rule of `parsModel` -/

theorem pairAt_nextDelims_zero (lines : List Line) (a b c d : Nat) (ch : Char) :
    pairAt (nextDelims lines a b c d ch) 0 = (a, b) := by
  simp [nextDelims, pairAt]

theorem pairAt_prevDelims_zero (lines : List Line) (a b c d : Nat) (ch : Char) :
    pairAt (prevDelims lines a b c d ch) 0 = (c, d) := by
  simp [prevDelims, pairAt]

/-- the body of `parsModel` with the two delimiter lists abstracted -/
def parsCore (a : ParsIn) (rpars lpars : List (Nat × Nat)) : Loc × Int :=
  if !a.parenthesizable && a.shared != .n then (a.loc, 0)
  else
    let lr := rpars.length
    if lr == 1 then
      if a.shared != .t && a.soloGenexp then (⟨a.loc.ln, a.loc.col + 1, a.loc.endLn, a.loc.endCol - 1⟩, -1)
      else (a.loc, 0)
    else
      let ll := lpars.length
      if ll == 1 then (a.loc, 0)
      else
        let ll' := if decide (ll ≤ lr) && a.shared != .n && a.soloShared then ll - 1 else ll
        let n := if ll' != lr then min ll' lr - 1 else ll' - 1
        (⟨(pairAt lpars n).1, (pairAt lpars n).2, (pairAt rpars n).1, (pairAt rpars n).2⟩, (n : Int))

theorem parsCore_eq (a : ParsIn) (rp lp : List (Nat × Nat))
    (hr0 : pairAt rp 0 = (a.loc.endLn, a.loc.endCol)) (hl0 : pairAt lp 0 = (a.loc.ln, a.loc.col))
    (hp : a.parenthesizable = true) (hg : a.shared = .t ∨ a.soloGenexp = false) :
    let ll' := if lp.length ≤ rp.length ∧ (a.shared != .n && a.soloShared) = true then lp.length - 1 else lp.length
    let n := min ll' rp.length - 1
    parsCore a rp lp =
      (if n = 0 then a.loc else ⟨(pairAt lp n).1, (pairAt lp n).2, (pairAt rp n).1, (pairAt rp n).2⟩, (n : Int)) := by
  intro ll' n
  have hg' : (a.shared != Shared.t && a.soloGenexp) = false := by
    rcases hg with h | h <;> simp [h]
  have hle : ll' ≤ lp.length := by
    dsimp only [ll']; split <;> omega
  have hll : (if decide (lp.length ≤ rp.length) && a.shared != .n && a.soloShared then lp.length - 1 else lp.length)
      = ll' := by
    simp only [ll', Bool.and_assoc, Bool.and_eq_true, decide_eq_true_eq]
  have hn : n = min ll' rp.length - 1 := rfl
  clear_value n ll'
  simp only [parsCore, hp, hg', hll, Bool.not_true, Bool.false_and, Bool.false_eq_true, if_false, beq_iff_eq]
  -- the two branches of the code agree: when `ll' = lr` the minimum is `ll'`
  have e : (if (ll' != rp.length) = true then min ll' rp.length - 1 else ll' - 1) = n := by
    rw [hn]
    split
    · rfl
    · rename_i h
      rw [show ll' = rp.length by simpa using h, Nat.min_self]
  rw [e]
  by_cases h0 : n = 0
  · -- pair number 0 is the node's own location
    rw [h0, hl0, hr0]
    simp
  · rw [if_neg (by omega), if_neg (by omega), if_neg h0]

theorem parsModel_eq_core (lines : List Line) (a : ParsIn) :
    parsModel lines a =
      parsCore a (nextDelims lines a.loc.endLn a.loc.endCol a.nextBound.1 a.nextBound.2)
        (prevDelims lines a.prevBound.1 a.prevBound.2 a.loc.ln a.loc.col) := rfl

/-- **A.**  For a parenthesizable node (not the `-1` solo-genexp case, not the shared-solo-argument case) the number
of pairs is `min (#opening found) (#closing found)` (both lists start with the start position, hence the `- 1`), and
the location is that of the `n`-th opening / closing parenthesis, or the node's own location when `n = 0`. -/
theorem pars_min (lines : List Line) (a : ParsIn)
    (hp : a.parenthesizable = true)
    (hg : a.shared = .t ∨ a.soloGenexp = false)
    (hs : a.shared = .n ∨ a.soloShared = false) :
    let rp := nextDelims lines a.loc.endLn a.loc.endCol a.nextBound.1 a.nextBound.2
    let lp := prevDelims lines a.prevBound.1 a.prevBound.2 a.loc.ln a.loc.col
    let n := min lp.length rp.length - 1
    parsModel lines a =
      (if n = 0 then a.loc
       else ⟨(pairAt lp n).1, (pairAt lp n).2, (pairAt rp n).1, (pairAt rp n).2⟩, (n : Int)) := by
  intro rp lp n
  rw [parsModel_eq_core]
  have hs' : (a.shared != .n && a.soloShared) = false := by rcases hs with h | h <;> simp [h]
  have h := parsCore_eq a rp lp (pairAt_nextDelims_zero ..) (pairAt_prevDelims_zero ..) hp hg
  simp only [hs', Bool.false_eq_true, and_false, if_false] at h
  exact h

/-- **A (soloShared variant).**  When the node is the sole argument of a call / sole class base / sole MatchClass
pattern (and `shared` is not `None`), the innermost-to-outermost list of opening parentheses contains, as its LAST
candidate, the opening parenthesis of the call itself whenever there are not more opening than closing parentheses;
that one is not counted: the left count is reduced by one when `lp.length ≤ rp.length`. -/
theorem pars_min_soloShared (lines : List Line) (a : ParsIn)
    (hp : a.parenthesizable = true)
    (hg : a.shared = .t ∨ a.soloGenexp = false)
    (hs : a.shared ≠ .n) (hss : a.soloShared = true) :
    let rp := nextDelims lines a.loc.endLn a.loc.endCol a.nextBound.1 a.nextBound.2
    let lp := prevDelims lines a.prevBound.1 a.prevBound.2 a.loc.ln a.loc.col
    let ll' := if lp.length ≤ rp.length then lp.length - 1 else lp.length
    let n := min ll' rp.length - 1
    parsModel lines a =
      (if n = 0 then a.loc
       else ⟨(pairAt lp n).1, (pairAt lp n).2, (pairAt rp n).1, (pairAt rp n).2⟩, (n : Int)) := by
  intro rp lp ll' n
  rw [parsModel_eq_core]
  have hs' : (a.shared != .n && a.soloShared) = true := by simp [hs, hss]
  have h := parsCore_eq a rp lp (pairAt_nextDelims_zero ..) (pairAt_prevDelims_zero ..) hp hg
  simp only [hs', and_true] at h
  exact h

/-- the `-1` answer: an unparenthesized solo call-argument generator expression asked with `shared` ≠ `True` and no
closing parenthesis found after it (the caller guarantees the bound excludes the call's own parenthesis in that case) -/
theorem pars_soloGenexp (lines : List Line) (a : ParsIn)
    (hp : a.parenthesizable = true ∨ a.shared = .n)
    (hs : a.shared ≠ .t) (hg : a.soloGenexp = true)
    (hr : (nextDelims lines a.loc.endLn a.loc.endCol a.nextBound.1 a.nextBound.2).length = 1) :
    parsModel lines a = (⟨a.loc.ln, a.loc.col + 1, a.loc.endLn, a.loc.endCol - 1⟩, -1) := by
  have hs' : (a.shared != Shared.t) = true := by simpa using hs
  have h0 : (!a.parenthesizable && a.shared != Shared.n) = false := by
    rcases hp with h | h <;> simp [h]
  unfold parsModel
  simp [h0, hr, hs', hg]

/-- a node that cannot be parenthesized has no parentheses (unless `shared=None` forces the scan) -/
theorem pars_not_parenthesizable (lines : List Line) (a : ParsIn)
    (hp : a.parenthesizable = false) (hs : a.shared ≠ .n) :
    parsModel lines a = (a.loc, 0) := by
  have hs' : (a.shared != Shared.n) = true := by simpa using hs
  unfold parsModel
  simp [hp, hs']

/-! ## B. `next_delims` on one line = a character-level scan -/

/-- character-level meaning of `next_delims` on one line: skip white space, record the position after every `')'`,
stop at anything else (other code, a comment, a backslash, the end). -/
def scanClose (base : Nat) : Line → List (Nat × Nat)
  | [] => []
  | c :: r =>
    if isSpace c then scanClose (base + 1) r
    else if c == ')' then (0, base + 1) :: scanClose (base + 1) r
    else []

theorem scanClose_spaces (sp r : Line) (base : Nat) (h : ∀ c ∈ sp, isSpace c = true) :
    scanClose base (sp ++ r) = scanClose (base + sp.length) r := by
  induction sp generalizing base with
  | nil => simp
  | cons c sp ih =>
    have hc : isSpace c = true := h c (by simp)
    simp only [List.cons_append, scanClose, hc, ↓reduceIte, List.length_cons]
    rw [ih _ (fun c hc => h c (by simp [hc]))]
    congr 1; omega

theorem scanClose_parens (ps r : Line) (base : Nat) (h : ∀ c ∈ ps, c = ')') :
    scanClose base (ps ++ r) =
      (List.range ps.length).map (fun j => (0, base + j + 1)) ++ scanClose (base + ps.length) r := by
  induction ps generalizing base with
  | nil => simp
  | cons c ps ih =>
    obtain rfl : c = ')' := h c (by simp)
    simp only [List.cons_append, scanClose, show isSpace ')' = false by decide, Bool.false_eq_true, ↓reduceIte,
      beq_self_eq_true, List.length_cons, List.range_succ_eq_map, List.map_cons, List.map_map]
    rw [ih _ (fun c hc => h c (by simp [hc]))]
    simp only [Nat.add_zero, List.cons.injEq, true_and]
    congr 1
    · apply List.map_congr_left; intro j _; simp; omega
    · congr 1; omega

theorem scanClose_stop_cons (base : Nat) {x : Char} (t : Line) (hs : isSpace x = false) (hx : x ≠ ')') :
    scanClose base (x :: t) = [] := by
  simp [scanClose, hs, hx]

theorem delimRun_cases (ch : Char) (w : Line) (hw : ∀ x ∈ w, isCode x = true) :
    ∃ ps, w.takeWhile (· == ch) = ps ∧ (∀ x ∈ ps, x = ch) ∧
      (w = ps ∨ ∃ x t, w = ps ++ x :: t ∧ (x == ch) = false ∧ isSpace x = false) := by
  refine ⟨_, rfl, fun x hx => by simpa using mem_takeWhile_true hx, ?_⟩
  have hcd := (List.takeWhile_append_dropWhile (p := (· == ch)) (l := w)).symm
  cases hc2 : w.dropWhile (· == ch) with
  | nil => exact .inl (by rwa [hc2, List.append_nil] at hcd)
  | cons x t =>
    rw [hc2] at hcd
    exact .inr ⟨x, t, hcd, head?_dropWhile_false (p := (· == ch)) (l := w) (by rw [hc2]; rfl),
      isCode_imp_not_isSpace (hw x (by rw [hcd]; simp))⟩

theorem scanClose_code (base : Nat) (code r : Line) (hcode : code.all isCode = true) :
    scanClose base (code ++ r) =
      (List.range (code.takeWhile (· == ')')).length).map (fun j => (0, base + j + 1)) ++
        if (code.takeWhile (· == ')')).length == code.length then scanClose (base + code.length) r else [] := by
  obtain ⟨ps, hk, hps, rfl | ⟨x, t, rfl, hx, hxs⟩⟩ := delimRun_cases ')' code (List.all_eq_true.mp hcode)
  · rw [hk, scanClose_parens _ _ _ hps, beq_self_eq_true, if_pos rfl]
  · rw [hk, List.append_assoc, scanClose_parens _ _ _ hps, List.cons_append,
      scanClose_stop_cons _ _ hxs (by simpa using hx)]
    simp

theorem nextFrag_single (l : Line) (col e : Nat) :
    nextFrag [l] 0 col 0 e false .f = (reMatch false false l col e).map (fragOf l 0) :=
  nextFrag_same_line [l] 0 col e false .f

theorem nextDelimsLoop_single (l : Line) (fuel c : Nat) (hc : c ≤ l.length) (h : (win l c l.length).length < fuel) :
    nextDelimsLoop [l] 0 l.length ')' fuel 0 c = scanClose c (win l c l.length) := by
  induction fuel generalizing c with
  | zero => omega
  | succ fuel ih =>
    have hc' : c ≤ min l.length l.length := by omega
    rw [nextDelimsLoop, nextFrag_single]
    rcases line_cases (win l c l.length) with hb | ⟨sp, code, rest, hw, hsp, hne, hcode, hrest⟩ | ⟨sp, x, t, hw, hsp, hxs, hxc⟩
    · rw [reMatch_code_none (sp := win l c l.length) (t := []) (by simp) hb (by simp),
        ← List.append_nil (win l c l.length), scanClose_spaces _ _ _ (List.all_eq_true.mp hb)]
      rfl
    · obtain ⟨hm, hg, hrw⟩ := reMatch_code_step hc' hw hsp hne hcode hrest
      have hwl := win_length l c l.length
      rw [hw] at hwl h
      simp only [List.length_append] at hwl h
      have := List.length_pos_iff.mpr hne
      rw [hm, hw, List.append_assoc, scanClose_spaces _ _ _ (List.all_eq_true.mp hsp), scanClose_code _ _ _ hcode]
      simp only [Option.map_some, fragOf, hg]
      split
      · rename_i hk
        rw [eq_of_beq hk, ih (c + sp.length + code.length) (by omega) (by rw [hrw]; omega), hrw]
      · rw [List.append_nil]
    · rw [reMatch_code_none hw hsp (by simp [hxs, hxc]), hw, scanClose_spaces _ _ _ (List.all_eq_true.mp hsp),
        scanClose_stop_cons _ _ hxs (by rintro rfl; cases hxc)]
      rfl

/-- **B (general form).**  On a single line, with the bound at the end of the line, `next_delims` is exactly the
character-level scan `scanClose` of the text that follows the start column. -/
theorem nextDelims_single_line (A w : Line) :
    nextDelims [A ++ w] 0 A.length 0 (A ++ w).length = (0, A.length) :: scanClose A.length w := by
  have hw : win (A ++ w) A.length (A ++ w).length = w := by simpa using win_mid A w []
  rw [nextDelims, nextDelimsLoop_single _ _ _ (by simp) (by rw [hw]; simp [fuelOf, totalChars]; omega), hw]

theorem scanClose_stop (base : Nat) (post : Line) (h : (post.dropWhile isSpace).head? ≠ some ')') :
    scanClose base post = [] := by
  rw [← List.takeWhile_append_dropWhile (p := isSpace) (l := post),
    scanClose_spaces _ _ _ (fun _ => mem_takeWhile_true)]
  cases hr : post.dropWhile isSpace with
  | nil => rfl
  | cons x t =>
    exact scanClose_stop_cons _ t (head?_dropWhile_false (by rw [hr]; rfl)) (by rw [hr] at h; simpa using h)

/-- closing parentheses, each preceded by its own number of blanks -/
def closeRunL (ss : List Nat) : Line := (ss.map (fun s => List.replicate s ' ' ++ [')'])).flatten

/-- `g` copies of (`s` blanks followed by `')'`) -/
def closeRun (g s : Nat) : Line := (List.replicate g (List.replicate s ' ' ++ [')'])).flatten

theorem closeRun_eq (g s : Nat) : closeRun g s = closeRunL (List.replicate g s) := by
  simp [closeRun, closeRunL]

/-- the positions just after each `')'` of `closeRunL ss` when the run starts at column `base` -/
def closePos (base : Nat) : List Nat → List (Nat × Nat)
  | [] => []
  | s :: r => (0, base + s + 1) :: closePos (base + s + 1) r

theorem closeRunL_cons (s : Nat) (r : List Nat) :
    closeRunL (s :: r) = List.replicate s ' ' ++ ')' :: closeRunL r := by
  simp [closeRunL]

theorem closeRunL_length (ss : List Nat) : (closeRunL ss).length = ss.sum + ss.length := by
  induction ss with
  | nil => rfl
  | cons s r ih => rw [closeRunL_cons]; simp [ih]; omega

theorem closeRun_length (g s : Nat) : (closeRun g s).length = g * (s + 1) := by
  rw [closeRun_eq, closeRunL_length, List.sum_replicate_nat, List.length_replicate, Nat.mul_succ]

theorem scanClose_closeRunL (base : Nat) (ss : List Nat) (post : Line) :
    scanClose base (closeRunL ss ++ post) =
      closePos base ss ++ scanClose (base + (closeRunL ss).length) post := by
  induction ss generalizing base with
  | nil => simp [closeRunL, closePos]
  | cons s r ih =>
    rw [closeRunL_cons, List.append_assoc, scanClose_spaces _ _ _ (by simp [show isSpace ' ' = true by decide])]
    simp only [List.cons_append, scanClose, show isSpace ')' = false by decide, Bool.false_eq_true, ↓reduceIte, beq_self_eq_true,
      List.length_replicate, closePos, List.length_append, List.length_cons]
    rw [ih]
    simp only [List.cons.injEq, true_and]
    congr 2; omega

theorem closePos_replicate (base g s : Nat) :
    closePos base (List.replicate g s) = (List.range g).map (fun j => (0, base + (j + 1) * (s + 1))) := by
  induction g generalizing base with
  | zero => rfl
  | succ g ih =>
    simp only [List.replicate_succ, closePos, ih, List.range_succ_eq_map, List.map_cons, List.map_map]
    congr 1
    · simp; omega
    · apply List.map_congr_left; intro j _
      simp only [Function.comp, Prod.mk.injEq, true_and]
      rw [Nat.succ_mul (j + 1) (s + 1)]; omega

/-- **B (general spacing).**  `pre ++ closeRunL ss ++ post`, scan started right after `pre`, the text after the run
not starting (after blanks) with another `')'`: the positions after each of the `ss.length` parentheses. -/
theorem nextDelims_closeRunL (pre post : Line) (ss : List Nat)
    (hpost : (post.dropWhile isSpace).head? ≠ some ')') :
    nextDelims [pre ++ closeRunL ss ++ post] 0 pre.length 0 (pre ++ closeRunL ss ++ post).length =
      (0, pre.length) :: closePos pre.length ss := by
  rw [List.append_assoc, nextDelims_single_line, scanClose_closeRunL, scanClose_stop _ _ hpost]
  simp

/-- **B.**  `pre ++ closeRun g s ++ post`: the `g` positions just after each `')'`.  `post` may be empty, or begin
(after optional blanks) with any character other than `')'` — a code character glued directly to the run
(`)))x`, `))),`), a blank, a comment `#` or a continuation backslash. -/
theorem nextDelims_closeRun (pre post : Line) (g s : Nat)
    (hpost : (post.dropWhile isSpace).head? ≠ some ')') :
    nextDelims [pre ++ closeRun g s ++ post] 0 pre.length 0 (pre ++ closeRun g s ++ post).length =
      (0, pre.length) :: (List.range g).map (fun j => (0, pre.length + (j + 1) * (s + 1))) := by
  rw [closeRun_eq, nextDelims_closeRunL _ _ _ hpost, closePos_replicate]

/-! ## C. `prev_delims` on one line = a character-level scan of the reversed prefix -/

/-- character-level meaning of `prev_delims` on one line, run over the REVERSED text that precedes the start column
`e`: skip white space, record the position of every `'('`, stop at anything else; `k` = what to answer when the text
is exhausted. -/
def scanOpenK (e : Nat) : Line → List (Nat × Nat) → List (Nat × Nat)
  | [], k => k
  | c :: r, k =>
    if isSpace c then scanOpenK (e - 1) r k
    else if c == '(' then (0, e - 1) :: scanOpenK (e - 1) r k
    else []

theorem scanOpenK_append (e : Nat) (X Y : Line) (k : List (Nat × Nat)) :
    scanOpenK e (X ++ Y) k = scanOpenK e X (scanOpenK (e - X.length) Y k) := by
  induction X generalizing e with
  | nil => simp [scanOpenK]
  | cons c X ih =>
    simp only [List.cons_append, scanOpenK, ih, List.length_cons]
    have : e - 1 - X.length = e - (X.length + 1) := by omega
    rw [this]

theorem scanOpenK_spaces (e : Nat) (sp : Line) (k : List (Nat × Nat)) (h : ∀ c ∈ sp, isSpace c = true) :
    scanOpenK e sp k = k := by
  induction sp generalizing e with
  | nil => rfl
  | cons c sp ih =>
    simp only [scanOpenK, h c (by simp), ↓reduceIte]
    exact ih _ (fun c hc => h c (by simp [hc]))

theorem scanOpenK_parens (e : Nat) (ps r : Line) (k : List (Nat × Nat)) (h : ∀ c ∈ ps, c = '(') :
    scanOpenK e (ps ++ r) k =
      (List.range ps.length).map (fun j => (0, e - (j + 1))) ++ scanOpenK (e - ps.length) r k := by
  induction ps generalizing e with
  | nil => simp
  | cons c ps ih =>
    obtain rfl : c = '(' := h c (by simp)
    simp only [List.cons_append, scanOpenK, show isSpace '(' = false by decide, Bool.false_eq_true, ↓reduceIte,
      beq_self_eq_true, List.length_cons, List.range_succ_eq_map, List.map_cons, List.map_map]
    rw [ih _ (fun c hc => h c (by simp [hc]))]
    simp only [Nat.zero_add, List.cons.injEq, true_and]
    congr 1
    · apply List.map_congr_left; intro j _; simp; omega
    · congr 1; omega

/-- what `prev_delims` answers by popping a stack of cached matches (top first) -/
def popScan : List PM → List (Nat × Nat)
  | [] => []
  | m :: st =>
    let k := (m.src.reverse.takeWhile (· == '(')).length
    let new := (List.range k).map (fun j => (0, m.s + m.src.length - (j + 1)))
    if k == m.src.length then new ++ popScan st else new

theorem popScan_cons (s e : Nat) (code : Line) (st : List PM) (hcode : code.all isCode = true) :
    popScan (⟨s, e, code⟩ :: st) = scanOpenK (s + code.length) code.reverse (popScan st) := by
  obtain ⟨ps, hk, hps, h⟩ := delimRun_cases '(' code.reverse (by simpa using List.all_eq_true.mp hcode)
  simp only [popScan, hk]
  rw [← List.length_reverse (as := code)]
  rcases h with h | ⟨x, t, h, hx, hxs⟩
  · rw [h, ← List.append_nil ps, scanOpenK_parens _ _ _ _ hps]
    simp [scanOpenK]
  · rw [h, scanOpenK_parens _ _ _ _ hps]
    simp [scanOpenK, hx, hxs]

theorem win_zero_add {l : Line} {c ec : Nat} {sp X : Line} (hc : c ≤ min ec l.length) (hw : win l c ec = sp ++ X) :
    win l 0 (c + sp.length) = win l 0 c ++ sp := by
  have hlen := win_length l c ec
  rw [hw, List.length_append, Nat.min_eq_left (by omega : c ≤ l.length)] at hlen
  have hsp : sp = (win l c ec).take sp.length := by rw [hw, List.take_left' rfl]
  rw [win, Nat.min_eq_left (by omega : c ≤ l.length), List.take_drop, List.take_take,
    Nat.min_eq_left (by omega)] at hsp
  simp only [win, Nat.zero_min, List.drop_zero, Nat.min_eq_left (by omega : c + sp.length ≤ l.length),
    Nat.min_eq_left (by omega : c ≤ l.length)]
  rw [List.take_add, List.take_drop]
  exact congrArg _ hsp.symm

/-- coherence of the cached stack with the line: to the left of the bottom entry (of column `c` when the stack is
empty) there are only blanks -/
def StackInv (l : Line) : Nat → List PM → Prop
  | c, [] => (win l 0 c).all isSpace = true
  | _, m :: st => StackInv l m.s st

theorem StackInv_blank {l : Line} {c ec : Nat} {sp X : Line} (st : List PM) (hc : c ≤ min ec l.length)
    (hw : win l c ec = sp ++ X) (hsp : sp.all isSpace = true) (h : StackInv l c st) :
    StackInv l (c + sp.length) st := by
  cases st with
  | nil => simpa [StackInv, win_zero_add hc hw, hsp] using h
  | cons m st => exact h

/-- the `last_match` loop over a window of blanks and code characters: the stack it leaves pops to the backward scan
of the window -/
theorem lastMatchLoop_popScan (l : Line) (ec fuel : Nat) (hec : ec ≤ l.length) : ∀ (c : Nat) (st : List PM), c ≤ ec →
    (win l c ec).length < fuel → (∀ x ∈ win l c ec, isSpace x = true ∨ isCode x = true) → StackInv l c st →
    StackInv l ec (lastMatchLoop false .f false false l ec fuel c st) ∧
      popScan (lastMatchLoop false .f false false l ec fuel c st) =
        scanOpenK ec (win l c ec).reverse (popScan st) := by
  induction fuel with
  | zero => intro c st _ h; omega
  | succ fuel ih =>
    intro c st hc' h hsc hinv
    have hc : c ≤ min ec l.length := by omega
    have hwl := win_length l c ec
    rw [Nat.min_eq_left hec, Nat.min_eq_left (by omega : c ≤ l.length)] at hwl
    rcases line_cases (win l c ec) with hb | ⟨sp, code, rest, hw, hsp, hne, hcode, hrest⟩ | ⟨sp, x, t, hw, _, hxs, hxc⟩
    · rw [lastMatchLoop_spaces hb, scanOpenK_spaces _ _ _ (by simpa using List.all_eq_true.mp hb)]
      have := StackInv_blank (X := []) st hc (by simp) hb hinv
      rw [hwl, Nat.add_sub_cancel' hc'] at this
      exact ⟨this, rfl⟩
    · obtain ⟨h1, h2⟩ := lastMatchLoop_step (fuel := fuel) (st := st) hc hw hsp hne hcode hrest
      rw [hw] at hwl h hsc
      simp only [List.length_append] at hwl h
      have hl0 := List.length_pos_iff.mpr hne
      obtain ⟨k1, k2⟩ := ih (c + sp.length + code.length)
        (⟨c + sp.length, c + sp.length + code.length, code⟩ :: st) (by omega) (by rw [h2]; omega)
        (fun x hx => hsc x (by rw [h2] at hx; simp [hx]))
        (StackInv_blank st hc (by rw [hw, List.append_assoc]) hsp hinv)
      rw [h1, hw]
      refine ⟨k1, ?_⟩
      rw [k2, h2, popScan_cons _ _ _ _ hcode, List.reverse_append, List.reverse_append, scanOpenK_append,
        scanOpenK_append, scanOpenK_spaces _ sp.reverse _ (by simpa using List.all_eq_true.mp hsp)]
      simp only [List.length_reverse]
      congr 2
      omega
    · have := hsc x (by rw [hw]; simp)
      simp [hxs, hxc] at this

/-- popping a coherent cached stack: `prev_delims` never looks at the line again until the stack is empty, and then
finds only blanks -/
theorem prevDelimsLoop_pop (l : Line) (fuel : Nat) : ∀ (st : List PM) (c : Nat), st.length < fuel → StackInv l c st →
    prevDelimsLoop [l] 0 0 '(' fuel 0 c st = popScan st := by
  induction fuel with
  | zero => nofun
  | succ fuel ih =>
    intro st c hf hinv
    rw [prevDelimsLoop, prevFragSt_single]
    cases st with
    | nil =>
      simp only [lastMatch, lastMatchLoop_spaces hinv]
      rfl
    | cons m st =>
      simp only [lastMatch, Option.map_some, pmFrag, popScan]
      rw [ih st m.s (Nat.lt_of_succ_lt_succ hf) hinv]

/-- **C (general form).**  On a single line with the bound at column 0, when the text `W` before the start column
consists of blanks and code characters only (no `#`, no backslash), `prev_delims` is exactly the character-level
scan `scanOpenK` of the reversed `W`. -/
theorem prevDelims_single_line (W B : Line) (hsc : ∀ x ∈ W, isSpace x = true ∨ isCode x = true) :
    prevDelims [W ++ B] 0 0 0 W.length = (0, W.length) :: scanOpenK W.length W.reverse [] := by
  have hw : win (W ++ B) 0 W.length = W := by simpa using win_mid [] W B
  obtain ⟨s1, s2⟩ := lastMatchLoop_popScan (W ++ B) W.length ((W ++ B).length + 1) (by simp) 0 [] (Nat.zero_le _)
    (by rw [hw]; simp; omega) (by rw [hw]; exact hsc) rfl
  rw [hw] at s2
  replace s2 : _ = scanOpenK W.length W.reverse [] := s2
  have hlen := lastMatchLoop_length false .f false false (W ++ B) W.length ((W ++ B).length + 1) 0 []
  rw [prevDelims, show fuelOf [W ++ B] = (W ++ B).length + 1 + 1 by simp [fuelOf, totalChars], prevDelimsLoop,
    prevFragSt_single, ← s2]
  simp only [lastMatch]
  generalize lastMatchLoop false .f false false (W ++ B) W.length ((W ++ B).length + 1) 0 [] = R at *
  cases R with
  | nil => rfl
  | cons m st' =>
    simp only [Option.map_some, pmFrag]
    rw [prevDelimsLoop_pop _ _ st' m.s (by simp only [List.length_cons, List.length_nil] at hlen; omega) s1]
    rfl

theorem scanOpenK_stop (e : Nat) (X : Line) (h : (X.dropWhile isSpace).head? ≠ some '(') :
    scanOpenK e X [] = [] := by
  rw [← List.takeWhile_append_dropWhile (p := isSpace) (l := X), scanOpenK_append,
    scanOpenK_spaces _ _ _ (fun _ => mem_takeWhile_true)]
  cases hr : X.dropWhile isSpace with
  | nil => rfl
  | cons x t =>
    have hx : isSpace x = false := head?_dropWhile_false (by rw [hr]; rfl)
    have : (x == '(') = false := by rw [hr] at h; simpa using h
    simp [scanOpenK, hx, this]

/-- opening parentheses, each followed by its own number of blanks -/
def openRunL (ss : List Nat) : Line := (ss.map (fun s => '(' :: List.replicate s ' ')).flatten

/-- `g` copies of (`'('` followed by `s` blanks) -/
def openRun (g s : Nat) : Line := (List.replicate g ('(' :: List.replicate s ' ')).flatten

theorem openRun_eq (g s : Nat) : openRun g s = openRunL (List.replicate g s) := by
  simp [openRun, openRunL]

/-- the positions of each `'('` of `openRunL ss`, innermost (rightmost) first, when the run starts at column `base` -/
def openPos (base : Nat) : List Nat → List (Nat × Nat)
  | [] => []
  | s :: r => openPos (base + s + 1) r ++ [(0, base)]

theorem openRunL_cons (s : Nat) (r : List Nat) :
    openRunL (s :: r) = '(' :: List.replicate s ' ' ++ openRunL r := by
  simp [openRunL]

theorem openRunL_length (ss : List Nat) : (openRunL ss).length = ss.sum + ss.length := by
  induction ss with
  | nil => rfl
  | cons s r ih => rw [openRunL_cons]; simp [ih]; omega

theorem openRun_length (g s : Nat) : (openRun g s).length = g * (s + 1) := by
  rw [openRun_eq, openRunL_length, List.sum_replicate_nat, List.length_replicate, Nat.mul_succ]

theorem openRunL_chars (ss : List Nat) : ∀ x ∈ openRunL ss, isSpace x = true ∨ isCode x = true := by
  induction ss with
  | nil => simp [openRunL]
  | cons s r ih =>
    rw [openRunL_cons]
    intro x hx
    simp only [List.cons_append, List.mem_cons, List.mem_append, List.mem_replicate] at hx
    rcases hx with h | h | h
    · subst h; exact Or.inr (by decide)
    · rw [h.2]; exact Or.inl (by decide)
    · exact ih x h

theorem scanOpenK_openRunL (base : Nat) (ss : List Nat) (k : List (Nat × Nat)) :
    scanOpenK (base + (openRunL ss).length) (openRunL ss).reverse k = openPos base ss ++ k := by
  induction ss generalizing base k with
  | nil => simp [openRunL, openPos, scanOpenK]
  | cons s r ih =>
    rw [openRunL_cons]
    simp only [List.cons_append, List.reverse_cons, List.reverse_append, List.reverse_replicate,
      List.length_cons, List.length_append, List.length_replicate, List.append_assoc]
    rw [scanOpenK_append]
    have e1 : base + (s + (openRunL r).length + 1) = (base + s + 1) + (openRunL r).length := by omega
    rw [e1, ih]
    simp only [List.length_reverse]
    rw [scanOpenK_append, scanOpenK_spaces _ _ _ (by simp [show isSpace ' ' = true by decide])]
    simp only [List.length_replicate, scanOpenK, show isSpace '(' = false by decide, Bool.false_eq_true, ↓reduceIte,
      beq_self_eq_true, openPos, List.append_assoc, List.cons_append, List.nil_append]
    congr 3
    omega

theorem openPos_replicate (base g s : Nat) :
    openPos base (List.replicate g s) = (List.range g).map (fun j => (0, base + (g - 1 - j) * (s + 1))) := by
  induction g generalizing base with
  | zero => rfl
  | succ g ih =>
    simp only [List.replicate_succ, openPos, ih, List.range_succ, List.map_append, List.map_cons, List.map_nil]
    congr 1
    · apply List.map_congr_left; intro j hj
      have hj' : j < g := List.mem_range.1 hj
      have e : g + 1 - 1 - j = (g - 1 - j) + 1 := by omega
      simp only [Prod.mk.injEq, true_and]
      rw [e, Nat.succ_mul]; omega
    · simp

/-- **C (general spacing).**  `pre ++ openRunL ss ++ rest`, scan started right after the run, `pre` made of blanks and
code characters only and not ending (before blanks) with another `'('`: the positions of each of the `ss.length`
parentheses, innermost first. -/
theorem prevDelims_openRunL (pre rest : Line) (ss : List Nat)
    (hpre : ∀ x ∈ pre, isSpace x = true ∨ isCode x = true)
    (hpre' : (pre.reverse.dropWhile isSpace).head? ≠ some '(') :
    prevDelims [pre ++ openRunL ss ++ rest] 0 0 0 (pre ++ openRunL ss).length =
      (0, (pre ++ openRunL ss).length) :: openPos pre.length ss := by
  rw [prevDelims_single_line]
  · rw [List.reverse_append, scanOpenK_append, List.length_reverse, List.length_append,
      Nat.add_sub_cancel, scanOpenK_stop _ _ hpre', scanOpenK_openRunL]
    simp
  · intro x hx
    rcases List.mem_append.1 hx with h | h
    · exact hpre x h
    · exact openRunL_chars ss x h

/-- **C.**  `pre ++ openRun g s ++ rest`: the positions OF each `'('`, innermost first.  `pre` may be empty, blanks
only, or any text of blanks and code characters (no `#`, no backslash) whose last non-blank character is not `'('`. -/
theorem prevDelims_openRun (pre rest : Line) (g s : Nat)
    (hpre : ∀ x ∈ pre, isSpace x = true ∨ isCode x = true)
    (hpre' : (pre.reverse.dropWhile isSpace).head? ≠ some '(') :
    prevDelims [pre ++ openRun g s ++ rest] 0 0 0 (pre ++ openRun g s).length =
      (0, (pre ++ openRun g s).length) ::
        (List.range g).map (fun j => (0, pre.length + (g - 1 - j) * (s + 1))) := by
  rw [openRun_eq, prevDelims_openRunL _ _ _ hpre hpre', openPos_replicate]

/-! ## D. the layout family -/

theorem pairAt_cons_map_range (a : Nat × Nat) (f : Nat → Nat × Nat) (g n : Nat) (h : n < g) :
    pairAt (a :: (List.range g).map f) (n + 1) = f n := by
  simp [pairAt, h]

theorem pars_of_delims (lines : List Line) (a : ParsIn) (g1 g2 : Nat) (l0 r0 : Nat × Nat) (fl fr : Nat → Nat × Nat)
    (hp : a.parenthesizable = true) (hg : a.shared = .t ∨ a.soloGenexp = false)
    (hs : a.shared = .n ∨ a.soloShared = false)
    (hl : prevDelims lines a.prevBound.1 a.prevBound.2 a.loc.ln a.loc.col = l0 :: (List.range g1).map fl)
    (hr : nextDelims lines a.loc.endLn a.loc.endCol a.nextBound.1 a.nextBound.2 = r0 :: (List.range g2).map fr) :
    parsModel lines a =
      (if min g1 g2 = 0 then a.loc
       else ⟨(fl (min g1 g2 - 1)).1, (fl (min g1 g2 - 1)).2, (fr (min g1 g2 - 1)).1, (fr (min g1 g2 - 1)).2⟩,
       ((min g1 g2 : Nat) : Int)) := by
  rw [pars_min lines a hp hg hs, hl, hr]
  simp only [List.length_cons, List.length_map, List.length_range, Nat.add_min_add_right, Nat.add_sub_cancel]
  cases h : min g1 g2 with
  | zero => rfl
  | succ n =>
    have hn : n < g1 ∧ n < g2 := by omega
    rw [if_neg (Nat.succ_ne_zero n), if_neg (Nat.succ_ne_zero n), pairAt_cons_map_range _ _ _ _ hn.1,
      pairAt_cons_map_range _ _ _ _ hn.2]
    rfl

/-- **D (unbalanced form = `pars_min` on the family).**  `g1` opening parentheses (spacing `s1`) before the node and
`g2` closing ones (spacing `s2`) after it, nothing parenthesis-like adjacent outside: exactly `min g1 g2` pairs are
reported and the span is that of the `min g1 g2`-th pair counted from the node. -/
theorem pars_layout_unbalanced (pre node post : Line) (g1 s1 g2 s2 : Nat)
    (hpre : ∀ x ∈ pre, isSpace x = true ∨ isCode x = true)
    (hpre' : (pre.reverse.dropWhile isSpace).head? ≠ some '(')
    (hpost : (post.dropWhile isSpace).head? ≠ some ')') :
    parsModel [pre ++ openRun g1 s1 ++ node ++ closeRun g2 s2 ++ post]
        ⟨⟨0, (pre ++ openRun g1 s1).length, 0, (pre ++ openRun g1 s1 ++ node).length⟩,
         (0, (pre ++ openRun g1 s1 ++ node ++ closeRun g2 s2 ++ post).length), (0, 0), .t, true, false, false⟩ =
      (if min g1 g2 = 0 then ⟨0, (pre ++ openRun g1 s1).length, 0, (pre ++ openRun g1 s1 ++ node).length⟩
       else ⟨0, pre.length + (g1 - min g1 g2) * (s1 + 1),
             0, (pre ++ openRun g1 s1 ++ node).length + min g1 g2 * (s2 + 1)⟩,
       ((min g1 g2 : Nat) : Int)) := by
  have hr := nextDelims_closeRun (pre ++ openRun g1 s1 ++ node) post g2 s2 hpost
  have hl := prevDelims_openRun pre (node ++ closeRun g2 s2 ++ post) g1 s1 hpre hpre'
  rw [← List.append_assoc, ← List.append_assoc] at hl
  refine (pars_of_delims _ _ g1 g2 _ _ _ _ rfl (.inl rfl) (.inr rfl) hl hr).trans ?_
  cases min g1 g2 with
  | zero => rfl
  | succ n =>
    rw [if_neg (Nat.succ_ne_zero n), if_neg (Nat.succ_ne_zero n), Nat.add_sub_cancel, Nat.sub_sub, Nat.add_comm 1 n]

/-- **D (headline).**  The node wrapped in exactly `g` balanced pairs of grouping parentheses (uniform spacing `s`),
in a non-parenthesis context: `pars()` reports exactly `g` pairs and the span of the outermost pair. -/
theorem pars_layout (pre node post : Line) (g s : Nat)
    (hpre : ∀ x ∈ pre, isSpace x = true ∨ isCode x = true)
    (hpre' : (pre.reverse.dropWhile isSpace).head? ≠ some '(')
    (hpost : (post.dropWhile isSpace).head? ≠ some ')') :
    parsModel [pre ++ openRun g s ++ node ++ closeRun g s ++ post]
        ⟨⟨0, (pre ++ openRun g s).length, 0, (pre ++ openRun g s ++ node).length⟩,
         (0, (pre ++ openRun g s ++ node ++ closeRun g s ++ post).length), (0, 0), .t, true, false, false⟩ =
      (if g = 0 then ⟨0, (pre ++ openRun g s).length, 0, (pre ++ openRun g s ++ node).length⟩
       else ⟨0, pre.length, 0, (pre ++ openRun g s ++ node ++ closeRun g s).length⟩,
       (g : Int)) := by
  rw [pars_layout_unbalanced pre node post g s g s hpre hpre' hpost]
  simp only [Nat.min_self, Nat.sub_self, Nat.zero_mul, Nat.add_zero]
  rw [List.length_append (as := pre ++ openRun g s ++ node) (bs := closeRun g s), closeRun_length]

/-- `pre` = indentation only -/
theorem pars_layout_indent (pre node post : Line) (g s : Nat)
    (hpre : ∀ x ∈ pre, isSpace x = true)
    (hpost : (post.dropWhile isSpace).head? ≠ some ')') :
    parsModel [pre ++ openRun g s ++ node ++ closeRun g s ++ post]
        ⟨⟨0, (pre ++ openRun g s).length, 0, (pre ++ openRun g s ++ node).length⟩,
         (0, (pre ++ openRun g s ++ node ++ closeRun g s ++ post).length), (0, 0), .t, true, false, false⟩ =
      (if g = 0 then ⟨0, (pre ++ openRun g s).length, 0, (pre ++ openRun g s ++ node).length⟩
       else ⟨0, pre.length, 0, (pre ++ openRun g s ++ node ++ closeRun g s).length⟩,
       (g : Int)) := by
  apply pars_layout pre node post g s (fun x hx => Or.inl (hpre x hx)) _ hpost
  rw [← List.append_nil pre.reverse, List.dropWhile_append_of_pos (fun c hc => hpre c (by simpa using hc))]
  simp

/-! ## non-vacuity: the model evaluated on concrete lines, and the family theorems instantiated -/

example : parsModel ["x = ((a))".toList] ⟨⟨0, 6, 0, 7⟩, (0, 9), (0, 0), .t, true, false, false⟩
    = (⟨0, 4, 0, 9⟩, 2) := by decide +kernel

/-- spaces inside, code glued directly after the closing run -/
example : parsModel ["f(( (a) ), b)".toList] ⟨⟨0, 5, 0, 6⟩, (0, 13), (0, 0), .t, true, false, false⟩
    = (⟨0, 2, 0, 9⟩, 2) := by decide +kernel

/-- unbalanced: two opening, one closing parenthesis around `a` in `((a) + b)` -/
example : parsModel ["((a) + b)".toList] ⟨⟨0, 2, 0, 3⟩, (0, 9), (0, 0), .t, true, false, false⟩
    = (⟨0, 1, 0, 4⟩, 1) := by decide +kernel

/-- several lines, a line continuation and comments between the parentheses -/
example : parsModel
    ["x = ( \\".toList, "  ( # comment".toList, "a".toList, ") # c2".toList, " )".toList]
    ⟨⟨2, 0, 2, 1⟩, (4, 2), (0, 0), .t, true, false, false⟩ = (⟨0, 4, 4, 2⟩, 2) := by decide +kernel

/-- the sole argument of a call shares the call's parentheses: asked as a plain node both pairs are counted ... -/
example : parsModel ["f((a))".toList] ⟨⟨0, 3, 0, 4⟩, (0, 6), (0, 0), .t, true, false, false⟩
    = (⟨0, 1, 0, 6⟩, 2) := by decide +kernel

/-- ... with `soloShared` the call's own pair is left out -/
example : parsModel ["f((a))".toList] ⟨⟨0, 3, 0, 4⟩, (0, 6), (0, 0), .t, true, false, true⟩
    = (⟨0, 2, 0, 5⟩, 1) := by decide +kernel

/-- the unparenthesized solo generator-expression argument asked with `shared=False` -/
example : parsModel ["f(i for i in j)".toList] ⟨⟨0, 1, 0, 15⟩, (0, 15), (0, 1), .f, true, true, true⟩
    = (⟨0, 2, 0, 14⟩, -1) := by decide +kernel

/-- the hypotheses of `pars_layout` are satisfiable: `x = ((a))` is `pre ++ openRun 2 0 ++ node ++ closeRun 2 0` -/
example :=
  pars_layout "x = ".toList "a".toList [] 2 0 (by decide +kernel) (by decide +kernel) (by decide +kernel)

/-- `y = ( ( ( a+b ) ) ), z` -/
example :=
  pars_layout "y = ".toList "a+b".toList ", z".toList 3 1 (by decide +kernel) (by decide +kernel) (by decide +kernel)

example : "x = ".toList ++ openRun 2 0 ++ "a".toList ++ closeRun 2 0 ++ [] = "x = ((a))".toList := by decide +kernel

example : "y = ".toList ++ openRun 3 1 ++ "a+b".toList ++ closeRun 3 1 ++ ", z".toList
    = "y = ( ( ( a+b ) ) ), z".toList := by decide +kernel

end Pfst.Scan
