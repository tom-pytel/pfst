import Pfst.Copy
import Pfst.OffsetLemmas

/-! Helper lemmas for C07: bytes vs characters, slices of cropped / dedented lines, flat text of split lines,
single-position behaviour of the rebase. -/
namespace Pfst.Copy
open Pfst.Offset

theorem blen_append (a b : Line) : blen (a ++ b) = blen a + blen b := by
  induction a with
  | nil => simp [blen]
  | cons c r ih => simp [blen, ih]; omega

theorem c2b_mono (l : Line) (a b : Nat) (h : a ≤ b) : c2b l a ≤ c2b l b := by
  obtain ⟨k, rfl⟩ := Nat.exists_eq_add_of_le h
  simp [c2b, List.take_add, blen_append]

theorem slice_drop (l : Line) (col a b : Nat) (h : col ≤ a) :
    slice (l.drop col) (a - col) (b - col) = slice l a b := by
  unfold slice
  rw [← List.drop_take, List.drop_drop]
  congr 1
  omega

theorem slice_take (l : Line) (e a b : Nat) (h : b ≤ e) : slice (l.take e) a b = slice l a b := by
  unfold slice
  rw [List.take_take]; congr 2; omega

theorem getSrc_multi (L : Lines) (ln col eln ecol : Nat) (h : eln ≠ ln) :
    getSrc L ln col eln ecol =
      (lineAt L ln).drop col :: ((L.take eln).drop (ln + 1) ++ [(lineAt L eln).take ecol]) := by
  rw [getSrc, if_neg (by simpa using h)]
  rfl

theorem length_drop_take (L : Lines) (k e : Nat) (h : e ≤ L.length) : ((L.take e).drop k).length = e - k := by
  rw [List.length_drop, List.length_take, Nat.min_eq_left h]

theorem flat_cons (l : Line) (rest : Lines) (h : rest ≠ []) : flat (l :: rest) = l ++ '\n' :: flat rest := by
  cases rest with
  | nil => exact absurd rfl h
  | cons a r => rfl

theorem flat_append_ne (X Y : Lines) (hX : X ≠ []) (hY : Y ≠ []) : flat (X ++ Y) = flat X ++ '\n' :: flat Y := by
  induction X with
  | nil => exact absurd rfl hX
  | cons x xs ih =>
    cases xs with
    | nil =>
      simp only [List.cons_append, List.nil_append]
      rw [flat_cons x Y hY]; rfl
    | cons x2 xs2 =>
      have h1 : (x :: x2 :: xs2) ++ Y = x :: ((x2 :: xs2) ++ Y) := rfl
      rw [h1, flat_cons x _ (by simp), ih (by simp), flat_cons x (x2 :: xs2) (by simp)]
      simp

theorem flat_head (a b : Line) (Y : Lines) : flat ((a ++ b) :: Y) = a ++ flat (b :: Y) := by
  cases Y with
  | nil => rfl
  | cons y ys => simp [flat]

theorem flat_split (X Y : Lines) (a b : Line) : flat (X ++ (a ++ b) :: Y) = flat (X ++ [a]) ++ flat (b :: Y) := by
  cases X with
  | nil => exact flat_head a b Y
  | cons x xs =>
    rw [flat_append_ne (x :: xs) _ (by simp) (by simp), flat_head, flat_append_ne (x :: xs) [a] (by simp) (by simp)]
    simp [flat]

theorem lineAt_append_right (A : Lines) (x : Line) (B : Lines) : lineAt (A ++ x :: B) A.length = x := by
  unfold lineAt
  simp

theorem startsWith_append (p l : Line) : startsWith (p ++ l) p = true := by
  induction p with
  | nil => cases l <;> rfl
  | cons c r ih => simp [startsWith, ih]

theorem dedentLine_drop (d l : Line) :
    ∃ r : Nat, (dedentLine d l).2 = -(r : Int) ∧ (dedentLine d l).1 = l.drop r ∧ r ≤ d.length := by
  unfold dedentLine
  split
  · exact ⟨0, by simp, by simp, by omega⟩
  · split
    · exact ⟨d.length, rfl, rfl, by omega⟩
    · rename_i h
      simp only [Bool.or_eq_true, decide_eq_true_eq, not_or] at h
      exact ⟨leadWs l, rfl, rfl, by omega⟩

/-- `tail = False`, `head = True` are the defaults `_make_fst_and_dedent` uses -/
theorem offsetPos_rebase (π : Params) (p : Pos) (ht : π.tail = .f) (hh : π.head = .t)
    (hs : π.lno < p.lno ∨ (p.lno = π.lno ∧ π.colo ≤ p.col))
    (he : π.lno < p.elno ∨ (p.elno = π.lno ∧ π.colo < p.ecol)) :
    offsetPos π p = ⟨p.lno + π.dln, if p.lno = π.lno then p.col + π.dcol else p.col,
                     p.elno + π.dln, if p.elno = π.lno then p.ecol + π.dcol else p.ecol⟩ := by
  have h2 : startMoves π p = true := by
    by_cases hb : π.lno < p.lno ∨ (p.lno = π.lno ∧ π.colo < p.col)
    · exact startMoves_of_after π p hb
    · -- starts exactly at the point: moved because `head` is set and the node is not empty
      have hl : p.lno = π.lno := by omega
      have hc : p.col = π.colo := by omega
      have hz : p.zero = false := by
        simp only [Pos.zero, Bool.and_eq_false_iff, beq_eq_false_iff_ne]
        omega
      simp [startMoves, hl, hc, hh, ht, hz]
  simp only [offsetPos_eq, endMoves_of_after π p he, h2, if_true, true_and]

theorem offsetLnsPos_wf (d : List Int) (p : Pos) (hw : p.wf = true) : (offsetLnsPos d p).wf = true := by
  obtain ⟨a, b, c, e⟩ := p
  simp only [Pos.wf, le2, Bool.or_eq_true, decide_eq_true_eq, Bool.and_eq_true, beq_iff_eq] at hw
  show le2 a (b + d.getD (a - 1).toNat 0) c (e + d.getD (c - 1).toNat 0) = true
  unfold le2
  rcases hw with h | ⟨h1, h2⟩
  · simp [h]
  · subst h1
    simp
    omega

/-! ### canonical decomposition `A ++ x :: (M ++ y :: B)` of the lines around a multi-line span -/

theorem canon_assoc (A M B : Lines) (x y : Line) : A ++ x :: (M ++ y :: B) = (A ++ x :: M) ++ y :: B := by simp

theorem canon_len (A M : Lines) (x : Line) : (A ++ x :: M).length = A.length + M.length + 1 := by
  simp; omega

theorem lineAt_mid (A : Lines) (x : Line) (M : Lines) (y : Line) (B : Lines) :
    lineAt (A ++ x :: (M ++ y :: B)) (A.length + M.length + 1) = y := by
  rw [canon_assoc, ← canon_len A M x]
  exact lineAt_append_right _ y B

theorem take_canon (A M B : Lines) (x y : Line) :
    (A ++ x :: (M ++ y :: B)).take (A.length + M.length + 1) = A ++ x :: M := by
  rw [canon_assoc, ← canon_len A M x]
  exact List.take_left' rfl

theorem drop_canon (A M : Lines) (x : Line) : (A ++ x :: M).drop (A.length + 1) = M := by
  rw [← List.drop_drop, List.drop_left]; rfl

theorem drop_canon2 (A M B : Lines) (x y : Line) :
    (A ++ x :: (M ++ y :: B)).drop (A.length + M.length + 1 + 1) = B := by
  rw [canon_assoc, ← canon_len A M x, drop_canon]

/-- a delete is the put of one empty line (`_put_src` returns early for an empty span; the line edit is the same) -/
theorem putSrcLines_none (L : Lines) (p : Loc) (h : p.ln < L.length) :
    putSrcLines L p none = putSrcLines L p (some [[]]) := by
  simp only [putSrcLines, List.append_nil]
  by_cases hl : p.endLn = p.ln
  · by_cases hc : p.endCol = p.col
    · have hL : L = L.take p.ln ++ lineAt L p.ln :: L.drop (p.ln + 1) := by
        simp [lineAt, List.getD_eq_getElem?_getD, List.getElem?_eq_getElem h]
      simpa [hl, hc] using hL
    · simp [hl, hc]
  · simp [hl]

theorem put_within (A B : Lines) (p m q x : Line) :
    putSrcLines (A ++ (p ++ m ++ q) :: B) ⟨A.length, p.length, A.length, p.length + m.length⟩ (some [x])
      = A ++ (p ++ x ++ q) :: B := by
  have e1 : (p ++ m ++ q).take p.length = p := by rw [List.append_assoc]; exact List.take_left' rfl
  have e2 : (p ++ m ++ q).drop (p.length + m.length) = q := List.drop_left' (by simp)
  simp only [putSrcLines, lineAt_append_right, beq_self_eq_true, if_true, e1, e2, List.take_left' rfl, drop_canon]
  simp

theorem put_across (A M B : Lines) (p m0 mk q x : Line) :
    putSrcLines (A ++ (p ++ m0) :: (M ++ (mk ++ q) :: B)) ⟨A.length, p.length, A.length + M.length + 1, mk.length⟩
      (some [x]) = A ++ (p ++ x ++ q) :: B := by
  have hne : (A.length + M.length + 1 == A.length) = false := by simp; omega
  simp only [putSrcLines, lineAt_append_right, lineAt_mid, hne, Bool.false_eq_true, if_false, List.take_left' rfl,
    drop_canon2]
  simp

theorem insert_at (A B : Lines) (p q x : Line) :
    putSrcLines (A ++ (p ++ q) :: B) ⟨A.length, p.length, A.length, p.length⟩ (some [x]) = A ++ (p ++ x ++ q) :: B := by
  simpa using put_within A B p [] q x

theorem delete_inserted (A B : Lines) (p q x : Line) :
    putSrcLines (A ++ (p ++ x ++ q) :: B) ⟨A.length, p.length, A.length, p.length + x.length⟩ none = A ++ (p ++ q) :: B := by
  rw [putSrcLines_none _ _ (by simp), put_within, List.append_nil]

end Pfst.Copy
