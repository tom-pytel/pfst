/-
Model for property C16: the scope-restricted walk (`FST.walk(scope=True)`, src/fst/fst_traverse.py) and
`FST.scope_symbols` (src/fst/fst.py) over an abstract syntax that keeps the scope-relevant skeleton of Python.

Two things live here, deliberately written in different styles:

* the SPEC (`sStep`, `labels`, `owned`, `classify`): Python's scoping rules, as a top-down assignment of a scope to every
  node ("decorators, defaults, annotations, returns, bases, keywords, type-parameter bounds and the first iterable of a
  comprehension belong to the enclosing scope; a walrus target inside comprehensions belongs to the nearest enclosing
  non-comprehension scope") and a per-node table of binding forms;
* the MODEL (`mStep`, `walkRoot`, `symbols`): what the code does: `_ScopeContext.create`, the main stack loop with
  the `_SCOPE_WALK_FUNCS` dispatch (`stack_funcdef`, `stack_ClassDef`, `stack_Lambda`, `stack_arguments`, `stack_arg`,
  `stack_type_param`, `stack_comprehension`), the generator `walk_Comp` which runs an *unscoped*, unfiltered walk below a
  nested comprehension, picks the first iterable and the walrus targets out of it and applies `all` where it yields, and
  the if-chain of
  `scope_symbols(full=True)`.

Both are instances of one generic preorder traversal `trav` driven by a transition table: the state says where in
the parent the current sibling list sits, the table says whether a node is yielded and in which state its children are
visited.  `on='enter'`, no `send()`; forward (`trav`) and backward (`travB`, `back=True`) walks from the same table; `travO` is
the forward walk during which the consumer replaces yielded nodes.  No imports: linked into the native driver.
-/
namespace Pfst.Scope

inductive Kind where
  | module | funcdef | lambda | classdef | comp          -- scope-defining (funcdef = FunctionDef/AsyncFunctionDef, comp = the four Comps)
  | arguments | arg | tparam | gen | namedexpr            -- gen = `comprehension`, tparam = TypeVar/ParamSpec/TypeVarTuple
  | nameLoad | nameStore | nameDel
  | global | nonlocal | import_ | augassign               -- import_ = Import/ImportFrom
  | handler | matchAs | matchStar | matchMap              -- ExceptHandler, MatchAs, MatchStar, MatchMapping
  | other
deriving DecidableEq, Repr, Inhabited

/-- field of the parent the node sits in (`pfield.name`, coarsened) -/
inductive Role where
  | plain | deco | tparam | args | returns | body | argr | dflt | ann | bound | base | kw
  | elt | gen0 | gen | target | iter | cond | wtarget      -- gen0 = `generators[0]`, wtarget = `NamedExpr.target`
deriving DecidableEq, Repr, Inhabited

/-- `names`: the identifiers the node carries (Name.id, arg.arg, def/class/type-param name, Global/Nonlocal names, the
names an import binds, the Name target of an AugAssign, ExceptHandler.name, MatchAs/MatchStar.name, MatchMapping.rest),
interned as numbers by the harness. `kids` in syntax order. -/
inductive Node where
  | mk (id : Nat) (k : Kind) (r : Role) (names : List Nat) (kids : List Node)
deriving Repr, Inhabited

def Node.id : Node → Nat | .mk i _ _ _ _ => i
def Node.kind : Node → Kind | .mk _ k _ _ _ => k
def Node.role : Node → Role | .mk _ _ r _ _ => r
def Node.names : Node → List Nat | .mk _ _ _ ns _ => ns
def Node.kids : Node → List Node | .mk _ _ _ _ ks => ks

/-- what the transition tables may look at: scope class of the node and whether `all=_ASTS_LEAF_SCOPE_SYMBOLS` lets it through -/
inductive KC where
  | defn | lam | comp | ne | plain
deriving DecidableEq, Repr, Inhabited

def Kind.kc : Kind → KC
  | .funcdef | .classdef => .defn
  | .lambda => .lam
  | .comp => .comp
  | .namedexpr => .ne
  | _ => .plain

/-- membership in `_ASTS_LEAF_SCOPE_SYMBOLS` (fst.py): ASTS_LEAF_DEF | ASTS_LEAF_TYPE_PARAM | {Name, arg, AugAssign,
Import, ImportFrom, Nonlocal, Global, ExceptHandler, MatchAs, MatchStar, MatchMapping} -/
def Kind.isSym : Kind → Bool
  | .funcdef | .classdef | .tparam | .nameLoad | .nameStore | .nameDel | .arg | .augassign | .import_ | .nonlocal
  | .global | .handler | .matchAs | .matchStar | .matchMap => true
  | _ => false

/-! ### generic traversal -/

mutual
/-- preorder traversal driven by a table: `f s kind role = (yield?, state for the children)`.  The state of a sibling
list does not change along the list: which children belong where is decided by their field in the parent alone (the code
decides by identity - `scope_args`, `scope_first_iter`, `first_iter` - never by position in the stack). -/
def trav {σ : Type} (f : σ → Kind → Role → Bool × σ) (s : σ) : Node → List Node
  | .mk i k r ns kids =>
    (if (f s k r).1 then [.mk i k r ns kids] else []) ++ travL f (f s k r).2 kids
def travL {σ : Type} (f : σ → Kind → Role → Bool × σ) (s : σ) : List Node → List Node
  | [] => []
  | n :: rest => trav f s n ++ travL f s rest
end

mutual
/-- the same walked backwards (`back=True`): parents first, siblings in reverse order -/
def travB {σ : Type} (f : σ → Kind → Role → Bool × σ) (s : σ) : Node → List Node
  | .mk i k r ns kids =>
    (if (f s k r).1 then [.mk i k r ns kids] else []) ++ travLB f (f s k r).2 kids
def travLB {σ : Type} (f : σ → Kind → Role → Bool × σ) (s : σ) : List Node → List Node
  | [] => []
  | n :: rest => travLB f s rest ++ travB f s n
end

mutual
/-- The walk when the consumer replaces nodes it is handed, run on the FINAL tree: `old i k` is the class node `i` had
when it was popped (`k` if it was not replaced).  Whether a node is yielded is decided on the node that was popped
(`check_all_param(fst_)` before the `yield`); the state for its children comes from the class the node has after the
yield (`ast = fst_.a` is re-read, then `_SCOPE_WALK_FUNCS.get(ast.__class__)`). -/
def travO {σ : Type} (old : Nat → Kind → Kind) (f : σ → Kind → Role → Bool × σ) (s : σ) : Node → List Node
  | .mk i k r ns kids =>
    (if (f s (old i k) r).1 then [.mk i k r ns kids] else []) ++ travLO old f (f s k r).2 kids
def travLO {σ : Type} (old : Nat → Kind → Kind) (f : σ → Kind → Role → Bool × σ) (s : σ) : List Node → List Node
  | [] => []
  | n :: rest => travO old f s n ++ travLO old f s rest
end

mutual
def preorder : Node → List Node
  | .mk i k r ns kids => .mk i k r ns kids :: preorderL kids
def preorderL : List Node → List Node
  | [] => []
  | n :: rest => preorder n ++ preorderL rest
end

/-! ### SPEC: which scope does a node belong to -/

/-- where the current sibling list sits -/
inductive Pos where
  | norm          -- children of an ordinary node
  | hdr           -- children of a def / class / lambda
  | args          -- children of its `arguments`
  | argn          -- children of one of its `arg`s (the annotation)
  | tpn           -- children of one of its type parameters (bound, default)
  | comp0         -- children of a comprehension expression
  | gen0 | gen1   -- children of its first / a later generator
  | ne            -- children of a NamedExpr
deriving DecidableEq, Repr, Inhabited

/-- Spec state, polymorphic in the scope mark `α` (scope id for the global labelling, Bool "is it the scope of
interest" for the per-scope view).  `(cur, fn)` = scope of the *inner* parts and its nearest non-comprehension scope;
`(oc, ofn)` = the same for the *outer* parts of the scope-defining node we are in the header of. -/
structure SS (α : Type) where
  pos : Pos
  cur : α
  fn : α
  oc : α
  ofn : α
deriving DecidableEq, Repr

/-- the scope context `(scope, nearest non-comprehension scope)` a child with role `r` lives in -/
def SS.ctx {α : Type} (s : SS α) (r : Role) : α × α :=
  match s.pos with
  | .norm => (s.cur, s.fn)
  | .hdr =>
    match r with
    | .deco | .returns | .base | .kw => (s.oc, s.ofn)   -- decorators, returns, bases, keywords: enclosing scope
    | _ => (s.cur, s.fn)                                -- body, type params, arguments: the new scope
  | .args =>
    match r with
    | .argr => (s.cur, s.fn)                            -- parameters are names of the new scope
    | _ => (s.oc, s.ofn)                                -- defaults: enclosing scope
  | .argn => (s.oc, s.ofn)                              -- annotations: enclosing scope
  | .tpn => (s.oc, s.ofn)                               -- bounds / defaults of type parameters: enclosing scope (pfst docs)
  | .comp0 | .gen1 => (s.cur, s.fn)
  | .gen0 =>
    match r with
    | .iter => (s.oc, s.ofn)                            -- first iterable: enclosing scope
    | _ => (s.cur, s.fn)
  | .ne =>
    match r with
    | .wtarget => (s.fn, s.fn)                          -- walrus target: nearest enclosing non-comprehension scope
    | _ => (s.cur, s.fn)

/-- state for the children of a node living in context `(c, f)`; `fresh` = the mark of the scope the node opens -/
def SS.kidsOf {α : Type} (s : SS α) (fresh : α) (k : Kind) (r : Role) : SS α :=
  let (c, f) := s.ctx r
  match s.pos, r with
  | .hdr, .args => { s with pos := .args }
  | .hdr, .tparam => { s with pos := .tpn }
  | .args, .argr => { s with pos := .argn }
  | .comp0, .gen0 => { s with pos := .gen0 }
  | .comp0, .gen => { s with pos := .gen1 }
  | _, _ =>
    match k.kc with
    | .defn | .lam => { pos := .hdr, cur := fresh, fn := fresh, oc := c, ofn := f }
    | .comp => { pos := .comp0, cur := fresh, fn := f, oc := c, ofn := f }
    | .ne => { pos := .ne, cur := c, fn := f, oc := c, ofn := f }
    | .plain => { pos := .norm, cur := c, fn := f, oc := c, ofn := f }

/-- per-scope view: mark = "belongs to the scope of interest"; every scope opened below is another scope -/
def sStep (s : SS Bool) (k : Kind) (r : Role) : Bool × SS Bool := ((s.ctx r).1, s.kidsOf false k r)

/-- state for the children of the scope-defining node `r` when `r` is the scope of interest.  `quirk = true` gives the
documented behaviour of a walk *started on* a comprehension: walrus targets are returned although they belong further
out ("One quirk, if starting a scope walk on a Comprehension, any walrus targets WILL be returned ... on purpose"). -/
def sInit (quirk : Bool) (k : Kind) : SS Bool :=
  match k.kc with
  | .defn | .lam => { pos := .hdr, cur := true, fn := true, oc := false, ofn := false }
  | .comp => { pos := .comp0, cur := true, fn := quirk, oc := false, ofn := false }
  | _ => { pos := .norm, cur := true, fn := true, oc := false, ofn := false }

/-- SPEC: the nodes that belong to the scope defined by `r` (without `r` itself) -/
def owned (r : Node) : List Node := travL sStep (sInit false r.kind) r.kids
/-- SPEC of what `walk(scope=True, self_=False)` documents: `owned` plus, for a comprehension root, the walrus targets -/
def ownedWalk (r : Node) : List Node := travL sStep (sInit true r.kind) r.kids

mutual
/-- global labelling: every node with the id of the scope-defining node it belongs to (`root` for the outermost) -/
def labels (s : SS Nat) : Node → List (Nat × Nat)
  | .mk i k r _ kids => (i, (s.ctx r).1) :: labelsL (s.kidsOf i k r) kids
def labelsL (s : SS Nat) : List Node → List (Nat × Nat)
  | [] => []
  | n :: rest => labels s n ++ labelsL s rest
end

/-- state for the children of the root of a whole tree: everything reachable is marked with the root's id -/
def rootSS (t : Node) : SS Nat :=
  match t.kind.kc with
  | .defn | .lam => ⟨.hdr, t.id, t.id, t.id, t.id⟩
  | .comp => ⟨.comp0, t.id, t.id, t.id, t.id⟩
  | _ => ⟨.norm, t.id, t.id, t.id, t.id⟩

/-- `scopeOf`: (node id, scope id) for every node below the root, preorder -/
def scopeOf (t : Node) : List (Nat × Nat) := labelsL (rootSS t) t.kids

/-- scope-defining nodes of a tree, preorder -/
def isScope (n : Node) : Bool := match n.kind.kc with | .defn | .lam | .comp => true | _ => false
def scopes (t : Node) : List Node := t :: (preorderL t.kids).filter isScope

/-! ### MODEL: `walk(scope=True)` -/

inductive MPos where
  | loop        -- nodes pushed by `stack.extend(syntax_ordered_children(ast))` in the main loop
  | dead        -- never pushed on any stack
  | rootDef     -- `_ScopeContext.create` on FunctionDef/AsyncFunctionDef/ClassDef: type_params, scope_args, body pushed
  | rootLam     -- `create` on Lambda: scope_args, body
  | rootArgs    -- `stack_arguments` on `scope_args`: only the `arg` nodes are pushed (defaults are not)
  | rootComp0   -- `create` on a Comp: elt / key, value and the generators
  | rootGen0 | rootGen1     -- `stack_comprehension`: target, iter unless it is `scope_first_iter`, ifs
  | hdrFunc     -- `stack_funcdef` of a nested def: decorators, type-param bounds/defaults, annotations, defaults, returns
  | hdrClass    -- `stack_ClassDef`: decorators, type-param bounds/defaults, bases, keywords
  | hdrLam      -- `stack_Lambda`: defaults, kw_defaults
  | hdrArgs     -- the nested def's `arguments`: annotation of each arg, each default
  | lamArgs     -- the nested lambda's `arguments`: each default
  | pick        -- children of a nested arg / type parameter: all pushed
  | cw0         -- `walk_Comp`: children of the nested Comp seen by its unscoped `gen` walk
  | cwGen0      -- children of generators[0]: `iter` is `first_iter`
  | cw          -- anything else seen by `gen`
  | cwT         -- the `.ctx` of a walrus target (`check_all_param(a.ctx.f)`)
deriving DecidableEq, Repr, Inhabited

/-- a node taken from the main-loop stack: `check_all_param` then `_SCOPE_WALK_FUNCS.get(ast.__class__)` -/
def loopNode (pass : Bool) (kc : KC) : Bool × MPos :=
  (pass, match kc with
         | .defn => .hdrFunc      -- refined to hdrClass below (`mStep` has the Kind)
         | .lam => .hdrLam
         | .comp => .cw0
         | _ => .loop)

/-- a node seen by `walk_Comp`'s unscoped walk (`gen = fst_.walk(True, ...)`, every node is seen) that is not
`first_iter`: only a NamedExpr.target is passed on, `if check_all_param(f)` -/
def cwNode (pass : Bool) (r : Role) : Bool × MPos :=
  if r == .wtarget then (pass, .cwT) else (false, .cw)

def mStep (flt : Bool) (s : MPos) (k : Kind) (r : Role) : Bool × MPos :=
  let pass := !flt || k.isSym                                  -- `_all_param_func(all)`; flt = `all=_ASTS_LEAF_SCOPE_SYMBOLS`
  let ln : Bool × MPos :=
    match k with
    | .classdef => (pass, .hdrClass)
    | _ => loopNode pass k.kc
  match s with
  | .loop => ln
  | .dead => (false, .dead)
  | .rootDef =>
    match r with
    | .tparam => (pass, .dead)              -- `stack_type_param`: is_def and parent is walk_root -> no recursion
    | .args => (pass, .rootArgs)
    | .body => ln
    | _ => (false, .dead)                   -- decorators, returns, bases, keywords are not put on the initial stack
  | .rootLam =>
    match r with
    | .args => (pass, .rootArgs)
    | .body => ln
    | _ => (false, .dead)
  | .rootArgs =>
    match r with
    | .argr => (pass, .dead)                -- `stack_arg`: parent is scope_args -> no recursion
    | _ => (false, .dead)
  | .rootComp0 =>
    match r with
    | .gen0 => (pass, .rootGen0)            -- holds `scope_first_iter`
    | .gen => (pass, .rootGen1)
    | _ => ln
  | .rootGen0 =>
    match r with
    | .iter => (false, .dead)               -- `(a := ast.iter) is not self.scope_first_iter`
    | _ => ln
  | .rootGen1 => ln
  | .hdrFunc =>
    match r with
    | .deco | .returns => ln
    | .tparam => (false, .pick)
    | .args => (false, .hdrArgs)
    | _ => (false, .dead)
  | .hdrClass =>
    match r with
    | .deco | .base | .kw => ln
    | .tparam => (false, .pick)
    | _ => (false, .dead)
  | .hdrLam =>
    match r with
    | .args => (false, .lamArgs)
    | _ => (false, .dead)
  | .hdrArgs =>
    match r with
    | .argr => (false, .pick)
    | .dflt => ln
    | _ => (false, .dead)
  | .lamArgs =>
    match r with
    | .dflt => ln
    | _ => (false, .dead)
  | .pick => ln
  | .cw0 =>
    match r with
    | .gen0 => (false, .cwGen0)             -- holds `first_iter`
    | _ => cwNode pass r
  | .cw => cwNode pass r
  | .cwGen0 =>
    match r with
    | .iter =>                              -- `a is first_iter`: yielded `if check_all_param(f)`, then walked by scope rules
      (pass, match k.kc with
             | .comp => .cw0                -- `yield from self.walk_Comp(a)`
             | .lam => .hdrLam              -- `self.stack_Lambda(a, asts := [], True)`
             | .defn => .rootDef            -- `f.walk(all, self_=False, scope=True)` -> `create`
             | _ => .loop)
    | _ => cwNode pass r
  | .cwT => (pass, .dead)

/-- `_ScopeContext.create`: initial stack by class of the walk root -/
def mInit (k : Kind) : MPos :=
  match k.kc with
  | .defn => .rootDef
  | .lam => .rootLam
  | .comp => .rootComp0
  | _ => .loop

/-- MODEL of `r.walk(all, self_=False, scope=True)`; `flt = false`: `all=True`, `flt = true`: `all=_ASTS_LEAF_SCOPE_SYMBOLS` -/
def walkRoot (flt : Bool) (r : Node) : List Node := travL (mStep flt) (mInit r.kind) r.kids
/-- MODEL of `r.walk(all, self_=False, scope=True, back=True)` -/
def walkRootB (flt : Bool) (r : Node) : List Node := travLB (mStep flt) (mInit r.kind) r.kids
/-- MODEL of `r.walk(all, scope=True, asts=<all children of r>)`: the scope context is built without `create` (`is_def`
false, no `scope_args`, no `scope_first_iter`): every given node is an ordinary stack entry, nothing of `r` is excluded,
nested scopes are still not entered -/
def walkAsts (flt : Bool) (r : Node) : List Node := travL (mStep flt) .loop r.kids
/-- SPEC of the same: everything below `r` that belongs to the scope of `r` or to the scope `r` is defined in -/
def ownedAsts (r : Node) : List Node := travL sStep ⟨.norm, true, true, true, true⟩ r.kids

/-- MODEL of the forward walk during which the consumer replaced nodes (run on the final tree, see `travO`) -/
def walkRootO (old : Nat → Kind → Kind) (flt : Bool) (r : Node) : List Node :=
  travLO old (mStep flt) (mInit r.kind) r.kids

/-! ### relation between spec and model states, evaluated on a tree -/

/-- the outer marks `(oc, ofn)` are only consulted in these positions -/
def Pos.usesOuter : Pos → Bool
  | .hdr | .args | .argn | .tpn | .comp0 | .gen0 => true
  | _ => false
/-- the inner marks `(cur, fn)` are not consulted below an `arg` / type parameter -/
def Pos.usesInner : Pos → Bool
  | .argn | .tpn => false
  | _ => true

def SS.c (s : SS Bool) : Bool := s.pos.usesInner && s.cur
def SS.f (s : SS Bool) : Bool := s.pos.usesInner && s.fn
def SS.o (s : SS Bool) : Bool := s.pos.usesOuter && s.oc
def SS.of (s : SS Bool) : Bool := s.pos.usesOuter && s.ofn

/-- nothing below can belong to the scope of interest -/
def allF (s : SS Bool) : Bool := !s.c && !s.f && !s.o && !s.of

/-- which spec states a model state stands for (the simulation relation of `scopeWalk_eq_spec_partial`) -/
def rel (s : SS Bool) (m : MPos) : Bool :=
  match m with
  | .loop => (s.pos == .norm || s.pos == .ne) && s.cur && s.fn
  | .dead => true                                -- never visited: `ok` demands that the spec reports nothing there
  | .rootDef | .rootLam => s.pos == .hdr && s.cur && s.fn && !s.oc && !s.ofn
  | .rootArgs => s.pos == .args && s.cur && s.fn && !s.oc && !s.ofn
  | .rootComp0 => s.pos == .comp0 && s.cur && s.fn && !s.oc && !s.ofn
  | .rootGen0 => s.pos == .gen0 && s.cur && s.fn && !s.oc && !s.ofn
  | .rootGen1 => s.pos == .gen1 && s.cur && s.fn
  | .hdrFunc | .hdrClass | .hdrLam => s.pos == .hdr && !s.cur && !s.fn && s.oc && s.ofn
  | .hdrArgs | .lamArgs => s.pos == .args && !s.cur && !s.fn && s.oc && s.ofn
  | .pick => (s.pos == .argn || s.pos == .tpn) && s.oc && s.ofn
  | .cw0 => s.pos == .comp0 && !s.cur && s.fn && s.oc && s.ofn
  | .cwGen0 => s.pos == .gen0 && !s.cur && s.fn && s.oc && s.ofn
  | .cw => !s.c && !s.o                          -- nothing of the scope of interest except walrus targets (if fn / ofn)
  | .cwT => s.pos == .norm && s.cur && s.fn

/-- local well-formedness and "the code's shortcuts are harmless here", per node, given the related states -/
def ok (s : SS Bool) (m : MPos) (k : Kind) (r : Role) : Bool :=
  match m with
  | .rootDef => r == .tparam || r == .args || r == .body || r == .deco || r == .returns || r == .base || r == .kw
  | .rootLam => r == .args || r == .body
  | .rootArgs | .hdrArgs | .lamArgs => r == .argr || r == .dflt
  | .hdrFunc => r == .deco || r == .returns || r == .tparam || r == .args || r == .body
  | .hdrClass => r == .deco || r == .base || r == .kw || r == .tparam || r == .body
  | .hdrLam => r == .args || r == .body
  | .cwT => k.kc == .plain                              -- the `.ctx` leaf of a walrus target
  | .rootComp0 | .cw0 => r != .wtarget
  | .cwGen0 => r != .wtarget && (r != .iter || k.kc != .defn)
  | .cw =>
    -- a walrus target seen by the unscoped walk must really belong to the scope of interest (false below a lambda body)
    r != .wtarget || (s.pos == .ne && s.fn && k.kc == .plain)
  | .dead => !(s.ctx r).1                               -- e.g. the `.ctx` of a walrus target has no children
  | _ => true

/-- the spec table seen through the `all` filter: a node is reported only if the filter lets it through -/
def sStepF (flt : Bool) (s : SS Bool) (k : Kind) (r : Role) : Bool × SS Bool :=
  ((sStep s k r).1 && (!flt || k.isSym), (sStep s k r).2)

mutual
/-- run two tables side by side and check `okk` at every node in the pair of states it is reached in -/
def goodG {σ τ : Type} (f1 : σ → Kind → Role → Bool × σ) (f2 : τ → Kind → Role → Bool × τ)
    (okk : σ → τ → Kind → Role → Bool) (s : σ) (t : τ) : Node → Bool
  | .mk _ k r _ kids => okk s t k r && goodGL f1 f2 okk (f1 s k r).2 (f2 t k r).2 kids
def goodGL {σ τ : Type} (f1 : σ → Kind → Role → Bool × σ) (f2 : τ → Kind → Role → Bool × τ)
    (okk : σ → τ → Kind → Role → Bool) (s : σ) (t : τ) : List Node → Bool
  | [] => true
  | n :: rest => goodG f1 f2 okk s t n && goodGL f1 f2 okk s t rest
end

/-- hypothesis of `scopeWalk_eq_spec_partial`, computable (the driver evaluates it on every real tree): every node of the scope
meets `ok` in the states the spec table and the model table reach it in (the states do not depend on the `all` filter) -/
def goodRoot (r : Node) : Bool :=
  goodGL sStep (mStep false) ok (sInit true r.kind) (mInit r.kind) r.kids

/-- hypothesis of `scopeWalk_asts` -/
def goodAsts (r : Node) : Bool := goodGL sStep (mStep false) ok ⟨.norm, true, true, true, true⟩ .loop r.kids

/-! ### symbols -/

structure Syms where
  load : List Nat := []
  store : List Nat := []
  del : List Nat := []
  glob : List Nat := []
  nonl : List Nat := []
  loc : List Nat := []
  free : List Nat := []
deriving Repr, DecidableEq, Inhabited

/-- keys of a dict in insertion order -/
def addKey (l : List Nat) (x : Nat) : List Nat := if l.contains x then l else l ++ [x]
def addKeys (l : List Nat) (xs : List Nat) : List Nat := xs.foldl addKey l
def minus (l m : List Nat) : List Nat := l.filter (fun x => !m.contains x)

/-- accumulator of the loop of `scope_symbols(full=True)`: the five dicts (keys only), `syms_walrus`, and the names whose
`syms_load` list contains at least one Load-context node (for the final filtering of `ret['load']` on a Comp) -/
structure Acc where
  load : List Nat := []
  store : List Nat := []
  del : List Nat := []
  glob : List Nat := []
  nonl : List Nat := []
  walrus : List Nat := []
  realLoad : List Nat := []
deriving Repr, Inhabited

/-- one iteration of `for f in self.walk(all=_ASTS_LEAF_SCOPE_SYMBOLS, scope=True)` (fst.py, scope_symbols) -/
def symStep (isComp : Bool) (a : Acc) (n : Node) : Acc :=
  match n.kind with
  | .nameLoad => { a with load := addKeys a.load n.names, realLoad := addKeys a.realLoad n.names }
  | .nameDel => { a with del := addKeys a.del n.names }
  | .nameStore =>
    if isComp && n.role == .wtarget then                          -- full_and_comp and pfield 'target' of a NamedExpr
      { a with walrus := addKeys a.walrus n.names, load := addKeys a.load n.names, store := addKeys a.store n.names }
    else { a with store := addKeys a.store n.names }
  | .arg | .tparam => { a with store := addKeys a.store n.names }
  | .funcdef | .classdef => { a with store := addKeys a.store n.names }     -- `a is ast` cannot happen with self_=False
  | .augassign => { a with load := addKeys a.load n.names }                -- `target.f` has Store context
  | .import_ => { a with store := addKeys a.store n.names }
  | .handler | .matchAs | .matchStar | .matchMap => { a with store := addKeys a.store n.names }   -- no name: `continue`
  | .nonlocal => { a with nonl := addKeys a.nonl n.names }
  | .global => { a with glob := addKeys a.glob n.names }
  | _ => a                                                        -- not in `_ASTS_LEAF_SCOPE_SYMBOLS`: never yielded

/-- the tail of `scope_symbols`: `local` and `free` -/
def finish (isComp : Bool) (a : Acc) : Syms :=
  let nonLocal := a.glob ++ a.nonl ++ a.walrus
  let loc := minus a.store nonLocal
  if isComp then
    let nonLoad := minus a.store a.walrus
    { load := a.load.filter (fun x => a.realLoad.contains x), store := a.store, del := a.del, glob := a.glob, nonl := a.nonl,
      loc := loc, free := minus a.load nonLoad }
  else
    let nonLoad := a.store ++ a.del ++ a.nonl ++ a.glob
    { load := a.load, store := a.store, del := a.del, glob := a.glob, nonl := a.nonl, loc := loc,
      free := minus a.load nonLoad }

def isComp (r : Node) : Bool := r.kind.kc == .comp

/-- MODEL of `r.scope_symbols(full=True)` (names per class, insertion order) -/
def symbols (r : Node) : Syms := finish (isComp r) ((walkRoot true r).foldl (symStep (isComp r)) {})

/-- SPEC: names a node binds / reads / deletes / declares in the scope it belongs to (language reference 4.2.1: targets
of assignment, `for`, `with`, `except ... as`, `import`, `def`, `class`, parameters, type parameters, capture patterns,
walrus; an augmented assignment also reads its target) -/
def binds (n : Node) : List Nat :=
  match n.kind with
  | .nameStore | .arg | .tparam | .funcdef | .classdef | .import_ | .handler | .matchAs | .matchStar | .matchMap => n.names
  | _ => []
def reads (n : Node) : List Nat := match n.kind with | .nameLoad | .augassign => n.names | _ => []
def dels (n : Node) : List Nat := match n.kind with | .nameDel => n.names | _ => []
def globs (n : Node) : List Nat := match n.kind with | .global => n.names | _ => []
def nonls (n : Node) : List Nat := match n.kind with | .nonlocal => n.names | _ => []

def keysOf (f : Node → List Nat) (l : List Node) : List Nat := l.foldl (fun a n => addKeys a (f n)) []

/-- SPEC of the seven classes for the scope defined by `r`, from the nodes that belong to it -/
def classify (r : Node) : Syms :=
  let ns := owned r
  let load := keysOf reads ns
  let store := keysOf binds ns
  let del := keysOf dels ns
  let glob := keysOf globs ns
  let nonl := keysOf nonls ns
  { load, store, del, glob, nonl, loc := minus store (glob ++ nonl), free := minus load (store ++ del ++ nonl ++ glob) }

end Pfst.Scope
