import Pfst.TableCheck

/-!
# The checkers of `Pfst.TableCheck` in the form the table theorems of C14 evaluate

The kernel computes `Nat.log2`, unlike the other numeral operations of `Pfst.TableCheck`, by unfolding its definition:
one step per bit of the row.  A shape that passes has `2 + nFields + nKids` entries and its table row `4 + 2 * nKids`, and
`hasLen` confirms such a length by two comparisons; `coversOk'` and `rowOk'` are the checkers with the lengths found so,
they imply `coversOk` and `rowOk` for every row, and the theorems evaluate them.  `coversOk'` also gathers the labels in a
bit mask, one pass over the row where `coversOk` searches it once per child.  `staticOk` searches the list of field orders
for the class of every row; most rows belong to a class that has none, which `keyMask` tells by one bit test.
-/
namespace Pfst.TableCheck

theorem rowLen_le_iff (n k : Nat) : rowLen n ≤ k ↔ n < 2 ^ (7 * k) := by
  by_cases h : n = 0
  · subst h
    simp [rowLen, Nat.two_pow_pos]
  · have hb : Nat.beq n 0 = false := by rwa [← Bool.not_eq_true, Nat.beq_eq]
    simp only [rowLen, hb, cond_false]
    show n.log2 / 7 + 1 ≤ k ↔ _
    rw [Nat.succ_le_iff, Nat.div_lt_iff_lt_mul (by decide), Nat.log2_lt h, Nat.mul_comm]

/-- `rowLen n = k`, told by comparing `n` with two powers of 128 -/
def hasLen (n k : Nat) : Bool := Nat.blt n (Nat.pow 2 (Nat.mul 7 k)) && !Nat.blt n (Nat.pow 2 (Nat.mul 7 (Nat.sub k 1)))

theorem rowLen_of_hasLen {n k : Nat} (h : hasLen n k = true) : rowLen n = k := by
  simp only [hasLen, Bool.and_eq_true, Bool.not_eq_true', ← Bool.not_eq_true, Nat.blt_eq] at h
  have h1 := (rowLen_le_iff n k).2 h.1
  have h2 := mt (rowLen_le_iff n (k - 1)).1 h.2
  omega

theorem all_imp {α : Type} {l : List α} {p q : α → Bool} (h : ∀ x, p x = true → q x = true) (hl : l.all p = true) :
    l.all q = true :=
  List.all_eq_true.2 fun x hx => h x (List.all_eq_true.1 hl x hx)

theorem forAll_eq_true {f : Nat → Bool} : ∀ {n}, forAll n f = true ↔ ∀ i < n, f i = true
  | 0 => by simp [forAll]
  | n + 1 => by simp [forAll, forAll_eq_true (n := n), Nat.lt_succ_iff_lt_or_eq, or_imp, forall_and, and_comm]

theorem forSome_eq_true {f : Nat → Bool} : ∀ {n}, forSome n f = true ↔ ∃ i < n, f i = true
  | 0 => by simp [forSome]
  | n + 1 => by
    simp [forSome, forSome_eq_true (n := n), Nat.lt_succ_iff_lt_or_eq, or_and_right, exists_or, or_comm]

/-! `sumRec`, `allRec`, and further down `fieldRec` and `rankRec`, are `sumFrom`, `forAll`, `fieldOf` and `rank` with the
loop written with `Nat.rec` (`List.rec`) itself and the arithmetic with the functions of `Nat`: the kernel takes one step
of the recursor per round and computes on the numerals at once, where a definition by pattern matching costs it the
unfolding of its compiled form and `+` the unfolding of an instance. -/

def sumRec (n start cnt : Nat) : Nat := Nat.rec 0 (fun i acc => Nat.add acc (val n (Nat.add start i))) cnt

theorem sumFrom_eq_sumRec (n start : Nat) : ∀ cnt, sumFrom n start cnt = sumRec n start cnt
  | 0 => rfl
  | cnt + 1 => congrArg (· + val n (start + cnt)) (sumFrom_eq_sumRec n start cnt)

theorem nKids_eq (s : Nat) : nKids s = sumRec s 2 (nFields s) := sumFrom_eq_sumRec s 2 _

def allRec (n : Nat) (f : Nat → Bool) : Bool := Nat.rec true (fun i ih => f i && ih) n

theorem forAll_eq_allRec (f : Nat → Bool) : ∀ n, forAll n f = allRec n f
  | 0 => rfl
  | n + 1 => congrArg (f n && ·) (forAll_eq_allRec f n)

/-- bit 0 and the bits `orderAt s i`, `i < m` -/
def orderMask (s m : Nat) : Nat := Nat.rec 1 (fun i acc => Nat.lor acc (Nat.pow 2 (orderAt s i))) m

theorem testBit_orderMask (s b : Nat) :
    ∀ m, (orderMask s m).testBit b = (b == 0 || forSome m fun i => Nat.beq (orderAt s i) b)
  | 0 => by
    show Nat.testBit 1 b = _
    cases b <;> simp [forSome, Nat.testBit_succ]
  | m + 1 => by
    show (orderMask s m ||| 2 ^ orderAt s m).testBit b = _
    rw [Nat.testBit_or, testBit_orderMask s b m, Nat.testBit_two_pow, forSome, Bool.or_assoc, Bool.or_comm (forSome _ _)]
    congr 2
    rw [Bool.eq_iff_iff]; simp

/-- as many labels as children, and the labels fill the bits `1..k` of the mask -/
def coversOk' (s : Nat) : Bool :=
  let k := sumRec s 2 (nFields s)
  hasLen s (Nat.add (Nat.add 2 (nFields s)) k) && Nat.beq (orderMask s k) (Nat.sub (Nat.pow 2 (Nat.succ k)) 1)

theorem coversOk_of (s : Nat) (h : coversOk' s = true) : coversOk s = true := by
  simp only [coversOk', ← nKids_eq, Bool.and_eq_true, Nat.beq_eq, Nat.add_eq, Nat.sub_eq, Nat.pow_eq] at h
  have hm : orderLen s = nKids s := by rw [orderLen, rowLen_of_hasLen h.1]; omega
  simp only [coversOk, hm, Bool.and_eq_true, Nat.beq_eq, forAll_eq_true, true_and]
  intro j hj
  have := testBit_orderMask s (j + 1) (nKids s)
  rw [h.2] at this
  simpa [Nat.testBit_two_pow_sub_one, hj] using this.symm

/-- `rowOk` with the lengths of both rows told by `hasLen` -/
def rowOk' (s t : Nat) : Bool :=
  let k := sumRec s 2 (nFields s)
  let o := Nat.add 2 (nFields s)
  let p := Nat.add 3 k
  hasLen s (Nat.add o k) && hasLen t (Nat.add 4 (Nat.mul 2 k)) && Nat.beq (val s 0) (val t 0) && Nat.beq (val t 1) k &&
  allRec (Nat.succ k) (fun i =>
    let a := bif Nat.beq i 0 then 0 else val s (Nat.add o (Nat.sub i 1))
    let b := bif Nat.beq i k then 0 else val s (Nat.add o i)
    Nat.beq (val t (Nat.add 2 a)) b && Nat.beq (val t (Nat.add p b)) a)

theorem rowOk_of (s t : Nat) (h : rowOk' s t = true) : rowOk s t = true := by
  simp only [rowOk', ← nKids_eq, ← forAll_eq_allRec, Bool.and_eq_true, Nat.beq_eq, Nat.add_eq, Nat.mul_eq, Nat.sub_eq,
    Nat.succ_eq_add_one] at h
  obtain ⟨⟨⟨⟨hs, ht⟩, hc⟩, hk⟩, hall⟩ := h
  have hm : orderLen s = nKids s := by rw [orderLen, rowLen_of_hasLen hs]; omega
  have ht' : rowLen t = 2 + 2 * (nKids s + 1) := by rw [rowLen_of_hasLen ht]; omega
  simp only [rowOk, hm, ht', hc, hk, orderAt, nextAt, prevAt, hall, Nat.beq_refl, Bool.and_self]

theorem allOk_eq_zip : ∀ ss ts : List Nat,
    allOk ss ts = (ss.length == ts.length && (ss.zip ts).all fun st => rowOk st.1 st.2)
  | [], [] => rfl
  | [], _ :: _ => by simp [allOk]
  | _ :: _, [] => by simp [allOk]
  | s :: ss, t :: ts => by simp [allOk, allOk_eq_zip ss ts, Bool.and_left_comm]

/-- bit `c` is set for every class `c` that has an entry in `fo` -/
def keyMask (fo : List (Nat × List Nat)) : Nat := fo.foldl (fun m cf => m ||| 2 ^ cf.1) 0

theorem testBit_foldl_or (c : Nat) : ∀ (fo : List (Nat × List Nat)) (m : Nat),
    (fo.foldl (fun m cf => m ||| 2 ^ cf.1) m).testBit c = (m.testBit c || fo.any fun cf => decide (cf.1 = c))
  | [], m => by simp
  | cf :: fo, m => by
    simp [testBit_foldl_or c fo, Nat.testBit_or, Nat.testBit_two_pow, Bool.or_assoc]

theorem isNone_lookup (c : Nat) : ∀ fo : List (Nat × List Nat), (lookup c fo).isNone = !(fo.any fun cf => decide (cf.1 = c))
  | [] => rfl
  | (c', _) :: fo => by
    by_cases e : c = c'
    · subst e; simp [lookup]
    · have hb : Nat.beq c c' = false := by rwa [← Bool.not_eq_true, Nat.beq_eq]
      simp [lookup, hb, isNone_lookup c fo, Ne.symm e]

theorem lookup_eq_none (c : Nat) (fo : List (Nat × List Nat)) (h : (fo.any fun cf => decide (cf.1 = c)) = false) :
    lookup c fo = none :=
  Option.isNone_iff_eq_none.1 (by rw [isNone_lookup, h]; rfl)

/-- a shape of a class without an entry passes `staticOk`, and the mask tells without searching the list -/
theorem staticOk_eq (fo : List (Nat × List Nat)) :
    staticOk fo = fun s => !(keyMask fo).testBit (val s 0) || staticOk fo s := by
  funext s
  cases h : (keyMask fo).testBit (val s 0)
  · rw [keyMask, testBit_foldl_or] at h
    simp only [staticOk, lookup_eq_none _ fo (Bool.or_eq_false_iff.mp h).2, Bool.not_false, Bool.true_or]
  · rfl

/-- `f n`, with `n` computed first: the kernel evaluates the major premise of a recursor to a numeral before it hands it
on, where the application `f n` copies the term `n` to every place `f` uses it. -/
def atVal {α : Type} (n : Nat) (f : Nat → α) : α := Nat.rec (f 0) (fun k _ => f (Nat.succ k)) n

theorem atVal_eq {α : Type} (n : Nat) (f : Nat → α) : atVal n f = f n := by cases n <;> rfl

def fieldRec (s lab n : Nat) : Nat :=
  Nat.rec 0 (fun fi ih => bif Nat.blt (sumRec s 2 (Nat.succ fi)) lab then Nat.succ fi else ih) n

theorem fieldOf_eq_fieldRec (s lab : Nat) : ∀ n, fieldOf s lab n = fieldRec s lab n
  | 0 => rfl
  | n + 1 => by
    show (bif Nat.blt (sumFrom s 2 (n + 1)) lab then n + 1 else fieldOf s lab n) = _
    rw [sumFrom_eq_sumRec, fieldOf_eq_fieldRec s lab n]
    rfl

noncomputable def rankRec (f : Nat) (fo : List Nat) : Nat :=
  List.rec 0 (fun x _ ih => bif Nat.beq x f then 0 else Nat.succ ih) fo

theorem rank_eq_rankRec (f : Nat) : ∀ fo, rank f fo = rankRec f fo
  | [] => rfl
  | x :: xs => congrArg (fun r => bif Nat.beq x f then 0 else r + 1) (rank_eq_rankRec f xs)

/-- the key of the `i`-th label of a shape with `n` fields, its labels from entry `o` on -/
noncomputable def keyRec (s : Nat) (fo : List Nat) (n o i : Nat) : Nat :=
  atVal (val s (Nat.add o i)) fun lab => Nat.add (Nat.mul (rankRec (fieldRec s lab n) fo) 128) lab

theorem le_last_of_increasing {f : Nat → Nat} : ∀ {m}, (∀ i < m, f i < f (i + 1)) → ∀ i ≤ m, f i ≤ f m
  | 0, _, i, hi => by rw [Nat.le_zero.1 hi]; exact Nat.le_refl _
  | m + 1, h, i, hi => by
    rcases Nat.lt_or_eq_of_le hi with hlt | rfl
    · exact Nat.le_trans (le_last_of_increasing (fun j hj => h j (Nat.lt_succ_of_lt hj)) i (Nat.le_of_lt_succ hlt))
        (Nat.le_of_lt (h m (Nat.lt_succ_self m)))
    · exact Nat.le_refl _

/-- `staticOk` for a shape whose class has the field order `fo`: the keys increase, so the last one bounds every rank -/
noncomputable def keysOk (s : Nat) (fo : List Nat) : Bool :=
  let n := nFields s
  let k := sumRec s 2 n
  let key := keyRec s fo n (Nat.add 2 n)
  hasLen s (Nat.add (Nat.add 2 n) k) && allRec (Nat.pred k) (fun i => Nat.blt (key i) (key (Nat.succ i)))
    && (Nat.beq k 0 || Nat.blt (key (Nat.pred k)) (Nat.mul fo.length 128))

/-- `staticOk`: the bit test for the classes without a field order, then the search with the class computed once -/
noncomputable def staticOk' (fo : List (Nat × List Nat)) (s : Nat) : Bool :=
  !(keyMask fo).testBit (val s 0) ||
    atVal (val s 0) fun c => List.rec true (fun cf _ ih => bif Nat.beq c cf.1 then keysOk s cf.2 else ih) fo

theorem staticOk_of (fo : List (Nat × List Nat)) (s : Nat) (h : staticOk' fo s = true) : staticOk fo s = true := by
  rw [staticOk_eq]
  show (!(keyMask fo).testBit (val s 0) || staticOk fo s) = true
  rw [staticOk', atVal_eq] at h
  cases hb : (keyMask fo).testBit (val s 0)
  · rfl
  simp only [hb, Bool.not_true, Bool.false_or] at h ⊢
  clear hb
  unfold staticOk
  induction fo with
  | nil => rfl
  | cons cf fo ih =>
    obtain ⟨c, f⟩ := cf
    rw [lookup]
    cases hc : Nat.beq (val s 0) c
    · exact ih (by simpa only [hc, cond_false] using h)
    · replace h : keysOk s f = true := by simpa only [hc, cond_true] using h
      simp only [keysOk, keyRec, atVal_eq, ← nKids_eq, ← forAll_eq_allRec, ← fieldOf_eq_fieldRec, ← rank_eq_rankRec,
        Bool.and_eq_true, Bool.or_eq_true, Nat.beq_eq, Nat.blt_eq, Nat.add_eq, Nat.mul_eq, Nat.pred_eq_sub_one,
        Nat.succ_eq_add_one, forAll_eq_true] at h
      obtain ⟨⟨hs, hinc⟩, hlast⟩ := h
      have hm : orderLen s = nKids s := by rw [orderLen, rowLen_of_hasLen hs]; omega
      simp only [cond_true, hm, orderAt, Bool.and_eq_true, forAll_eq_true, Nat.blt_eq]
      refine ⟨hinc, fun i hi => ?_⟩
      have := le_last_of_increasing hinc i (by omega)
      omega

theorem nonStatic_eq (classes : List String) (fo : List (Nat × List Nat)) :
    nonStatic classes fo
      = ((List.range classes.length).filter fun c => !(keyMask fo).testBit c).map fun c => classes.getD c "" := by
  simp only [nonStatic, isNone_lookup, keyMask, testBit_foldl_or, Nat.zero_testBit, Bool.false_or]

end Pfst.TableCheck
