import Pfst.ReconcileQuiet
/-!
Untouched subtrees of the edited tree (`keptN`) lie outside the region rewritten by every operation of the reconcile trace
(`Pfst/Reconcile.lean`).  `slice_ops_char` and `seq_ops_char` say where the operations of the list loops come from;
`kept_node` is the induction along the path to the untouched subtree.
-/
namespace Pfst.Reconcile

theorem touches_pre (o : Op) (j i : Nat) (p : Path) : touches (o.pre j) (i :: p) = (j == i && touches o p) := by
  simp [touches, Op.pre, touchesAt]

/-- the element is an in-tree node in place (only such an element can be part of an untouched region) -/
def keptElem (np : NP) (fi j : Nat) : T → Bool
  | .node (.tree l) _ _ => inPlace np [fi, j] l
  | _ => false

theorem putsFirst_not_keptElem (np : NP) (fi j : Nat) (y : T) (h : putsFirst np [fi, j] y = true) : keptElem np fi j y = false := by
  cases y with
  | node o k cs =>
    cases o with
    | tree l => simpa [putsFirst, keptElem] using h
    | _ => rfl
  | _ => rfl

theorem okOrigin_not_keptElem (np : NP) (fi j : Nat) (y : T) (h : okOrigin y.origin = true) : keptElem np fi j y = false := by
  cases y with
  | node o k cs =>
    cases o with
    | tree l => simp [T.origin, okOrigin] at h
    | _ => simp [keptElem]
  | _ => simp [keptElem]

theorem runFree_get (np : NP) (fi : Nat) : ∀ (body : List T) (i g : Nat), runFree np fi i g body = true →
    ∀ j, j < g → ∀ y, body[j]? = some y → runElem np fi (i + j) y = true
  | [], _, _, _, _, _, _, hy => by simp at hy
  | x :: rest, i, 0, _, j, hj, _, _ => by omega
  | x :: rest, i, g + 1, h, j, hj, y, hy => by
    simp only [runFree, Bool.and_eq_true] at h
    cases j with
    | zero => simp at hy; subst hy; exact h.1
    | succ j =>
      simp at hy
      have := runFree_get np fi rest (i + 1) g h.2 j (by omega) y hy
      rw [show i + (j + 1) = i + 1 + j by omega]; exact this

theorem allOk_get : ∀ (l : List T), allOk l = true → ∀ (j : Nat) (y : T), l[j]? = some y → okOrigin y.origin = true
  | [], _, _, _, hy => by simp at hy
  | x :: rest, h, j, y, hy => by
    simp only [allOk, Bool.and_eq_true] at h
    cases j with
    | zero => simp at hy; subst hy; exact h.1
    | succ j => simp at hy; exact allOk_get rest h.2 j y hy

theorem head_ops (mark : T) (np : NP) (fi : Nat) (ns : Option Nat) (i : Nat) (run : Run) (cur : List T) (x : T)
    (rest : List T) (hwf : (x :: rest).all (elemOK mark) = true) :
    ∀ op ∈ (headState mark np fi ns i run cur x rest).1, ∃ n src pl, op = ⟨[], .putSlice i (i + n) src false pl⟩ ∧
      ∀ j, i ≤ j → j < i + n → ∃ y, (x :: rest)[j - i]? = some y ∧ keptElem np fi j y = false := by
  intro op hop
  rcases headState_spec mark np fi ns i run cur x rest hwf with
    ⟨_, hd⟩ | ⟨_, n, _, hd⟩ | ⟨_, n, src, pl, run1, _, hnle, _, hd, hrun⟩
  · simp [hd] at hop
  · simp [hd] at hop
  · simp only [hd, List.mem_singleton] at hop
    refine ⟨n, src, pl, hop, fun j h1 h2 => ?_⟩
    have hlt : j - i < (x :: rest).length := by omega
    refine ⟨_, List.getElem?_eq_getElem hlt, ?_⟩
    rcases hrun with ⟨_, _, hok⟩ | ⟨_, pp, cfi, ci, k, cs, rfl, rfl, _, hC⟩
    · have hg : ((x :: rest).take n)[j - i]? = some (x :: rest)[j - i] := by
        rw [List.getElem?_take, if_pos (by omega)]; exact List.getElem?_eq_getElem hlt
      exact okOrigin_not_keptElem np fi j _ (allOk_get _ hok _ _ hg)
    · have := runFree_get np fi _ i _ (runFree_run np fi i pp cfi ci k cs rest hC) (j - i) (by omega) _
        (List.getElem?_eq_getElem hlt)
      rw [show i + (j - i) = j by omega] at this
      exact putsFirst_not_keptElem np fi j _ (runElem_putsFirst np fi j _ this)

/-- an operation of the slice loop over `items`: a slice put covering only elements that are not in place, a tail deletion
from beyond the last element, or an operation of `recurse_node` on element `j` run on a slot content `ok` that is either
irrelevant (the node is put again first) or the one the slot hypothesis names -/
inductive SliceOp (mark : T) (np : NP) (fi : Nat) (items : List T) : Op → Prop
  | putSlice (a b : Nat) (src : Src) (one : Bool) (pl : List T)
      (h : ∀ j, a ≤ j → j < b → ∃ y, items[j]? = some y ∧ keptElem np fi j y = false) :
      SliceOp mark np fi items ⟨[], .putSlice a b src one pl⟩
  | delTail (a : Nat) (h : items.length ≤ a) : SliceOp mark np fi items ⟨[], .delTail a⟩
  | elem (j : Nat) (y ok : T) (op' : Op) (hy : items[j]? = some y)
      (hs : putsFirst np [fi, j] y = true ∨ slot mark np [fi, j] ok y) (hm : op' ∈ (recNode mark np [fi, j] ok y).ops) :
      SliceOp mark np fi items (op'.pre j)

theorem mem_seqR_ops {i : Nat} {r r2 : R} {op : Op} (h : op ∈ (seqR i r r2).ops) : op ∈ preAll i r.ops ∨ op ∈ r2.ops := by
  unfold seqR at h
  split at h
  · exact Or.inl h
  · exact List.mem_append.mp h

theorem slice_ops_char (mark : T) (np : NP) (fi : Nat) (ns : Option Nat) (items : List T) :
    ∀ (body : List T) (i : Nat) (run : Run) (cur bt : List T) (g : Nat), items.drop i = body →
    wfEs mark body = true → elemSlots mark np fi false i bt body → SI np fi i run cur body bt g →
    ∀ op ∈ (recSliceGo mark np fi ns false i run cur body).ops, SliceOp mark np fi items op
  | [], i, run, cur, bt, g, hd, _, _, _, op, hop => by
    rw [recSliceGo_nil] at hop
    split at hop
    · exact List.mem_singleton.mp hop ▸ .delTail i (List.drop_eq_nil_iff.mp hd)
    · cases hop
  | x :: rest, i, run, cur, bt, g, hd, hwf, hsl, hsi, op, hop => by
    have helems := wfEs_elemsOK mark _ hwf
    obtain ⟨ops0, r, ok, run', cur', g', heq, hr, hops0, _, _, _, hsi'⟩ :=
      slice_step mark np fi ns false i run cur bt g x rest helems hsl hsi
    rw [heq] at hop
    rcases List.mem_append.mp hop with h | h
    · -- the slice put at the head of a run, or the insertion past the end
      rcases hops0 op h with h | rfl
      · obtain ⟨n, src, pl, rfl, hr⟩ := head_ops mark np fi ns i run cur x rest helems op h
        exact .putSlice i (i + n) src false pl fun j h1 h2 => getElem?_sub_of_drop hd h1 ▸ hr j h1 h2
      · exact .putSlice i i _ _ _ fun j h1 h2 => by omega
    · rcases mem_seqR_ops h with h | h
      · obtain ⟨op', hm, rfl⟩ := List.mem_map.mp h
        rcases hr with ⟨rfl, _⟩ | ⟨rfl, heh⟩
        · cases hm
        · exact .elem i x ok op' (getElem?_of_drop_cons hd) (ElemHyp_plain mark np fi i ok x heh)
            (by simpa [elemRes] using hm)
      · simp only [wfEs, Bool.and_eq_true] at hwf
        exact slice_ops_char mark np fi ns items rest (i + 1) run' cur' bt.tail g' (drop_succ_of_cons hd) hwf.2
          (elemSlots_tail mark np fi false i bt x rest hsl) hsi' op h

/-- `F` is a loop that runs `step` on one child after the other (`recPlain`, `recFields`). -/
theorem seq_ops_char (step : Nat → T → T → R) (F : Nat → List T → List T → R) (hnil : ∀ j oks, (F j oks []).ops = [])
    (hcons : ∀ j oks c rest, F j oks (c :: rest) = seqR j (step j (oks.headD .nil) c) (F (j + 1) oks.tail rest))
    (items oks : List T) : ∀ (body : List T) (j : Nat), items.drop j = body → ∀ op ∈ (F j (oks.drop j) body).ops,
      ∃ j' y op', items[j']? = some y ∧ op' ∈ (step j' ((oks[j']?).getD .nil) y).ops ∧ op = op'.pre j'
  | [], j, _, op, hop => by simp [hnil] at hop
  | c :: rest, j, hd, op, hop => by
    rw [hcons] at hop
    cases mem_seqR_ops hop with
    | inl h =>
      obtain ⟨op', hm, rfl⟩ := List.mem_map.mp h
      rw [List.headD_eq_head?_getD, List.head?_drop] at hm
      exact ⟨j, c, op', getElem?_of_drop_cons hd, hm, rfl⟩
    | inr h =>
      rw [List.tail_drop] at h
      exact seq_ops_char step F hnil hcons items oks rest (j + 1) (drop_succ_of_cons hd) op h

theorem plain_ops_char (mark : T) (np : NP) (fi : Nat) (items oks : List T) :
    ∀ op ∈ (recPlain mark np fi 0 oks items).ops, ∃ j y op', items[j]? = some y ∧
      op' ∈ (recNode mark np [fi, j] ((oks[j]?).getD .nil) y).ops ∧ op = op'.pre j :=
  seq_ops_char (fun j ok c => recNode mark np [fi, j] ok c) (recPlain mark np fi) (fun _ _ => by rw [recPlain])
    (recPlain_cons mark np fi) items oks items 0 rfl

theorem fields_ops_char (mark : T) (np : NP) (fs oks : List T) :
    ∀ op ∈ (recFields mark np 0 oks fs).ops, ∃ j c op', fs[j]? = some c ∧
      op' ∈ (fieldRes mark np j ((oks[j]?).getD .nil) c).ops ∧ op = op'.pre j :=
  seq_ops_char (fieldRes mark np) (recFields mark np) (fun _ _ => by rw [recFields]) (recFields_cons mark np) fs oks fs 0 rfl

theorem wfFs_get (mark : T) : ∀ (l : List T) (j : Nat) (c : T), wfFs mark l = true → l[j]? = some c →
    (match c with
     | .many _ md items => md ≠ 2 → wfEs mark items = true
     | c => wfN mark c = true)
  | [], _, _, _, hy => by simp at hy
  | x :: r, 0, c, h, hy => by
    obtain rfl : x = c := by simpa using hy
    have hx := (wfFs_cons mark x r h).1
    cases x with
    | many s md items => intro hmd; simpa [hmd] using hx
    | _ => exact hx
  | x :: r, j + 1, c, h, hy => wfFs_get mark r j c (wfFs_cons mark x r h).2 (by simpa using hy)

theorem shapeOK_get : ∀ (ms cs : List T) (j : Nat) (c : T), shapeOK ms cs = true → cs[j]? = some c →
    ∃ m, ms[j]? = some m ∧ fieldOK m c = true
  | [], [], _, _, _, hy => by simp at hy
  | [], _ :: _, _, _, h, _ => by simp [shapeOK] at h
  | _ :: _, [], _, _, h, _ => by simp [shapeOK] at h
  | m :: ms, c' :: cs, j, c, h, hy => by
    simp only [shapeOK, Bool.and_eq_true] at h
    cases j with
    | zero => simp at hy; subst hy; exact ⟨m, by simp, h.1⟩
    | succ j => simp at hy; simpa using shapeOK_get ms cs j c h.2 hy

theorem keptN_cons (mark : T) (fi : Nat) (p : Path) (np : NP) (rel : Path) (n : T)
    (h : keptN mark (fi :: p) np rel n = true) :
    ∃ l k cs, n = .node (.tree l) k cs ∧ inPlace np rel l = true ∧
      (recFields mark (.fst 0 (qOf l)) 0 (eraseL (markAt mark (qOf l)).kids) cs).fail = false ∧
      ((∃ o k' cs', cs[fi]? = some (.node o k' cs') ∧ keptN mark p (.fst 0 (qOf l)) [fi] (.node o k' cs') = true) ∨
       (∃ s md items i p' x, cs[fi]? = some (.many s md items) ∧ md ≠ 2 ∧ p = i :: p' ∧ items[i]? = some x ∧
          keptN mark p' (.fst 0 (qOf l)) [fi, i] x = true)) := by
  cases n with
  | node o k cs =>
    cases o with
    | tree l =>
      simp only [keptN, Bool.and_eq_true, Bool.not_eq_true'] at h
      obtain ⟨⟨hin, hnf⟩, hch⟩ := h
      refine ⟨l, k, cs, rfl, hin, hnf, ?_⟩
      split at hch
      · rename_i s md items hc
        simp only [Bool.and_eq_true, bne_iff_ne, ne_eq] at hch
        split at hch
        · rename_i i p'
          split at hch
          · rename_i x hx
            exact Or.inr ⟨s, md, items, i, p', x, hc, hch.1, rfl, hx, hch.2⟩
          · simp at hch
        · simp at hch
      · rename_i o' k' cs' hc
        exact Or.inl ⟨o', k', cs', hc, hch⟩
      · cases hch
    | _ => simp [keptN] at h
  | _ => simp [keptN] at h

theorem keptN_inPlace (mark : T) (p : Path) (np : NP) (rel : Path) (n : T) (h : keptN mark p np rel n = true) :
    ∃ l k cs, n = .node (.tree l) k cs ∧ inPlace np rel l = true := by
  cases p with
  | nil => exact stillN_inPlace mark np rel n (by simpa [keptN] using h)
  | cons fi p =>
    obtain ⟨l, k, cs, e, hin, _⟩ := keptN_cons mark fi p np rel n h
    exact ⟨l, k, cs, e, hin⟩

theorem kept_many (mark : T) (q : Path) (fi : Nat) (s : Option Nat) (md : Nat) (items mitems : List T) (i : Nat) (p : Path)
    (x : T) (hmd : md ≠ 2) (hwe : wfEs mark items = true) (hm : markAt mark (q ++ [fi]) = .many s md mitems)
    (hx : items[i]? = some x) (hkx : keptElem (.fst 0 q) fi i x = true)
    (IH : ∀ ok, slot mark (.fst 0 q) [fi, i] ok x → ∀ op ∈ (recNode mark (.fst 0 q) [fi, i] ok x).ops, touches op p = false) :
    ∀ op ∈ (fieldRes mark (.fst 0 q) fi (.many s md (eraseL mitems)) (.many s md items)).ops, touches op (i :: p) = false := by
  intro op hop
  have hk : (markAt mark (q ++ [fi])).kids = mitems := by rw [hm]; rfl
  -- an operation of `recurse_node` on element `j`: elsewhere if `j ≠ i`, the hypothesis on `x` if `j = i`
  have helem : ∀ j y ok op', items[j]? = some y → putsFirst (.fst 0 q) [fi, j] y = true ∨ slot mark (.fst 0 q) [fi, j] ok y →
      op' ∈ (recNode mark (.fst 0 q) [fi, j] ok y).ops → touches (op'.pre j) (i :: p) = false := by
    intro j y ok op' hy hs hmem
    rw [touches_pre]
    by_cases hji : j = i
    · subst hji
      obtain rfl : y = x := Option.some.inj (hy.symm.trans hx)
      cases hs with
      | inl h => rw [putsFirst_not_keptElem _ _ _ _ h] at hkx; cases hkx
      | inr h => simp [IH ok h op' hmem]
    · simp [hji]
  rw [fieldRes_many] at hop
  simp only [hmd, if_false, T.kids] at hop
  by_cases h1 : md = 1
  · simp only [h1, if_true] at hop
    have hsl := elemSlots_mark mark q fi items 0 hwe
    rw [hk, List.drop_zero] at hsl
    rcases slice_ops_char mark (.fst 0 q) fi s items items 0 {} (eraseL mitems) (eraseL mitems) 0 rfl hwe hsl (SI_start _ _ _ _)
        op hop with
      ⟨a, b, src, one, pl, hr⟩ | ⟨a, ha⟩ | ⟨j, y, ok, op', hy, hs, hmem⟩
    · cases hc : touches ⟨[], .putSlice a b src one pl⟩ (i :: p) with
      | false => rfl
      | true =>
        simp only [touches, touchesAt, Bool.and_eq_true, decide_eq_true_eq] at hc
        obtain ⟨y, hy, hk'⟩ := hr i hc.1 hc.2
        obtain rfl : y = x := Option.some.inj (hy.symm.trans hx)
        rw [hkx] at hk'; cases hk'
    · obtain ⟨hlt, _⟩ := List.getElem?_eq_some_iff.mp hx
      simp only [touches, touchesAt, decide_eq_false_iff_not]; omega
    · exact helem j y ok op' hy hs hmem
  · simp only [h1, if_false] at hop
    by_cases hl : items.length = (eraseL mitems).length
    case neg => simp [hl] at hop
    simp only [hl, if_true] at hop
    obtain ⟨j, y, op', hy, hmem, rfl⟩ := plain_ops_char mark (.fst 0 q) fi items (eraseL mitems) op hop
    refine helem j y _ op' hy (Or.inr ?_) hmem
    rw [eraseL_getElem?, ← hk, ← markAt_elem]
    exact slot_mark mark _ q _ _ rfl

/-- An untouched subtree (reached through in-place ancestors at which no fallback fires) is outside the region of every
operation emitted for the node: a node in place is not put again, so its trace is that of its fields; an operation on another
field is elsewhere; the field the path enters is a node (the same statement one step down) or a list (`kept_many`). -/
theorem kept_node (mark : T) (p : Path) : ∀ (n : T) (np : NP) (rel : Path) (outa : T),
    wfN mark n = true → keptN mark p np rel n = true → slot mark np rel outa n →
    ∀ op ∈ (recNode mark np rel outa n).ops, touches op p = false := by
  induction p using (measure List.length).wf.induction with | _ p IH => ?_
  intro n np rel outa hwf hk hs op hop
  cases p with
  | nil =>
    rw [recNode_quiet mark n np rel outa (by simpa [keptN] using hk) hs] at hop
    cases hop
  | cons fi p =>
    obtain ⟨l, k, cs, rfl, hin, hnf, hchild⟩ := keptN_cons mark fi p np rel n hk
    obtain ⟨mo, mcs, hmq, hshape, hcs⟩ := wfN_tree mark l k cs hwf
    obtain ⟨q', hb, hq⟩ := inPlace_base _ _ _ hin
    simp only [slot, hb, ← hq, hmq] at hs
    subst hs
    simp only [hmq, T.kids] at hnf
    rw [erase, recNode_inPlace _ _ _ _ _ _ _ _ _ hin] at hop
    simp only [hnf, Bool.false_eq_true, if_false] at hop
    obtain ⟨j, c, op', hc, hmem, rfl⟩ := fields_ops_char mark (.fst 0 (qOf l)) cs (eraseL mcs) op hop
    rw [touches_pre]
    by_cases hji : j = fi
    case neg => simp [hji]
    subst hji
    have hok : ((eraseL mcs)[j]?).getD .nil = erase (markAt mark (qOf l ++ [j])) := by
      rw [eraseL_getElem?, markAt_snoc, hmq]; rfl
    rw [hok] at hmem
    have hwc := wfFs_get mark cs j c hcs hc
    rcases hchild with ⟨o', k', cs', hc', hkc⟩ | ⟨s, md, items, i, p', x, hc', hmd, rfl, hx, hkx⟩
    · obtain rfl : c = .node o' k' cs' := Option.some.inj (hc.symm.trans hc')
      have := IH p (Nat.lt_succ_self _) _ (.fst 0 (qOf l)) [j] _ hwc hkc (slot_mark mark _ (qOf l) [j] _ rfl) op'
        (fieldRes_node .. ▸ hmem)
      simp [this]
    · obtain rfl : c = .many s md items := Option.some.inj (hc.symm.trans hc')
      have hwes : wfEs mark items = true := hwc hmd
      obtain ⟨m, hmj, hfo⟩ := shapeOK_get mcs cs j _ hshape hc
      have hmm : markAt mark (qOf l ++ [j]) = m := by rw [markAt_snoc, hmq]; simp [T.kids, hmj]
      cases m with
      | many s' md' mitems =>
        simp only [fieldOK, Bool.and_eq_true, beq_iff_eq] at hfo
        obtain ⟨⟨rfl, rfl⟩, _⟩ := hfo
        simp only [hmm, erase] at hmem
        obtain ⟨lx, kx, csx, rfl, hinx⟩ := keptN_inPlace mark p' _ _ x hkx
        have := kept_many mark (qOf l) j s md items mitems i p' _ hmd hwes hmm hx (by simpa [keptElem] using hinx)
          (fun ok hs' => IH p' (Nat.lt_succ_of_lt (Nat.lt_succ_self _)) _ (.fst 0 (qOf l)) [j, i] ok
            (wfEs_mem mark items hwes _ (List.mem_of_getElem? hx)) hkx hs') op' hmem
        simp [this]
      | _ => simp [fieldOK] at hfo

end Pfst.Reconcile
