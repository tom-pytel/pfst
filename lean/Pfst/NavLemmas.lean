import Pfst.WalkLemmas
/-!
# Pfst.NavLemmas — sibling navigation, stepping and path theorems for the `Pfst.Walk` model (C14)
-/
namespace Pfst.Walk

theorem nav_preL_false_append (a b : List Node) : preL false (a ++ b) = preL false a ++ preL false b :=
  preL_false_append a b

mutual
theorem pre_length (b : Bool) : (n : Node) → (pre b n).length = size n
  | .mk i l c k ks => by simp [pre, size, preL_length b ks]; omega
theorem preL_length (b : Bool) : (ks : List Node) → (preL b ks).length = sizeL ks
  | [] => by simp [preL, sizeL]
  | k :: ks => by
    cases b <;> simp [preL, sizeL, pre_length _ k, preL_length _ ks]
    omega
end

theorem mem_preL_false {x : Node} {ks : List Node} : x ∈ preL false ks ↔ ∃ k ∈ ks, x ∈ pre false k := by
  rw [preL_false_eq_flatMap, List.mem_flatMap]

theorem iter_none (f : Loc → Option Loc) (n : Nat) : iter f n none = [] := by
  cases n <;> rfl

theorem nextFrom_some (p : Node → Bool) (par : Node) (c : List Frame) :
    ∀ (ls rs : List Node) (m : Loc), nextFrom p par c ls rs = some m →
      ∃ sk rs', rs = sk ++ m.focus :: rs' ∧ (∀ x ∈ sk, p x = false) ∧ p m.focus = true ∧
        m.ctx = ⟨par, sk.reverse ++ ls, rs'⟩ :: c
  | _, [], m, h => by simp [nextFrom] at h
  | ls, r :: rs, m, h => by
    rw [nextFrom] at h
    cases hr : p r
    · rw [hr] at h
      obtain ⟨sk, rs', h1, h2, h3, h4⟩ := nextFrom_some p par c (r :: ls) rs m h
      exact ⟨r :: sk, rs', by rw [h1]; rfl, List.forall_mem_cons.mpr ⟨hr, h2⟩, h3, by simp [h4]⟩
    · simp only [hr, if_true, Option.some.injEq] at h
      subst h
      exact ⟨[], rs, rfl, nofun, hr, rfl⟩

theorem nextFrom_none (p : Node → Bool) (par : Node) (c : List Frame) (ls rs : List Node) :
    nextFrom p par c ls rs = none ↔ ∀ x ∈ rs, p x = false := by
  induction rs generalizing ls with
  | nil => simp [nextFrom]
  | cons r rs ih =>
    rw [nextFrom]
    cases hr : p r <;> simp [hr, ih]

theorem nextFrom_skip (p : Node → Bool) (par : Node) (c : List Frame) (sk : List Node)
    (hsk : ∀ x ∈ sk, p x = false) (ls rs : List Node) :
    nextFrom p par c ls (sk.reverse ++ rs) = nextFrom p par c (sk ++ ls) rs := by
  induction sk generalizing rs with
  | nil => rfl
  | cons x sk ih =>
    have hx : p x = false := hsk x List.mem_cons_self
    have := ih (fun y hy => hsk y (List.mem_cons_of_mem _ hy)) (x :: rs)
    simp only [List.reverse_cons, List.append_assoc, List.cons_append, List.nil_append]
    rw [this, nextFrom]; simp [hx]

theorem iter_next_nextFrom (p : Node → Bool) (par : Node) (c : List Frame) :
    ∀ (rs ls : List Node) (n : Nat), rs.length ≤ n →
      iter (next p) n (nextFrom p par c ls rs) = rs.filter p
  | [], ls, n, _ => by simp [nextFrom, iter_none]
  | r :: rs, ls, n + 1, hn => by
    have ih := iter_next_nextFrom p par c rs (r :: ls)
    rw [nextFrom]
    cases hr : p r
    · simpa [hr] using ih (n + 1) (by simp at hn; omega)
    · simpa [hr, iter, next] using ih n (by simpa using hn)

/-! `prev` is `next` with the two sides of the innermost frame exchanged. -/

def Loc.swap : Loc → Loc
  | ⟨f, ⟨par, ls, rs⟩ :: c⟩ => ⟨f, ⟨par, rs, ls⟩ :: c⟩
  | l => l

theorem Loc.swap_swap : ∀ l : Loc, l.swap.swap = l
  | ⟨_, []⟩ | ⟨_, _ :: _⟩ => rfl

theorem Loc.focus_swap : ∀ l : Loc, l.swap.focus = l.focus
  | ⟨_, []⟩ | ⟨_, _ :: _⟩ => rfl

theorem map_swap_eq_some {o : Option Loc} {l : Loc} : o.map Loc.swap = some l ↔ o = some l.swap := by
  cases o with
  | none => simp
  | some m => exact ⟨fun h => by rw [← Option.some.inj h, Loc.swap_swap], fun h => by rw [Option.some.inj h, Option.map, Loc.swap_swap]⟩

theorem prevFrom_eq (p : Node → Bool) (par : Node) (c : List Frame) (ls rs : List Node) :
    prevFrom p par c ls rs = (nextFrom p par c rs ls).map Loc.swap := by
  induction ls generalizing rs with
  | nil => rfl
  | cons l ls ih =>
    rw [prevFrom, nextFrom, ih]
    cases p l <;> rfl

theorem prev_eq (p : Node → Bool) : ∀ l : Loc, prev p l = (next p l.swap).map Loc.swap
  | ⟨_, []⟩ => rfl
  | ⟨_, ⟨_, _, _⟩ :: _⟩ => prevFrom_eq ..

theorem prevFrom_none (p : Node → Bool) (par : Node) (c : List Frame) (ls rs : List Node) :
    prevFrom p par c ls rs = none ↔ ∀ x ∈ ls, p x = false := by
  rw [prevFrom_eq, Option.map_eq_none_iff, nextFrom_none]

theorem next_prev_inverse (p : Node → Bool) (a b : Loc) (ha : p a.focus = true)
    (h : next p a = some b) : prev p b = some a := by
  obtain ⟨f, ctx⟩ := a
  cases ctx with
  | nil => simp [next] at h
  | cons fr c =>
    obtain ⟨par, ls, rs⟩ := fr
    obtain ⟨sk, rs', h1, h2, h3, h4⟩ := nextFrom_some p par c (f :: ls) rs b h
    obtain ⟨g, bctx⟩ := b
    simp only at h1 h4 ha
    subst h4 h1
    -- going back from `g`, the siblings skipped on the way are skipped again
    rw [prev, prevFrom_eq, nextFrom_skip p par c sk h2, nextFrom]
    simp [ha, Loc.swap]

theorem prev_next_inverse (p : Node → Bool) (a b : Loc) (ha : p a.focus = true)
    (h : prev p a = some b) : next p b = some a := by
  rw [prev_eq, map_swap_eq_some] at h
  have := next_prev_inverse p a.swap b.swap (by rwa [Loc.focus_swap]) h
  rwa [prev_eq, map_swap_eq_some, Loc.swap_swap, Loc.swap_swap] at this

theorem iter_prev_map_swap (p : Node → Bool) : ∀ (n : Nat) (o : Option Loc),
    iter (prev p) n (o.map Loc.swap) = iter (next p) n o
  | 0, _ => rfl
  | _ + 1, none => rfl
  | n + 1, some l => by
    rw [Option.map, iter, iter, Loc.focus_swap, prev_eq, Loc.swap_swap, iter_prev_map_swap p n]

theorem children_fwd (p : Node → Bool) (l : Loc) :
    iter (fun c => nextChild p l (some c)) l.focus.kids.length (nextChild p l none) = l.focus.kids.filter p :=
  iter_next_nextFrom p l.focus l.ctx l.focus.kids [] _ (Nat.le_refl _)

theorem children_back (p : Node → Bool) (l : Loc) :
    iter (fun c => prevChild p l (some c)) l.focus.kids.length (prevChild p l none) = l.focus.kids.reverse.filter p := by
  show iter (prev p) _ (prevFrom p _ _ _ _) = _
  rw [prevFrom_eq, iter_prev_map_swap]
  exact iter_next_nextFrom p l.focus l.ctx l.focus.kids.reverse [] _ (by simp)

/-- `o` is the first location in the sequence `s` whose focus satisfies `p` (`r` = remainder after a location) -/
def FirstSat (p : Node → Bool) (r : Loc → List Node) (s : List Node) : Option Loc → Prop
  | some m => ∃ sk, s = sk ++ m.focus :: r m ∧ (∀ x ∈ sk, p x = false) ∧ p m.focus = true
  | none => ∀ x ∈ s, p x = false

theorem FirstSat.cons {p : Node → Bool} {r : Loc → List Node} {s : List Node} {o : Option Loc}
    (x : Node) (hx : p x = false) (h : FirstSat p r s o) : FirstSat p r (x :: s) o := by
  cases o with
  | none => exact List.forall_mem_cons.mpr ⟨hx, h⟩
  | some m =>
    obtain ⟨sk, h1, h2, h3⟩ := h
    exact ⟨x :: sk, by rw [h1]; rfl, List.forall_mem_cons.mpr ⟨hx, h2⟩, h3⟩

/-- where `step_fwd` / `step_back` go from `l`: to `child l` if there is one and else to `asc l` -/
def move (child asc : Loc → Option Loc) (l : Loc) : Option Loc :=
  match child l with
  | some ch => some ch
  | none => asc l

theorem bind_move (child asc f : Loc → Option Loc) (l : Loc) :
    (match child l with
      | some ch => f ch
      | none => match asc l with
        | none => none
        | some n => f n) = (move child asc l).bind f := by
  unfold move
  cases child l with
  | some _ => rfl
  | none => cases asc l <;> rfl

/-! What `step_fwd` and `step_back` share.  `loop` tests its candidate and otherwise moves on; `r l` lists what comes after
`l` in the order walked, and the move leads to its head. -/
section loop
variable (p : Node → Bool) (r : Loc → List Node) (child asc : Loc → Option Loc) (loop : Nat → Loc → Option Loc)
  (hloop : ∀ fuel l, loop (fuel + 1) l = if p l.focus then some l else
    match child l with
    | some ch => loop fuel ch
    | none => match asc l with
      | none => none
      | some n => loop fuel n)
  (hmove : ∀ l, r l = match move child asc l with
    | some n => n.focus :: r n
    | none => [])
include hloop hmove

theorem loop_spec : ∀ (fuel : Nat) (l : Loc), (r l).length < fuel → FirstSat p r (l.focus :: r l) (loop fuel l)
  | 0, _, h => absurd h (Nat.not_lt_zero _)
  | fuel + 1, l, h => by
    rw [hloop]
    cases hp : p l.focus
    case true => exact ⟨[], rfl, nofun, hp⟩
    refine FirstSat.cons _ hp ?_
    simp only [Bool.false_eq_true, if_false]
    have hr := hmove l
    rw [bind_move]
    cases hm : move child asc l with
    | none => rw [hm] at hr; rw [hr]; exact nofun
    | some n =>
      rw [hm] at hr
      rw [hr] at h ⊢
      exact loop_spec fuel n (Nat.lt_of_succ_lt_succ h)

/-- the step functions make the first move unconditionally, with fuel for everything that follows -/
theorem step_spec (step : Loc → Option Loc)
    (hstep : ∀ l, step l = match child l with
      | some ch => loop (r l).length ch
      | none => match asc l with
        | none => none
        | some n => loop (r l).length n) (l : Loc) :
    FirstSat p r (r l) (step l) := by
  have hl := loop_spec p r child asc loop hloop hmove (r l).length
  have hr := hmove l
  rw [hstep, bind_move]
  cases hm : move child asc l with
  | none => rw [hm] at hr; rw [hr]; exact nofun
  | some n =>
    rw [hm] at hr
    rw [hr] at hl ⊢
    exact hl n (Nat.lt_succ_self _)

end loop

theorem iter_of_firstSat (p : Node → Bool) (r : Loc → List Node) (step : Loc → Option Loc)
    (hs : ∀ l, FirstSat p r (r l) (step l)) :
    ∀ (n : Nat) (l : Loc), (r l).length ≤ n → iter step n (step l) = (r l).filter p
  | 0, l, h => by
    have : r l = [] := List.eq_nil_of_length_eq_zero (Nat.le_zero.mp h)
    simp [iter, this]
  | n + 1, l, h => by
    have hsl := hs l
    cases hst : step l with
    | none =>
      rw [hst] at hsl
      exact (List.filter_eq_nil_iff.mpr fun x hx => by simp [hsl x hx]).symm
    | some m =>
      rw [hst] at hsl
      obtain ⟨sk, h1, h2, h3⟩ := hsl
      have hsk : sk.filter p = [] := List.filter_eq_nil_iff.mpr fun x hx => by simp [h2 x hx]
      have hlen : (r m).length ≤ n := by
        rw [h1] at h; simp at h; omega
      rw [iter, iter_of_firstSat p r step hs n m hlen, h1, List.filter_append, hsk, List.filter_cons, h3]
      rfl

theorem restUp_eq (f : Node) : ∀ ctx : List Frame, restUp ctx = match ascendNext f ctx with
    | some n => n.focus :: rest n
    | none => []
  | [] => rfl
  | ⟨par, ls, r :: rs⟩ :: c => by simp [ascendNext, restUp, rest, preL, pre_eq]
  | ⟨par, ls, []⟩ :: c => by simpa [ascendNext, restUp, preL] using restUp_eq par c

theorem rest_eq (l : Loc) : rest l = match move (firstChild fun _ => true) (fun l => ascendNext l.focus l.ctx) l with
    | some n => n.focus :: rest n
    | none => [] := by
  unfold move firstChild
  cases hk : l.focus.kids with
  | nil => simpa [rest, hk, preL, nextFrom] using restUp_eq l.focus l.ctx
  | cons k ks => simp [rest, restUp, hk, preL, pre_eq, nextFrom]

theorem stepFwd_spec (p : Node → Bool) (l : Loc) : FirstSat p rest (rest l) (stepFwd p true l) :=
  step_spec p rest (firstChild fun _ => true) (fun l => ascendNext l.focus l.ctx) (fwdLoop p) (fun _ _ => rfl)
    rest_eq (stepFwd p true) (fun _ => rfl) l

theorem stepFwd_some (p : Node → Bool) (l m : Loc) (h : stepFwd p true l = some m) :
    ∃ sk, rest l = sk ++ m.focus :: rest m ∧ (∀ x ∈ sk, p x = false) ∧ p m.focus = true := by
  have := stepFwd_spec p l
  rwa [h] at this

theorem stepFwd_none (p : Node → Bool) (l : Loc) (h : stepFwd p true l = none) :
    ∀ x ∈ rest l, p x = false := by
  have := stepFwd_spec p l
  rwa [h] at this

theorem step_iter_fwd (p : Node → Bool) (t : Node) :
    iter (stepFwd p true) (size t) (stepFwd p true (rootLoc t)) = (preL false t.kids).filter p := by
  have h := iter_of_firstSat p rest (stepFwd p true) (stepFwd_spec p) (size t) (rootLoc t)
    (by simp [rest, rootLoc, restUp, preL_length, size_eq])
  rw [h]; simp [rest, rootLoc, restUp]

theorem restUpB_eq (f : Node) : ∀ ctx : List Frame, restUpB ctx = match ascendPrev f ctx with
    | some n => n.focus :: restB n
    | none => []
  | [] => rfl
  | ⟨par, l :: ls, rs⟩ :: c => by
    rw [restUpB, preL_true_reverse]
    simp [ascendPrev, restB, restUpB, pre_eq, preL_true_reverse]
  | ⟨par, [], rs⟩ :: c => by simpa [ascendPrev, restUpB, preL] using restUpB_eq par c

theorem restB_eq (l : Loc) : restB l = match move (lastChild fun _ => true) (fun l => ascendPrev l.focus l.ctx) l with
    | some n => n.focus :: restB n
    | none => [] := by
  unfold move lastChild
  rw [restB, ← l.focus.kids.reverse_reverse, preL_true_reverse]
  cases hk : l.focus.kids.reverse with
  | nil => simpa [prevFrom] using restUpB_eq l.focus l.ctx
  | cons k ks => simp [restB, restUpB, pre_eq, prevFrom, preL_true_reverse]

theorem stepBack_spec (p : Node → Bool) (l : Loc) : FirstSat p restB (restB l) (stepBack p true l) :=
  step_spec p restB (lastChild fun _ => true) (fun l => ascendPrev l.focus l.ctx) (backLoop p) (fun _ _ => rfl)
    restB_eq (stepBack p true) (fun _ => rfl) l

theorem stepBack_some (p : Node → Bool) (l m : Loc) (h : stepBack p true l = some m) :
    ∃ sk, restB l = sk ++ m.focus :: restB m ∧ (∀ x ∈ sk, p x = false) ∧ p m.focus = true := by
  have := stepBack_spec p l
  rwa [h] at this

theorem stepBack_none (p : Node → Bool) (l : Loc) (h : stepBack p true l = none) :
    ∀ x ∈ restB l, p x = false := by
  have := stepBack_spec p l
  rwa [h] at this

theorem step_iter_back (p : Node → Bool) (t : Node) :
    iter (stepBack p true) (size t) (stepBack p true (rootLoc t)) = (preL true t.kids).filter p := by
  have h := iter_of_firstSat p restB (stepBack p true) (stepBack_spec p) (size t) (rootLoc t)
    (by simp [restB, rootLoc, restUpB, preL_length, size_eq])
  rw [h]; simp [restB, rootLoc, restUpB]

/-- ids of the strict descendants -/
def descIds (n : Node) : List Nat := ids (preL false n.kids)

theorem findKid_eq (lab : Nat) (par : Node) (c : List Frame) (ls rs : List Node) :
    findKid lab par c ls rs = nextFrom (fun n => n.lab == lab) par c ls rs := by
  induction rs generalizing ls with
  | nil => rfl
  | cons r rs ih => rw [findKid, nextFrom, ih]

theorem childPathGo_climb (sid : Nat) : ∀ (π : List Nat) (l c : Loc) (acc : List Nat),
    (∀ x ∈ preL false l.focus.kids, x.id ≠ sid) → childFromPath l π = some c →
      childPathGo sid c.focus acc c.ctx = childPathGo sid l.focus (π ++ acc) l.ctx
  | [], l, c, acc, _, h => by
    simp [childFromPath] at h; subst h; rfl
  | lab :: π, l, c, acc, hd, h => by
    rw [childFromPath] at h
    cases hf : findKid lab l.focus l.ctx [] l.focus.kids with
    | none => simp [hf] at h
    | some ch =>
      simp only [hf] at h
      rw [findKid_eq] at hf
      obtain ⟨sk, rs', hkids, _, hlab, hctx⟩ := nextFrom_some _ _ _ _ _ _ hf
      have hsub : ∀ x ∈ pre false ch.focus, x ∈ preL false l.focus.kids := fun x hx =>
        mem_preL_false.mpr ⟨_, by rw [hkids]; simp, hx⟩
      rw [pre_eq] at hsub
      rw [childPathGo_climb sid π ch c acc (fun x hx => hd x (hsub x (List.mem_cons_of_mem _ hx))) h]
      have hne : (ch.focus.id == sid) = false := by simpa using hd _ (hsub _ List.mem_cons_self)
      rw [hctx, childPathGo]
      simp [hne, show ch.focus.lab = lab by simpa using hlab]

theorem path_roundtrip (s : Loc) (π : List Nat) (c : Loc) (hid : s.focus.id ∉ descIds s.focus)
    (h : childFromPath s π = some c) : childPath s c = some π := by
  have hd : ∀ x ∈ preL false s.focus.kids, x.id ≠ s.focus.id := by
    intro x hx heq
    apply hid
    rw [← heq]
    exact List.mem_map_of_mem hx
  unfold childPath
  rw [childPathGo_climb s.focus.id π s c [] hd h]
  cases s.ctx <;> simp [childPathGo]

def nodupB : List Nat → Bool
  | [] => true
  | x :: xs => !xs.contains x && nodupB xs

mutual
/-- every node of the tree has children with pairwise distinct `lab` -/
def labUnique : Node → Bool
  | .mk _ _ _ _ ks => nodupB (ks.map Node.lab) && labUniqueL ks
def labUniqueL : List Node → Bool
  | [] => true
  | k :: ks => labUnique k && labUniqueL ks
end

theorem labUnique_eq (n : Node) : labUnique n = (nodupB (n.kids.map Node.lab) && labUniqueL n.kids) := by
  cases n; simp [labUnique, Node.kids]

theorem findKid_of_mem (par : Node) (c : List Frame) (k : Node) :
    ∀ (rs ls : List Node), nodupB (rs.map Node.lab) = true → k ∈ rs →
      ∃ ls' rs', findKid k.lab par c ls rs = some ⟨k, ⟨par, ls', rs'⟩ :: c⟩
  | [], _, _, hk => by cases hk
  | r :: rs, ls, hnd, hk => by
    simp [nodupB] at hnd
    cases hk with
    | head => exact ⟨ls, rs, by simp [findKid]⟩
    | tail _ hk =>
      -- `k` is further on, and no later sibling has the label of `r`
      have hr : (r.lab == k.lab) = false := by simpa using fun e => hnd.1 k hk e.symm
      simp only [findKid, hr, Bool.false_eq_true, if_false]
      exact findKid_of_mem par c k rs (r :: ls) hnd.2 hk

mutual
theorem path_reaches_all : (t : Node) → (ctx : List Frame) → labUnique t = true → ∀ n ∈ pre false t,
    ∃ π c, childFromPath ⟨t, ctx⟩ π = some c ∧ c.focus = n
  | .mk i l c k ks, ctx, h, n, hn => by
    rw [pre] at hn
    cases hn with
    | head => exact ⟨[], _, rfl, rfl⟩
    | tail _ hn =>
      simp only [labUnique, Bool.and_eq_true] at h
      obtain ⟨j, hj, hnj⟩ := mem_preL_false.mp hn
      obtain ⟨ls', rs', hf⟩ := findKid_of_mem (.mk i l c k ks) ctx j ks [] h.1 hj
      obtain ⟨π, c', hπ, hc⟩ := path_reaches_allL ks h.2 j hj (⟨.mk i l c k ks, ls', rs'⟩ :: ctx) n hnj
      exact ⟨j.lab :: π, c', by rw [childFromPath]; simp only [Node.kids]; rw [hf]; exact hπ, hc⟩
theorem path_reaches_allL : (ks : List Node) → labUniqueL ks = true → ∀ j ∈ ks, ∀ (ctx : List Frame), ∀ n ∈ pre false j,
    ∃ π c, childFromPath ⟨j, ctx⟩ π = some c ∧ c.focus = n
  | [], _, _, hj, _, _, _ => nomatch hj
  | y :: ys, h, j, hj, ctx, n, hn => by
    simp only [labUniqueL, Bool.and_eq_true] at h
    cases hj with
    | head => exact path_reaches_all y ctx h.1 n hn
    | tail _ hj => exact path_reaches_allL ys h.2 j hj ctx n hn
end

end Pfst.Walk
