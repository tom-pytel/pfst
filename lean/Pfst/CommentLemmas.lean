import Pfst.Quote

/-!
Lemmas about the line-comment model.  A line tail is read as `g1 ++ w2 ++ rest` (`reMatch_decomp`), and a tail written
as `g ++ w ++ '#' :: text` is read back with exactly these parts (`reMatch_build`); an accepted `commentPut` writes a
tail of that form (`commentPut_false_ok`, `commentPut_true_ok`).
-/
namespace Pfst.Quote

theorem spanS_append (k : Cls) (w r : List Char) (hw : w.all k.space = true)
    (hr : ∀ c ∈ r.head?, k.space c = false) : spanS k (w ++ r) = (w, r) := by
  induction w with
  | nil =>
    cases r with
    | nil => rfl
    | cons c r' => simp [spanS, hr c rfl]
  | cons c w ih =>
    simp only [List.all_cons, Bool.and_eq_true] at hw
    simp [spanS, hw.1, ih hw.2]

theorem spanS_spec (k : Cls) (l : List Char) :
    (spanS k l).1.all k.space = true ∧ (spanS k l).1 ++ (spanS k l).2 = l := by
  induction l with
  | nil => exact ⟨rfl, rfl⟩
  | cons c l ih =>
    cases h : k.space c
    · simp [spanS, h]
    · simp [spanS, h, ih]

/-- shape of group 1: absent, or whitespace and a semicolon -/
def G1 (k : Cls) (g : List Char) : Prop := g = [] ∨ ∃ ws, ws.all k.space = true ∧ g = ws ++ [';']

theorem reGroup1_spec (k : Cls) (tail : List Char) :
    G1 k (reGroup1 k tail).1 ∧ tail = (reGroup1 k tail).1 ++ (reGroup1 k tail).2 := by
  obtain ⟨hw, ht⟩ := spanS_spec k tail
  unfold reGroup1
  split
  · next c r hp =>
    split
    · next hc =>
      rw [hp, beq_iff_eq.mp hc] at ht
      exact ⟨.inr ⟨_, hw, rfl⟩, by rw [List.append_assoc]; exact ht.symm⟩
    · exact ⟨.inl rfl, rfl⟩
  · exact ⟨.inl rfl, rfl⟩

theorem reGroup2_spec (k : Cls) (g after : List Char) :
    (reGroup2 k g after).g1 = g ∧ (reGroup2 k g after).w2.all k.space = true ∧
      ∃ rest, after = (reGroup2 k g after).w2 ++ rest ∧ ∀ t, (reGroup2 k g after).text = some t → rest = '#' :: t := by
  obtain ⟨hw, ht⟩ := spanS_spec k after
  unfold reGroup2
  split
  · next c r hp =>
    split
    · next hc =>
      refine ⟨rfl, hw, _, ht.symm, fun t e => ?_⟩
      rw [hp, beq_iff_eq.mp hc, Option.some.inj e]
    · exact ⟨rfl, hw, _, ht.symm, fun t e => nomatch e⟩
  · exact ⟨rfl, hw, _, ht.symm, fun t e => nomatch e⟩

theorem reMatch_decomp (k : Cls) (tail : List Char) :
    G1 k (reMatch k tail).g1 ∧ (reMatch k tail).w2.all k.space = true ∧
      ∃ rest, tail = (reMatch k tail).g1 ++ (reMatch k tail).w2 ++ rest ∧
        ∀ t, (reMatch k tail).text = some t → rest = '#' :: t := by
  obtain ⟨hg, ht⟩ := reGroup1_spec k tail
  obtain ⟨e1, hw, rest, ha, h3⟩ := reGroup2_spec k (reGroup1 k tail).1 (reGroup1 k tail).2
  unfold reMatch
  rw [e1]
  exact ⟨hg, hw, rest, by rw [List.append_assoc, ← ha]; exact ht, h3⟩

theorem reMatch_take_g1 (k : Cls) (tail : List Char) :
    tail.take (reMatch k tail).g1.length = (reMatch k tail).g1 := by
  obtain ⟨_, _, rest, hrest, _⟩ := reMatch_decomp k tail
  generalize reMatch k tail = m at *
  rw [hrest, List.append_assoc, List.take_left]

theorem reMatch_build (k : Cls) (hh : k.space '#' = false) (hs : k.space ';' = false) (g w text : List Char)
    (hg : G1 k g) (hw : w.all k.space = true) : reMatch k (g ++ w ++ '#' :: text) = ⟨g, w, some text⟩ := by
  have hsp : spanS k (w ++ '#' :: text) = (w, '#' :: text) := spanS_append k w _ hw (by simp [hh])
  have h1 : reGroup1 k (g ++ w ++ '#' :: text) = (g, w ++ '#' :: text) := by
    rcases hg with rfl | ⟨ws, hws, rfl⟩
    · simp (decide := true) [reGroup1, hsp]
    · have e : ws ++ [';'] ++ w ++ '#' :: text = ws ++ (';' :: (w ++ '#' :: text)) := by simp
      rw [e]; simp [reGroup1, spanS_append k ws (';' :: (w ++ '#' :: text)) hws (by simp [hs])]
  rw [reMatch, h1]
  simp [reGroup2, hsp]

theorem commentGet_build (k : Cls) (hh : k.space '#' = false) (hs : k.space ';' = false) (full : Bool)
    (g w text : List Char) (hg : G1 k g) (hw : w.all k.space = true) :
    commentGet k full (g ++ w ++ '#' :: text) = some (if full then w ++ '#' :: text else strip k text) := by
  unfold commentGet
  rw [reMatch_build k hh hs g w text hg hw]
  simp

theorem commentGet_g1 (k : Cls) (hs : k.space ';' = false) (full : Bool) (g : List Char) (hg : G1 k g) :
    commentGet k full g = none := by
  rcases hg with rfl | ⟨ws, hws, rfl⟩
  · simp [commentGet, reMatch, reGroup1, reGroup2, spanS]
  · simp [commentGet, reMatch, reGroup1, reGroup2, spanS_append k ws [';'] hws (by simp [hs]), spanS]

theorem strip_cons_space (k : Cls) (c : Char) (l : List Char) (h : k.space c = true) : strip k (c :: l) = strip k l := by
  simp [strip, List.dropWhile, h]

theorem commentPut_clean {k : Cls} {full : Bool} {tail c : List Char} (hp : commentPut k full tail c ≠ .valueError) :
    (c.contains LF || c.contains CR) = false ∧ c.contains NUL = false := by
  cases h1 : (c.contains LF || c.contains CR)
  · cases h2 : c.contains NUL
    · exact ⟨rfl, rfl⟩
    · rw [commentPut, if_neg (ne_true_of_eq_false h1), if_pos h2] at hp; exact absurd rfl hp
  · rw [commentPut, if_pos h1] at hp; exact absurd rfl hp

/-- `put_line_comment(c)` keeps group 1 and writes blanks (the old ones if there was a comment), `#` and `c`, with a
blank in front of `c` unless it starts with one -/
theorem commentPut_false_ok {k : Cls} {tail c t' : List Char} (hp : commentPut k false tail c = .ok t') :
    ∃ w c1, (w = (reMatch k tail).w2 ∨ w = [' ', ' ']) ∧ (c1 = c ∨ c1 = ' ' :: c)
      ∧ t' = (reMatch k tail).g1 ++ w ++ '#' :: c1 := by
  obtain ⟨h1, h2⟩ := commentPut_clean (by rw [hp]; nofun)
  rw [commentPut, if_neg (ne_true_of_eq_false h1), if_neg (ne_true_of_eq_false h2), if_neg (by simp)] at hp
  have hc1 : (if headSpace k c = true then c else ' ' :: c) = c ∨ (if headSpace k c = true then c else ' ' :: c) = ' ' :: c := by
    split
    · exact .inl rfl
    · exact .inr rfl
  cases htx : (reMatch k tail).text with
  | some t =>
    obtain ⟨_, _, rest, hrest, h3⟩ := reMatch_decomp k tail
    simp only [htx, Bool.false_eq_true, if_false, PutRes.ok.injEq] at hp
    refine ⟨_, _, .inl rfl, hc1, ?_⟩
    generalize reMatch k tail = m at *
    rw [← hp, hrest, h3 t htx, show m.g1 ++ m.w2 ++ '#' :: t = (m.g1 ++ m.w2 ++ ['#']) ++ t by simp,
      List.take_left' (by simp; omega)]
    simp
  | none =>
    simp only [htx, Bool.false_eq_true, if_false, reMatch_take_g1] at hp
    split at hp
    · exact ⟨_, _, .inr rfl, hc1, by rw [← PutRes.ok.inj hp]; simp⟩
    · cases hp

/-- `put_line_comment(c, full=True)` keeps group 1 and writes `c`, which must be blanks, `#`, text -/
theorem commentPut_true_ok {k : Cls} {tail c t' : List Char} (hp : commentPut k true tail c = .ok t') :
    (c.dropWhile k.space).head? = some '#' ∧ t' = (reMatch k tail).g1 ++ c := by
  obtain ⟨h1, h2⟩ := commentPut_clean (by rw [hp]; nofun)
  rw [commentPut, if_neg (ne_true_of_eq_false h1), if_neg (ne_true_of_eq_false h2)] at hp
  by_cases h3 : (c.dropWhile k.space).head? = some '#'
  · refine ⟨h3, ?_⟩
    rw [if_neg (by simp [h3])] at hp
    cases htx : (reMatch k tail).text with
    | some t =>
      simp only [htx, if_true, PutRes.ok.injEq, reMatch_take_g1] at hp
      exact hp.symm
    | none =>
      simp only [htx, if_true, reMatch_take_g1] at hp
      split at hp
      · exact (PutRes.ok.inj hp).symm
      · cases hp
  · rw [if_pos (by simp [h3])] at hp; cases hp

end Pfst.Quote
