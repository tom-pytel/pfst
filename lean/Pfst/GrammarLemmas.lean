import Pfst.Grammar
/-! Printing with any policy that covers the grammar's need derives the intended tree (`derives_pr`); what a derivation
of a node or of a leaf must look like (`Derives.node_inv`, `Derives.leaf_inv`). -/
namespace Pfst.Grammar

theorem derives_wrap {P : Slot → Cls → Bool}
    (h1 : ∀ s c, specNeed s c = true → P s c = true)
    (h2 : ∀ s c, P s c = true → accepts s c = true → parenable c = true)
    {s : Slot} {ts : List Tok} {e : E} (hw : (accepts s e.cls || parenable e.cls) = true)
    (hd : ∀ s', accepts s' e.cls = true → Derives s' ts e) : Derives s (wrap (P s e.cls) ts) e := by
  cases hacc : accepts s e.cls with
  | true =>
    cases hP : P s e.cls with
    | true => exact Derives.paren s ts e (h2 s _ hP hacc) (hd top (h2 s _ hP hacc))
    | false => exact hd s hacc
  | false =>
    have hpar : parenable e.cls = true := by simpa [hacc] using hw
    rw [h1 s _ (by simp [specNeed, hacc])]
    exact Derives.paren s ts e hpar (hd top hpar)

mutual
theorem derives_pr (P : Slot → Cls → Bool)
    (h1 : ∀ s c, specNeed s c = true → P s c = true)
    (h2 : ∀ s c, P s c = true → accepts s c = true → parenable c = true) :
    ∀ (s : Slot) (e : E), wf s e = true → Derives s (pr P s e) e
  | s, .leaf t c, hw => by
    rw [wf] at hw
    exact derives_wrap (e := .leaf t c) h1 h2 hw fun s' h => Derives.leaf s' t c h
  | s, .node k kids, hw => by
    simp only [wf, Bool.and_eq_true] at hw
    obtain ⟨⟨har, hor⟩, hk⟩ := hw
    exact derives_wrap (e := .node k kids) h1 h2 hor fun s' h =>
      Derives.node s' k kids _ har h (prL_derives_aux P h1 h2 k 0 kids hk)
theorem prL_derives_aux (P : Slot → Cls → Bool)
    (h1 : ∀ s c, specNeed s c = true → P s c = true)
    (h2 : ∀ s c, P s c = true → accepts s c = true → parenable c = true) :
    ∀ (k : Kind) (i : Nat) (es : List E), wfL k i es = true → DerivesL k i es (prL P k i es)
  | k, i, [], _ => DerivesL.nil k i
  | k, i, e :: es, hw => by
    simp only [wfL, Bool.and_eq_true] at hw
    exact DerivesL.cons k i e es _ _ (derives_pr P h1 h2 (k.slot i) e hw.1)
      (prL_derives_aux P h1 h2 k (i + 1) es hw.2)
end

theorem Derives.node_inv {s : Slot} {ts : List Tok} {k : Kind} {kids : List E} (h : Derives s ts (.node k kids)) :
    (accepts s k.cls = true ∧ ∃ tss, DerivesL k 0 kids tss ∧ ts = k.render tss) ∨ ∃ ts', ts = .lp :: ts' ++ [.rp] := by
  cases h with
  | node _ _ _ tss _ hacc hL => exact .inl ⟨hacc, tss, hL, rfl⟩
  | paren _ ts' => exact .inr ⟨ts', rfl⟩

theorem Derives.leaf_inv {s : Slot} {ts : List Tok} {t : Tok} {c : Cls} (h : Derives s ts (.leaf t c)) :
    ts = [t] ∨ ∃ ts', ts = .lp :: ts' ++ [.rp] := by
  cases h with
  | leaf => exact .inl rfl
  | paren _ ts' => exact .inr ⟨ts', rfl⟩

end Pfst.Grammar
