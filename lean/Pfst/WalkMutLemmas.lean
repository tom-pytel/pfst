import Pfst.WalkMut

/-!
Well-formedness of a store, the contract a consumer mutation has to meet, and the invariant of the `on='enter'` walk
machine with its preservation lemmas.
-/
namespace Pfst.WalkMut

/-- `x` hangs in the tree: reachable from the tree root through live parents. -/
inductive Reach (σ : Store) : AstId → Prop where
  | root {x} : σ.a σ.rootF = some x → Reach σ x
  | kid {p x} : Reach σ p → σ.f p ≠ none → x ∈ σ.kids p → Reach σ x

/-- What the object graph looks like between two operations (`_make_fst_tree` / `_unmake_fst_tree` discipline):
links are mutual, every linked ("alive") AST hangs in the tree, children lists are duplicate-free, a node has one
parent, depths increase by one, ids are below the allocation bound. -/
structure WF (σ : Store) : Prop where
  fa : ∀ x φ, σ.f x = some φ → σ.a φ = some x
  af : ∀ φ x, σ.a φ = some x → σ.f x = some φ
  reach : ∀ x, σ.f x ≠ none → Reach σ x
  kids_nodup : ∀ x, σ.f x ≠ none → (σ.kids x).Nodup
  kids_lt : ∀ x k, σ.f x ≠ none → k ∈ σ.kids x → k < σ.bound
  uniq_parent : ∀ x y k, σ.f x ≠ none → σ.f y ≠ none → k ∈ σ.kids x → k ∈ σ.kids y → x = y
  depth_kids : ∀ x k, σ.f x ≠ none → k ∈ σ.kids x → σ.depth k = σ.depth x + 1
  live_lt : ∀ x, σ.f x ≠ none → x < σ.bound
  fst_lt : ∀ φ x, σ.a φ = some x → φ < σ.bound

/-- The contract of a consumer mutation `σ → σ'` (replace / remove / insert of whole subtrees, never a move):
dead stays dead, the children of a surviving AST change only by deletion and by insertion of fresh ids, fresh ASTs have
fresh children, nodes keep their depth, a dead FST stays dead, and an FST changes its AST only to a fresh one that
hangs where the old one hung. -/
structure Mut (σ σ' : Store) : Prop where
  bound_le : σ.bound ≤ σ'.bound
  live_mono : ∀ x, x < σ.bound → σ'.f x ≠ none → σ.f x ≠ none
  kids_old : ∀ p k, p < σ.bound → σ'.f p ≠ none → k ∈ σ'.kids p → k ∈ σ.kids p ∨ σ.bound ≤ k
  kids_new : ∀ p k, σ.bound ≤ p → σ'.f p ≠ none → k ∈ σ'.kids p → σ.bound ≤ k
  depth_old : ∀ x, x < σ.bound → σ'.f x ≠ none → σ'.depth x = σ.depth x
  a_dead : ∀ φ, φ < σ.bound → σ.a φ = none → σ'.a φ = none
  a_change : ∀ φ x x', σ.a φ = some x → σ'.a φ = some x' →
    x' = x ∨ (σ.bound ≤ x' ∧ σ'.depth x' = σ.depth x ∧
              ∀ p, σ'.f p ≠ none → x' ∈ σ'.kids p → σ.f p ≠ none ∧ x ∈ σ.kids p)

theorem WF.live_of_a {σ : Store} (wf : WF σ) {φ : FstId} {x : AstId} (h : σ.a φ = some x) : σ.f x ≠ none := by
  rw [wf.af _ _ h]; exact Option.some_ne_none _

theorem Mut.refl (σ : Store) (h : WF σ) : Mut σ σ where
  bound_le := Nat.le_refl _
  live_mono := fun _ _ h => h
  kids_old := fun _ _ _ _ h => .inl h
  kids_new := fun p _ hp hl _ => absurd (h.live_lt p hl) (Nat.not_lt.mpr hp)
  depth_old := fun _ _ _ => rfl
  a_dead := fun _ _ h => h
  a_change := fun φ x x' h1 h2 => .inl (by rw [h1] at h2; exact (Option.some.inj h2).symm)

theorem Mut.parent_old {σ σ' : Store} (m : Mut σ σ') {p k : AstId} (hk : k < σ.bound) (hp : σ'.f p ≠ none)
    (hkp : k ∈ σ'.kids p) : σ.f p ≠ none ∧ k ∈ σ.kids p := by
  by_cases hpb : p < σ.bound
  · rcases m.kids_old p k hpb hp hkp with h1 | h1
    · exact ⟨m.live_mono p hpb hp, h1⟩
    · exact absurd hk (Nat.not_lt.mpr h1)
  · exact absurd hk (Nat.not_lt.mpr (m.kids_new p k (Nat.not_lt.mp hpb) hp hkp))

/-! ### Soundness of the executable checks `Store.wfB` / `Store.mutB` -/

theorem nodupB_iff : ∀ (l : List Nat), nodupB l = true ↔ l.Nodup
  | [] => by simp [nodupB]
  | x :: xs => by simp [nodupB, nodupB_iff xs, List.nodup_cons]

theorem eq_of_mem_flatMap_nodup {α β} {f : α → List β} {k : β} :
    ∀ {l : List α}, (l.flatMap f).Nodup → ∀ {a b}, a ∈ l → b ∈ l → k ∈ f a → k ∈ f b → a = b
  | [], _, _, _, ha, _, _, _ => nomatch ha
  | c :: l, h, a, b, ha, hb, hka, hkb => by
    rw [List.flatMap_cons, List.nodup_append] at h
    have hdis : ∀ d ∈ l, k ∈ f c → k ∉ f d := fun d hd hc hk => h.2.2 k hc k (List.mem_flatMap.mpr ⟨d, hd, hk⟩) rfl
    rcases List.mem_cons.mp ha with ha' | ha' <;> rcases List.mem_cons.mp hb with hb' | hb'
    · exact ha'.trans hb'.symm
    · exact absurd hkb (hdis b hb' (ha' ▸ hka))
    · exact absurd hka (hdis a ha' (hb' ▸ hkb))
    · exact eq_of_mem_flatMap_nodup h.2.1 ha' hb' hka hkb

theorem mem_liveKids {σ : Store} {p k : AstId} :
    k ∈ (if (σ.f p).isSome then σ.kids p else []) ↔ σ.f p ≠ none ∧ k ∈ σ.kids p := by
  rw [← Option.isSome_iff_ne_none]
  split <;> simp [*]

theorem mem_allKids {σ : Store} {A : List AstId} {k : AstId} :
    k ∈ σ.allKids A ↔ ∃ p ∈ A, σ.f p ≠ none ∧ k ∈ σ.kids p := by
  simp only [Store.allKids, List.mem_flatMap, mem_liveKids]

theorem wfB_sound {σ : Store} {A F : List Nat} (hA : ∀ x, σ.f x ≠ none → x ∈ A)
    (hF : ∀ φ x, σ.a φ = some x → φ ∈ F) (h : σ.wfB A F = true) : WF σ := by
  unfold Store.wfB at h
  simp only [Bool.and_eq_true, List.all_eq_true] at h
  obtain ⟨⟨h1, h2⟩, h3⟩ := h
  have hnode : ∀ x, σ.f x ≠ none →
      (∀ φ, σ.f x = some φ → σ.a φ = some x) ∧ x < σ.bound ∧ (σ.kids x).Nodup ∧
      (∀ k ∈ σ.kids x, k < σ.bound ∧ σ.depth k = σ.depth x + 1) ∧ (σ.a σ.rootF = some x ∨ x ∈ σ.allKids A) := by
    intro x hx
    have := h1 x (hA x hx)
    obtain ⟨φ, hφ⟩ := Option.ne_none_iff_exists'.mp hx
    rw [hφ] at this
    simp only [Bool.and_eq_true, Bool.or_eq_true, beq_iff_eq, decide_eq_true_eq, List.all_eq_true,
      nodupB_iff, List.contains_iff_mem, and_assoc] at this
    exact ⟨fun ψ hψ => Option.some.inj (hφ.symm.trans hψ) ▸ this.1, this.2⟩
  have hfst : ∀ φ x, σ.a φ = some x → σ.f x = some φ ∧ φ < σ.bound := by
    intro φ x hx
    have := h2 φ (hF φ x hx)
    rw [hx] at this
    simpa only [Bool.and_eq_true, beq_iff_eq, decide_eq_true_eq] using this
  have hdepth : ∀ x k, σ.f x ≠ none → k ∈ σ.kids x → σ.depth k = σ.depth x + 1 :=
    fun x k hx hk => ((hnode x hx).2.2.2.1 k hk).2
  refine { fa := fun x φ hx => (hnode x (hx ▸ Option.some_ne_none φ)).1 φ hx
           af := fun φ x h => (hfst φ x h).1
           reach := fun x hx => ?_
           kids_nodup := fun x hx => (hnode x hx).2.2.1
           kids_lt := fun x k hx hk => ((hnode x hx).2.2.2.1 k hk).1
           uniq_parent := ?_
           depth_kids := hdepth
           live_lt := fun x hx => (hnode x hx).2.1
           fst_lt := fun φ x h => (hfst φ x h).2 }
  · -- every live node is the root or a child of a live node one level up: induction on the depth
    induction hd : σ.depth x using Nat.strongRecOn generalizing x with
    | _ n ih =>
      rcases (hnode x hx).2.2.2.2 with hr | hk
      · exact .root hr
      · obtain ⟨p, _, hpl, hkp⟩ := mem_allKids.mp hk
        have := hdepth p x hpl hkp
        exact .kid (ih (σ.depth p) (by omega) p hpl rfl) hpl hkp
  · intro x y k hx hy hkx hky
    exact eq_of_mem_flatMap_nodup ((nodupB_iff _).mp h3) (hA x hx) (hA y hy) (mem_liveKids.mpr ⟨hx, hkx⟩)
      (mem_liveKids.mpr ⟨hy, hky⟩)

theorem mutB_sound {σ σ' : Store} {A' F' : List Nat} (hA : ∀ x, σ'.f x ≠ none → x ∈ A')
    (hF : ∀ φ x, σ'.a φ = some x → φ ∈ F') (h : σ.mutB σ' A' F' = true) : Mut σ σ' := by
  unfold Store.mutB at h
  simp only [Bool.and_eq_true, List.all_eq_true, decide_eq_true_eq] at h
  obtain ⟨⟨h0, h1⟩, h2⟩ := h
  have hnode : ∀ x, σ'.f x ≠ none →
      if x < σ.bound then
        σ.f x ≠ none ∧ σ'.depth x = σ.depth x ∧ ∀ k ∈ σ'.kids x, σ.bound ≤ k ∨ k ∈ σ.kids x
      else ∀ k ∈ σ'.kids x, σ.bound ≤ k := by
    intro x hx
    obtain ⟨φ, hφ⟩ := Option.ne_none_iff_exists'.mp hx
    have := h1 x (hA x hx)
    rw [hφ] at this
    simpa only [Bool.and_eq_true, beq_iff_eq, List.all_eq_true, Bool.or_eq_true, decide_eq_true_eq,
      List.contains_iff_mem, Option.isSome_iff_ne_none, Bool.if_true_left, Bool.if_false_right, and_assoc,
      apply_ite (· = true)] using this
  have hold := fun x (hb : x < σ.bound) hx => (if_pos hb ▸ hnode x hx :)
  refine { bound_le := h0
           live_mono := fun x hb hx => (hold x hb hx).1
           kids_old := fun p k hb hp hk => ((hold p hb hp).2.2 k hk).symm
           kids_new := fun p k hb hp hk => (if_neg (Nat.not_lt.mpr hb) ▸ hnode p hp :) k hk
           depth_old := fun x hb hx => (hold x hb hx).2.1
           a_dead := ?_
           a_change := ?_ }
  · intro φ hb hd
    cases hx' : σ'.a φ with
    | none => rfl
    | some x' =>
      have := h2 φ (hF φ x' hx')
      rw [hx', hd] at this
      exact absurd hb (Nat.not_lt.mpr (of_decide_eq_true this))
  · intro φ x x' hx hx'
    have := h2 φ (hF φ x' hx')
    rw [hx', hx] at this
    simp only [Bool.or_eq_true, beq_iff_eq, Bool.and_eq_true, decide_eq_true_eq, List.all_eq_true,
      Bool.not_eq_true', ← Bool.not_eq_true, ← Decidable.imp_iff_not_or, and_imp, List.contains_iff_mem,
      Option.isSome_iff_ne_none] at this
    exact this.imp_right fun ⟨⟨a1, a2⟩, a3⟩ => ⟨a1, a2, fun p hp => a3 p (hA p hp) hp⟩

/-! ### The concrete tree store: everything alive is listed in `aids` / `fids` -/
namespace Tree

mutual
theorem findA_none {x : AstId} : ∀ t : Tree, x ∉ aids t → findA x t = none
  | .mk a f l v ks, h => by
    rw [aids, List.mem_cons, not_or] at h
    rw [findA, if_neg (by simpa using Ne.symm h.1)]
    exact findAs_none ks h.2
theorem findAs_none {x : AstId} : ∀ ts : List Tree, x ∉ aidsL ts → findAs x ts = none
  | [], _ => rfl
  | t :: ts, h => by
    rw [aidsL, List.mem_append, not_or] at h
    simp only [findAs, findA_none t h.1, findAs_none ts h.2]
end

mutual
theorem findF_none {φ : FstId} : ∀ t : Tree, φ ∉ fids t → findF φ t = none
  | .mk a f l v ks, h => by
    rw [fids, List.mem_cons, not_or] at h
    rw [findF, if_neg (by simpa using Ne.symm h.1)]
    exact findFs_none ks h.2
theorem findFs_none {φ : FstId} : ∀ ts : List Tree, φ ∉ fidsL ts → findFs φ ts = none
  | [], _ => rfl
  | t :: ts, h => by
    rw [fidsL, List.mem_append, not_or] at h
    simp only [findFs, findF_none t h.1, findFs_none ts h.2]
end

theorem live_mem_aids (t : Tree) (b : Nat) (g) (x : AstId) (h : (toStore t b g).f x ≠ none) : x ∈ aids t :=
  Decidable.byContradiction fun hm => h (by simp [toStore, findA_none t hm])

theorem live_mem_fids (t : Tree) (b : Nat) (g) (φ : FstId) (x : AstId) (h : (toStore t b g).a φ = some x) :
    φ ∈ fids t :=
  Decidable.byContradiction fun hm => by simp [toStore, findF_none t hm] at h

end Tree

/-- the driver's per-store check implies well-formedness of the concrete store -/
theorem CStore.wfB_sound {c : CStore} (h : c.wfB = true) : WF c.store :=
  Pfst.WalkMut.wfB_sound (Tree.live_mem_aids c.tree c.next c.grave) (Tree.live_mem_fids c.tree c.next c.grave) h

/-- the driver's per-mutation check implies the consumer contract and well-formedness afterwards -/
theorem CStore.mutB_sound {c c' : CStore} (h : c.mutB c' = true) : Mut c.store c'.store ∧ WF c'.store := by
  unfold CStore.mutB at h
  rw [Bool.and_eq_true] at h
  exact ⟨Pfst.WalkMut.mutB_sound (Tree.live_mem_aids c'.tree c'.next c'.grave)
           (Tree.live_mem_fids c'.tree c'.next c'.grave) h.1, CStore.wfB_sound h.2⟩

namespace Enter

/-- everything on the stacks of the `yield from` chain -/
def stackAll (s : St) : List AstId := s.frames.flatMap (·.stack)

/-- what the state-specific part of the invariant says while the generator is suspended -/
def CtlInv (σ : Store) (s : St) : Prop :=
  match s.ctl with
  | .start => s.frames = [] ∧ s.popped = [] ∧ s.expanded = [] ∧ s.entered = []
  | .rootYield _ => s.frames = [] ∧ s.popped = [] ∧ s.expanded = [] ∧ s.root < σ.bound ∧
      (∀ x, σ.a s.root = some x → σ.depth x = s.d0)
  | .yielded φ _ => s.frames ≠ [] ∧ φ < σ.bound ∧
      ∀ x, σ.a φ = some x → x ∉ stackAll s ∧ x ∉ s.expanded ∧ s.d0 < σ.depth x ∧
        ∀ p, σ.f p ≠ none → x ∈ σ.kids p → p ∈ s.expanded
  | .running => True
  | .done => True

/-- The list part of the invariant, over `S` = everything on the stacks, `P` = popped, `E` = expanded,
`En` = entered, `d0` = depth of the walk root: no AST id is on a stack twice or on a stack after it was popped;
everything the walk holds is below the allocation bound; what is on the stacks is deeper than the walk root; if a child
of a live node was ever pushed then the node was expanded; expanded and entered ids were popped (or are the walk root
itself); no AST id was entered twice. -/
structure Core (σ : Store) (S P E En : List AstId) (d0 : Nat) : Prop where
  wf : WF σ
  nodup : (S ++ P).Nodup
  lt : ∀ x ∈ S ++ P, x < σ.bound
  exp_lt : ∀ x ∈ E, x < σ.bound
  deep : ∀ y ∈ S, σ.f y ≠ none → d0 < σ.depth y
  pushed_parent : ∀ p k, σ.f p ≠ none → k ∈ σ.kids p → k ∈ S ++ P → p ∈ E
  exp_src : ∀ x ∈ E, x ∈ P ∨ (σ.f x ≠ none → σ.depth x = d0)
  ent_nodup : En.Nodup
  ent_src : ∀ x ∈ En, x ∈ P ∨ (σ.f x ≠ none → σ.depth x = d0)
  ent_lt : ∀ x ∈ En, x < σ.bound

/-- The invariant of the `on='enter'` walk machine. -/
structure Inv (σ : Store) (s : St) : Prop where
  core : Core σ (stackAll s) s.popped s.expanded s.entered s.d0
  ctl : CtlInv σ s

theorem order_perm (back : Bool) (ks : List AstId) : (order back ks).Perm ks := by
  unfold order
  split
  · exact List.reverse_perm _
  · exact .refl _

namespace Core
variable {σ : Store} {S P E En : List AstId} {d0 : Nat}

theorem init (wf : WF σ) (d0 : Nat) : Core σ [] [] [] [] d0 where
  wf := wf
  nodup := List.nodup_nil
  lt := nofun
  exp_lt := nofun
  deep := nofun
  pushed_parent := nofun
  exp_src := nofun
  ent_nodup := List.nodup_nil
  ent_src := nofun
  ent_lt := nofun

/-- `exp_src` and `ent_src` say the same of two history lists; more pops keep it true -/
theorem src_mono {L P' : List AstId} (h : ∀ x ∈ L, x ∈ P ∨ (σ.f x ≠ none → σ.depth x = d0))
    (hP : ∀ x ∈ P, x ∈ P') : ∀ x ∈ L, x ∈ P' ∨ (σ.f x ≠ none → σ.depth x = d0) :=
  fun x hx => (h x hx).imp_left (hP x)

theorem stack_not_src (h : Core σ S P E En d0) {L : List AstId}
    (hsrc : ∀ x ∈ L, x ∈ P ∨ (σ.f x ≠ none → σ.depth x = d0)) {y : AstId} (hy : y ∈ S) (hl : σ.f y ≠ none) :
    y ∉ L := by
  intro he
  rcases hsrc y he with hp | hd
  · exact (List.nodup_append.mp h.nodup).2.2 y hy y hp rfl
  · have := h.deep y hy hl
    rw [hd hl] at this
    exact Nat.lt_irrefl _ this

/-- `ast = stack.pop()` -/
theorem pop {x : AstId} (h : Core σ (x :: S) P E En d0) : Core σ S (x :: P) E En d0 := by
  have hperm : (S ++ x :: P).Perm (x :: S ++ P) := List.perm_middle
  refine { h with nodup := ?_, lt := ?_, deep := ?_, pushed_parent := ?_,
                  exp_src := src_mono h.exp_src fun _ => List.mem_cons_of_mem _,
                  ent_src := src_mono h.ent_src fun _ => List.mem_cons_of_mem _ }
  · exact hperm.nodup_iff.mpr h.nodup
  · intro y hy; exact h.lt y (hperm.mem_iff.mp hy)
  · intro y hy; exact h.deep y (List.mem_cons_of_mem _ hy)
  · intro p k hp hk hm; exact h.pushed_parent p k hp hk (hperm.mem_iff.mp hm)

/-- record the entry of a node that was just popped alive -/
theorem enter {x : AstId} (h : Core σ (x :: S) P E En d0) (hl : σ.f x ≠ none) :
    Core σ S (x :: P) E (x :: En) d0 :=
  have hp := h.pop
  { hp with
    ent_nodup := List.nodup_cons.mpr ⟨h.stack_not_src h.ent_src List.mem_cons_self hl, h.ent_nodup⟩
    ent_src := List.forall_mem_cons.mpr ⟨.inl List.mem_cons_self, hp.ent_src⟩
    ent_lt := List.forall_mem_cons.mpr ⟨h.lt _ (List.mem_append_left _ List.mem_cons_self), h.ent_lt⟩ }

/-- `stack.extend(children)` -/
theorem expand {x : AstId} (back : Bool) (h : Core σ S P E En d0) (hl : σ.f x ≠ none) (hx : x ∉ E)
    (hsrc : x ∈ P ∨ σ.depth x = d0) (hd : d0 ≤ σ.depth x) :
    Core σ (order back (σ.kids x) ++ S) P (x :: E) En d0 := by
  have ho := order_perm back (σ.kids x)
  refine { h with
    nodup := ?_
    lt := ?_
    exp_lt := List.forall_mem_cons.mpr ⟨h.wf.live_lt _ hl, h.exp_lt⟩
    deep := List.forall_mem_append.mpr ⟨fun y hy _ => ?_, h.deep⟩
    pushed_parent := ?_
    exp_src := List.forall_mem_cons.mpr ⟨hsrc.imp_right fun h1 _ => h1, h.exp_src⟩ }
  · rw [List.append_assoc, List.nodup_append]
    refine ⟨ho.nodup_iff.mpr (h.wf.kids_nodup x hl), h.nodup, ?_⟩
    rintro a ha _ hb rfl
    exact hx (h.pushed_parent x a hl (ho.mem_iff.mp ha) hb)
  · rw [List.append_assoc]
    exact List.forall_mem_append.mpr ⟨fun y hy => h.wf.kids_lt x y hl (ho.mem_iff.mp hy), h.lt⟩
  · have := h.wf.depth_kids x y hl (ho.mem_iff.mp hy)
    omega
  · intro p k hp hk hm
    rw [List.append_assoc, List.mem_append] at hm
    rcases hm with hm | hm
    · cases h.wf.uniq_parent p x k hp hl hk (ho.mem_iff.mp hm)
      exact List.mem_cons_self
    · exact List.mem_cons_of_mem _ (h.pushed_parent p k hp hk hm)

/-- history bookkeeping when resuming after a yield: the AST found under the yielded FST counts as popped -/
theorem addPopped {x : AstId} (h : Core σ S P E En d0) (hl : σ.f x ≠ none) (hxS : x ∉ S)
    (hpar : ∀ p, σ.f p ≠ none → x ∈ σ.kids p → p ∈ E) :
    Core σ S (if P.contains x then P else x :: P) E En d0 := by
  split
  · exact h
  · next hc =>
    have hxP : x ∉ P := by simpa using hc
    have hperm : (S ++ x :: P).Perm (x :: (S ++ P)) := List.perm_middle
    refine { h with
      nodup := ?_
      lt := fun y hy => ?_
      pushed_parent := fun p k hp hk hm => ?_
      exp_src := src_mono h.exp_src fun _ => List.mem_cons_of_mem _
      ent_src := src_mono h.ent_src fun _ => List.mem_cons_of_mem _ }
    · rw [hperm.nodup_iff, List.nodup_cons]
      exact ⟨by simp [hxS, hxP], h.nodup⟩
    · rcases List.mem_cons.mp (hperm.mem_iff.mp hy) with rfl | hy
      · exact h.wf.live_lt _ hl
      · exact h.lt y hy
    · rcases List.mem_cons.mp (hperm.mem_iff.mp hm) with rfl | hm
      · exact hpar p hp hk
      · exact h.pushed_parent p k hp hk hm

theorem mutate {σ' : Store} (h : Core σ S P E En d0) (m : Mut σ σ') (wf' : WF σ') : Core σ' S P E En d0 := by
  -- ids below the old bound keep their depth, and are alive before if they are alive after
  have src : ∀ L : List AstId, (∀ x ∈ L, x < σ.bound) → (∀ x ∈ L, x ∈ P ∨ (σ.f x ≠ none → σ.depth x = d0)) →
      ∀ x ∈ L, x ∈ P ∨ (σ'.f x ≠ none → σ'.depth x = d0) := by
    intro L hlt hsrc y hy
    refine (hsrc y hy).imp_right fun h1 hl => ?_
    rw [m.depth_old y (hlt y hy) hl]; exact h1 (m.live_mono y (hlt y hy) hl)
  refine { wf := wf', nodup := h.nodup, lt := ?_, exp_lt := ?_, deep := ?_, pushed_parent := ?_,
           exp_src := src E h.exp_lt h.exp_src, ent_nodup := h.ent_nodup, ent_src := src En h.ent_lt h.ent_src,
           ent_lt := ?_ }
  · intro y hy; exact Nat.lt_of_lt_of_le (h.lt y hy) m.bound_le
  · intro y hy; exact Nat.lt_of_lt_of_le (h.exp_lt y hy) m.bound_le
  · intro y hy hl
    have hb := h.lt y (List.mem_append_left _ hy)
    rw [m.depth_old y hb hl]
    exact h.deep y hy (m.live_mono y hb hl)
  · intro p k hp hk hm
    obtain ⟨hl, hk'⟩ := m.parent_old (h.lt k hm) hp hk
    exact h.pushed_parent p k hl hk' hm
  · intro y hy; exact Nat.lt_of_lt_of_le (h.ent_lt y hy) m.bound_le

end Core

end Enter
end Pfst.WalkMut
