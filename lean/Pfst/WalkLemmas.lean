import Pfst.Walk
/-!
# Pfst.WalkLemmas — the loops of `walk` against the recursive orders (C14)

Each loop is characterised by what its stack stands for: the output still to come is the filtered concatenation of the
orders of the stacked items (`enterLoop_recurse`, `leaveLoop_eq`, `bothLoop_recurse`; `_recurse` / `_norecurse` is the
value of the `recurse` flag, which `leaveLoop` does not take).  The rest relates the orders to each other: mirror image,
reversal, permutations.
-/
namespace Pfst.Walk

def itemPost (back : Bool) : Item → List Node | .enter n => post back n | .leave n => [n]
def itemBrk (back : Bool) : Item → List (Node × Bool) | .enter n => brk back n | .leave n => [(n, true)]

theorem pre_eq (back : Bool) (n : Node) : pre back n = n :: preL back n.kids := by
  cases n; simp [pre, Node.kids]

theorem post_eq (back : Bool) (n : Node) : post back n = postL back n.kids ++ [n] := by
  cases n; simp [post, Node.kids]

theorem brk_eq (back : Bool) (n : Node) : brk back n = (n, false) :: (brkL back n.kids ++ [(n, true)]) := by
  cases n; simp [brk, Node.kids]

theorem flatMap_orient {β : Type} (back : Bool) (f : Node → List β) (g : List Node → List β) (hnil : g [] = [])
    (hcons : ∀ k ks, g (k :: ks) = bif back then g ks ++ f k else f k ++ g ks) (ks : List Node) :
    (orient back ks).flatMap f = g ks := by
  induction ks with
  | nil => cases back <;> simp [orient, hnil]
  | cons k ks ih => cases back <;> simp_all [orient]

theorem flatMap_orient_pre (back : Bool) (ks : List Node) : (orient back ks).flatMap (pre back) = preL back ks :=
  flatMap_orient back _ _ (by simp [preL]) (fun _ _ => by simp [preL]) ks

theorem flatMap_orient_post (back : Bool) (ks : List Node) : (orient back ks).flatMap (post back) = postL back ks :=
  flatMap_orient back _ _ (by simp [postL]) (fun _ _ => by simp [postL]) ks

theorem flatMap_orient_brk (back : Bool) (ks : List Node) : (orient back ks).flatMap (brk back) = brkL back ks :=
  flatMap_orient back _ _ (by simp [brkL]) (fun _ _ => by simp [brkL]) ks

theorem enterLoop_recurse (p : Node → Bool) (back : Bool) (st : List Node) :
    enterLoop p back true st = ids ((st.flatMap (pre back)).filter p) := by
  fun_induction enterLoop p back true st <;> simp_all [ids, pre_eq, flatMap_orient_pre]

theorem enterLoop_norecurse (p : Node → Bool) (back : Bool) (st : List Node) :
    enterLoop p back false st = ids (st.filter p) := by
  induction st with
  | nil => simp [enterLoop, ids]
  | cons n st ih =>
    rw [enterLoop]
    by_cases hp : p n = true <;> simp [hp, ids, ih]

theorem walkEnter_eq (p : Node → Bool) (back self_ : Bool) (t : Node) :
    walkEnter p back true self_ t = ids (((if self_ then [t] else []) ++ preL back t.kids).filter p) := by
  simp only [walkEnter, enterLoop_recurse, flatMap_orient_pre]
  cases self_ <;> by_cases hp : p t = true <;> simp [hp, ids]

theorem walkEnter_self (p : Node → Bool) (back : Bool) (t : Node) :
    walkEnter p back true true t = ids ((pre back t).filter p) := by
  rw [walkEnter_eq, pre_eq]; simp

theorem walkEnter_norec_eq (p : Node → Bool) (back self_ : Bool) (t : Node) :
    walkEnter p back false self_ t = ids (((if self_ then [t] else []) ++ orient back t.kids).filter p) := by
  simp only [walkEnter, enterLoop_norecurse]
  cases self_ <;> by_cases hp : p t = true <;> simp [hp, ids]

theorem flatMap_itemPost_enter (back : Bool) (l : List Node) :
    (l.map Item.enter).flatMap (itemPost back) = l.flatMap (post back) :=
  List.flatMap_map ..

theorem flatMap_itemPost_leave (back : Bool) (l : List Node) :
    (l.map Item.leave).flatMap (itemPost back) = l :=
  (List.flatMap_map ..).trans l.flatMap_singleton'

/-- an entering item stands for the postorder of its tree, a leaving item for its node -/
theorem leaveLoop_eq (p : Node → Bool) (back : Bool) (st : List Item) :
    leaveLoop p back st = ids ((st.flatMap (itemPost back)).filter p) := by
  fun_induction leaveLoop p back st <;>
    simp_all [ids, itemPost, post_eq, flatMap_itemPost_enter, flatMap_orient_post, postL]

theorem walkLeave_eq (p : Node → Bool) (back self_ : Bool) (t : Node) :
    walkLeave p back true self_ t = ids ((postL back t.kids).filter p) ++ (if self_ && p t then [t.id] else []) := by
  simp only [walkLeave, cond_true, leaveLoop_eq, flatMap_itemPost_enter, flatMap_orient_post]

theorem walkLeave_self (p : Node → Bool) (back : Bool) (t : Node) :
    walkLeave p back true true t = ids ((post back t).filter p) := by
  rw [walkLeave_eq, post_eq]
  cases h : p t <;> simp [h, ids]

theorem flatMap_itemBrk_enter (back : Bool) (l : List Node) :
    (l.map Item.enter).flatMap (itemBrk back) = l.flatMap (brk back) :=
  List.flatMap_map ..

theorem bothLoop_recurse (p : Node → Bool) (back : Bool) (st : List Item) :
    bothLoop p back true st = ids2 ((st.flatMap (itemBrk back)).filter (fun x => p x.1)) := by
  fun_induction bothLoop p back true st <;>
    simp_all [ids2, itemBrk, brk_eq, flatMap_itemBrk_enter, flatMap_orient_brk]

theorem bothLoop_norecurse (p : Node → Bool) (back : Bool) (ks : List Node) (st : List Item) :
    bothLoop p back false (ks.map Item.enter ++ st)
      = (ks.flatMap (fun n => if p n then [(n.id, false), (n.id, true)] else [])) ++ bothLoop p back false st := by
  induction ks with
  | nil => simp
  | cons n ks ih => cases hp : p n <;> simp [bothLoop, hp, ih]

theorem walkBoth_eq (p : Node → Bool) (back self_ : Bool) (t : Node) :
    walkBoth p back true self_ t
      = (if self_ && p t then [(t.id, false)] else [])
        ++ ids2 ((brkL back t.kids).filter (fun x => p x.1))
        ++ (if self_ && p t then [(t.id, true)] else []) := by
  simp only [walkBoth, bothLoop_recurse, flatMap_itemBrk_enter, flatMap_orient_brk]

theorem mirror_id (n : Node) : (mirror n).id = n.id := by cases n; simp [mirror, Node.id]
theorem mirror_cat (n : Node) : (mirror n).cat = n.cat := by cases n; simp [mirror, Node.cat]
theorem mirror_kind (n : Node) : (mirror n).kind = n.kind := by cases n; simp [mirror, Node.kind]
theorem mirror_lab (n : Node) : (mirror n).lab = n.lab := by cases n; simp [mirror, Node.lab]
theorem mirror_kids (n : Node) : (mirror n).kids = mirrorL n.kids := by cases n; simp [mirror, Node.kids]

theorem preL_false_eq_flatMap (ks : List Node) : preL false ks = ks.flatMap (pre false) := by
  rw [← flatMap_orient_pre]; rfl

theorem preL_true_reverse (ks : List Node) : preL true ks.reverse = ks.flatMap (pre true) := by
  rw [← flatMap_orient_pre]; simp [orient]

theorem preL_false_append (a b : List Node) : preL false (a ++ b) = preL false a ++ preL false b := by
  simp [preL_false_eq_flatMap]

mutual
theorem pre_back_mirror : (t : Node) → (pre true t).map mirror = pre false (mirror t)
  | .mk i l c k ks => by
    simp only [pre, mirror, List.map_cons, preL_back_mirror ks]
theorem preL_back_mirror : (ks : List Node) → (preL true ks).map mirror = preL false (mirrorL ks)
  | [] => by simp [preL, mirrorL]
  | k :: ks => by
    simp only [preL, mirrorL, cond_true, List.map_append, preL_false_append, pre_back_mirror k,
      preL_back_mirror ks, cond_false, List.append_nil]
end

theorem checkAll_mirror (m : AllMode) (n : Node) : checkAll m (mirror n) = checkAll m n := by
  cases m <;> simp [checkAll, mirror_cat, mirror_kind]

theorem ids_map_mirror (l : List Node) : ids (l.map mirror) = ids l := by
  simp [ids, Function.comp_def, mirror_id]

theorem walkEnter_back_mirror (p : Node → Bool) (hp : ∀ n, p (mirror n) = p n) (self_ : Bool) (t : Node) :
    walkEnter p true true self_ t = walkEnter p false true self_ (mirror t) := by
  rw [walkEnter_eq, walkEnter_eq, mirror_kids, ← preL_back_mirror]
  have : (if self_ = true then [mirror t] else []) = (if self_ = true then [t] else []).map mirror := by
    cases self_ <;> simp
  rw [this, ← List.map_append, List.filter_map, show p ∘ mirror = p from funext hp, ids_map_mirror]

mutual
theorem post_eq_reverse_pre_flip (back : Bool) : (t : Node) → post back t = (pre (!back) t).reverse
  | .mk i l c k ks => by
    simp only [post, pre, List.reverse_cons, postL_eq_reverse_preL_flip back ks]
theorem postL_eq_reverse_preL_flip (back : Bool) : (ks : List Node) → postL back ks = (preL (!back) ks).reverse
  | [] => by simp [postL, preL]
  | k :: ks => by
    cases back <;> simp [postL, preL, post_eq_reverse_pre_flip _ k, postL_eq_reverse_preL_flip _ ks]
end

mutual
theorem pre_perm (back : Bool) : (t : Node) → (pre back t).Perm (pre false t)
  | .mk i l c k ks => by
    simp only [pre]
    exact List.Perm.cons _ (preL_perm back ks)
theorem preL_perm (back : Bool) : (ks : List Node) → (preL back ks).Perm (preL false ks)
  | [] => by simp [preL]
  | k :: ks => by
    cases back
    · simp only [preL, cond_false]; exact List.Perm.refl _
    · simp only [preL, cond_true, cond_false]
      exact List.perm_append_comm.trans (List.Perm.append (pre_perm true k) (preL_perm true ks))
end

theorem post_perm (back : Bool) (t : Node) : (post back t).Perm (pre false t) := by
  rw [post_eq_reverse_pre_flip]
  exact (List.reverse_perm _).trans (pre_perm _ t)

theorem postL_perm (back : Bool) : (ks : List Node) → (postL back ks).Perm (preL false ks) := fun ks => by
  rw [postL_eq_reverse_preL_flip]
  exact (List.reverse_perm _).trans (preL_perm _ ks)

/-- in either direction, entering or leaving, `walk` yields the nodes that pass the filter, each as often as the tree has it -/
theorem walk_perm (p : Node → Bool) (back : Bool) (t : Node) :
    (walkEnter p back true true t).Perm (ids ((pre false t).filter p))
    ∧ (walkLeave p back true true t).Perm (ids ((pre false t).filter p)) := by
  rw [walkEnter_self, walkLeave_self]
  exact ⟨((pre_perm back t).filter p).map _, ((post_perm back t).filter p).map _⟩

mutual
theorem brk_enter (back : Bool) : (t : Node) → ((brk back t).filter (fun x => !x.2)).map Prod.fst = pre back t
  | .mk i l c k ks => by simp [brk, pre, brkL_enter back ks]
theorem brkL_enter (back : Bool) : (ks : List Node) → ((brkL back ks).filter (fun x => !x.2)).map Prod.fst = preL back ks
  | [] => by simp [brkL, preL]
  | k :: ks => by cases back <;> simp [brkL, preL, brk_enter _ k, brkL_enter _ ks]
end

mutual
theorem brk_leave (back : Bool) : (t : Node) → ((brk back t).filter (fun x => x.2)).map Prod.fst = post back t
  | .mk i l c k ks => by simp [brk, post, brkL_leave back ks]
theorem brkL_leave (back : Bool) : (ks : List Node) → ((brkL back ks).filter (fun x => x.2)).map Prod.fst = postL back ks
  | [] => by simp [brkL, postL]
  | k :: ks => by cases back <;> simp [brkL, postL, brk_leave _ k, brkL_leave _ ks]
end

theorem brk_enter_perm (back : Bool) (t : Node) :
    (((brk back t).filter (fun x => !x.2)).map Prod.fst).Perm (pre false t) := by
  rw [brk_enter]; exact pre_perm back t

theorem brk_leave_perm (back : Bool) (t : Node) :
    (((brk back t).filter (fun x => x.2)).map Prod.fst).Perm (pre false t) := by
  rw [brk_leave]; exact post_perm back t

theorem brkL_enter_perm (back : Bool) : (ks : List Node) →
    (((brkL back ks).filter (fun x => !x.2)).map Prod.fst).Perm (preL false ks) := fun ks => by
  rw [brkL_enter]; exact preL_perm back ks

theorem brkL_leave_perm (back : Bool) : (ks : List Node) →
    (((brkL back ks).filter (fun x => x.2)).map Prod.fst).Perm (preL false ks) := fun ks => by
  rw [brkL_leave]; exact postL_perm back ks

end Pfst.Walk
