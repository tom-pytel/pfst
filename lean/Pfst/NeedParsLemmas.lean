import Pfst.NeedPars
/-! Lemmas about the put-time parenthesisation model (`Pfst/NeedPars.lean`): the regular expression test, the gap loops,
the child loop invariant of `_is_enclosed_or_line`, the string branch (a pigeonhole argument), where an answer of the
precedence table comes from, the `pars` option logic branch by branch. -/
namespace Pfst.NeedPars
open Pfst.Gen.Precedence Pfst.Gen.Enclose

/-- `[^#]*\\$` matched at `col`: the rest of the line is some text without `#` followed by one final backslash -/
theorem lineEndCont_iff (line : Line) (col : Nat) :
    lineEndCont line col = true ↔ ∃ pre, line.drop col = pre ++ ['\\'] ∧ '#' ∉ pre := by
  unfold lineEndCont
  generalize line.drop col = t
  cases hr : t.reverse with
  | nil => simp [List.reverse_eq_nil_iff.1 hr]
  | cons c r =>
    rw [List.reverse_eq_cons_iff] at hr
    subst hr
    simp [and_assoc]

theorem gapBad_nil {lines : List Line} {a cnt col : Nat} (h : gapBad lines a cnt col = []) {i : Nat} (h1 : a ≤ i)
    (h2 : i < a + cnt) : lineEndCont (lines.getD i []) (if i = a then col else 0) = true := by
  induction cnt generalizing a col with
  | zero => omega
  | succ n ih =>
    rw [gapBad, List.append_eq_nil_iff] at h
    by_cases hia : i = a
    · subst hia
      simpa using h.1
    · simpa [hia] using ih h.2 (by omega) (by omega)

/-- newline number `i` (the one that ends line `i`) of a node that starts at `(ln, col)` and walks `steps`:
it lies inside the span of a walked child, or line `i` ends in a backslash with no `#` between column `c` and that
backslash, where `c` is 0, the node's own start (first line) or the end of a child that ends on this line. -/
def NewlineOk (lines : List Line) (steps : List Step) (ln col : Nat) (i : Nat) : Prop :=
  (∃ s ∈ steps, s.loc.ln ≤ i ∧ i < s.loc.endLn) ∨
  (∃ c, lineEndCont (lines.getD i []) c = true ∧
    (c = 0 ∨ (i = ln ∧ c = col) ∨ ∃ s ∈ steps, s.loc.endLn = i ∧ c = s.loc.endCol))

/-- invariant of the child loop: the newlines before the line the walk has reached are harmless, and the column it stands
at on that line is one that `NewlineOk` admits -/
def Inv (lines : List Line) (all : List Step) (ln col : Nat) (st : St) : Prop :=
  (∀ i, ln ≤ i → i < st.lastLn → NewlineOk lines all ln col i) ∧
  (st.lastCol = 0 ∨ (st.lastLn = ln ∧ st.lastCol = col) ∨ ∃ s ∈ all, s.loc.endLn = st.lastLn ∧ st.lastCol = s.loc.endCol)

theorem Inv.gap {lines : List Line} {all : List Step} {ln col : Nat} {st : St} (hi : Inv lines all ln col st) {cnt : Nat}
    (hbad : gapBad lines st.lastLn cnt st.lastCol = []) (i : Nat) (h1 : ln ≤ i) (h2 : i < st.lastLn + cnt) :
    NewlineOk lines all ln col i := by
  by_cases hlt : i < st.lastLn
  · exact hi.1 i h1 hlt
  · have hg := gapBad_nil hbad (i := i) (by omega) h2
    by_cases hil : i = st.lastLn
    · subst hil
      exact Or.inr ⟨st.lastCol, by simpa using hg, hi.2⟩
    · exact Or.inr ⟨0, by simpa [hil] using hg, Or.inl rfl⟩

theorem stepLoop_inv (lines : List Line) (all : List Step) (ln col : Nat) (st : St) (s : Step) (hs : s ∈ all)
    (hf : (stepLoop lines st s).failed = false) :
    st.failed = false ∧ (Inv lines all ln col st → Inv lines all ln col (stepLoop lines st s)) := by
  by_cases heq : (s.loc.endLn == st.lastLn) = true
  · simp only [stepLoop, heq, ↓reduceIte] at hf ⊢
    exact ⟨hf, fun hi => ⟨hi.1, Or.inr (Or.inr ⟨s, hs, by simpa using heq, rfl⟩)⟩⟩
  · simp only [stepLoop, heq, ↓reduceIte, Bool.false_eq_true, Bool.or_eq_false_iff, Bool.not_eq_false', List.isEmpty_iff] at hf ⊢
    refine ⟨hf.1.1, fun hi => ⟨fun i h1 h2 => ?_, Or.inr (Or.inr ⟨s, hs, rfl, rfl⟩)⟩⟩
    by_cases hin : s.loc.ln ≤ i
    · exact Or.inl ⟨s, hs, hin, h2⟩
    · exact hi.gap hf.1.2 i h1 (by omega)

theorem loop_inv (lines : List Line) (all : List Step) (ln col : Nat) : ∀ (steps : List Step) (st : St),
    (∀ s ∈ steps, s ∈ all) → (loop lines st steps).failed = false →
    st.failed = false ∧ (Inv lines all ln col st → Inv lines all ln col (loop lines st steps))
  | [], _, _, hf => ⟨hf, id⟩
  | s :: r, st, hsub, hf =>
    have ih := loop_inv lines all ln col r (stepLoop lines st s) (fun x hx => hsub x (List.mem_cons_of_mem _ hx)) hf
    have h1 := stepLoop_inv lines all ln col st s (hsub s List.mem_cons_self) ih.1
    ⟨h1.1, ih.2 ∘ h1.2⟩

theorem finish_sound (lines : List Line) (steps : List Step) (ln col endLn : Nat)
    (h : (finish lines (loop lines ⟨ln, col, false, false, []⟩ steps) endLn).1.truthy = true) :
    ∀ i, ln ≤ i → i < endLn → NewlineOk lines steps ln col i := by
  generalize hst : loop lines ⟨ln, col, false, false, []⟩ steps = st at h
  have hf : st.failed = false ∧ gapBad lines st.lastLn (endLn - st.lastLn) st.lastCol = [] := by
    simp only [finish] at h
    split at h
    · cases h
    · split at h
      · cases h
      · next hf => simpa using hf
  have hinv : Inv lines steps ln col st :=
    hst ▸ (loop_inv lines steps ln col steps _ (fun s hs => hs) (hst ▸ hf.1)).2
      ⟨fun i h1 h2 => by simp only at h2; omega, Or.inr (Or.inl ⟨rfl, rfl⟩)⟩
  exact fun i h1 h2 => hinv.gap hf.2 i h1 (by omega)

theorem mem_dedup (l : List Nat) (x : Nat) : x ∈ dedup l ↔ x ∈ l := by
  induction l with
  | nil => simp [dedup]
  | cons y r ih =>
    rw [dedup, List.mem_cons]
    split
    · next hc => exact ih.trans ⟨Or.inr, fun h => h.elim (fun e => e ▸ by simpa using hc) id⟩
    · rw [List.mem_cons, ih]

theorem nodup_dedup (l : List Nat) : (dedup l).Nodup := by
  induction l with
  | nil => exact List.nodup_nil
  | cons y r ih =>
    rw [dedup]
    split
    · exact ih
    · next hc => exact List.nodup_cons.2 ⟨by simpa [mem_dedup] using hc, ih⟩

theorem pigeon (n a : Nat) (l : List Nat) (hnd : l.Nodup) (hb : ∀ x ∈ l, a ≤ x ∧ x < a + n) (hlen : l.length = n)
    (x : Nat) (h1 : a ≤ x) (h2 : x < a + n) : x ∈ l := by
  refine Classical.byContradiction fun hx => ?_
  -- otherwise `x :: l` would be `n + 1` distinct numbers of the window
  have := (List.nodup_cons.2 ⟨hx, hnd⟩).length_le_of_subset (l₂ := List.range' a n) fun y hy => by
    rcases List.mem_cons.1 hy with rfl | hy
    · exact List.mem_range'_1.2 ⟨h1, h2⟩
    · exact List.mem_range'_1.2 (hb y hy)
  simp at this
  omega

theorem endsBackslash_iff (line : Line) : endsBackslash line = true ↔ ∃ pre, line = pre ++ ['\\'] := by
  unfold endsBackslash
  cases hr : line.reverse with
  | nil => simp [List.reverse_eq_nil_iff.1 hr]
  | cons c r =>
    rw [List.reverse_eq_cons_iff] at hr
    subst hr
    simp

theorem strBranch_sound (lines : List Line) (l : Loc) (strLns : List Nat)
    (hs : ∀ x ∈ strLns, l.ln < x ∧ x ≤ l.endLn)
    (h : (strBranch lines l strLns).1.truthy = true) :
    ∀ j, l.ln ≤ j → j < l.endLn →
      (j + 1 ∈ strLns ∨ lineEndCont (lines.getD j []) (if j = l.ln then l.col else 0) = true) := by
  unfold strBranch at h
  simp only at h
  split at h
  · rename_i hlen
    simp only [beq_iff_eq] at hlen
    intro j h1 h2
    have hmem := pigeon (l.endLn - l.ln) (l.ln + 1) _ (nodup_dedup _) ?_ hlen (j + 1) (by omega) (by omega)
    · rw [mem_dedup, List.mem_append] at hmem
      rcases hmem with hm | hm
      · exact Or.inl hm
      · simp only [List.mem_map, List.mem_filter] at hm
        obtain ⟨j', ⟨_, hp⟩, he⟩ := hm
        have : j' = j := by omega
        subst this
        exact Or.inr (by simpa using hp)
    · intro x hx
      rw [mem_dedup, List.mem_append] at hx
      rcases hx with hm | hm
      · have := hs x hm; omega
      · simp only [List.mem_map, List.mem_filter, List.mem_range'_1] at hm
        obtain ⟨j', ⟨hr, _⟩, he⟩ := hm
        omega
  · simp [EolRes.truthy] at h

/-- the `end_ln` the tail loop runs to (the `endLn` that `eol` binds in place before `finish`): the end of the header for
`With` / `AsyncWith` -/
def tailEnd (i : Info) (l : Loc) : Nat :=
  if withKinds.contains i.kind then (match i.special with | some (_, _, b) => b | none => l.endLn) else l.endLn

/-- the branches of `_is_enclosed_or_line` that answer `True`, in the order they are tried -/
theorem eol_cases (lines : List Line) (checkPars : Bool) (i : Info) (kids : List Node) (l : Loc) (hl : i.loc = some l)
    (h : (eol lines checkPars (.mk i kids)).1.truthy = true) :
    (eolAlways.contains i.kind = true ∨ l.endLn = l.ln ∨ (checkPars = true ∧ 0 < i.n))
    ∨ (isStrKind i.kind = true ∧ (strBranch lines l i.strLns).1.truthy = true)
    ∨ (isStrKind i.kind = false ∧ (i.ptup = some true ∨ (i.ptup = none ∧ i.dms = some true) ∨
        (finish lines (loop lines ⟨l.ln, l.col, false, false, []⟩ (selectSteps i (stepsOf lines kids))) (tailEnd i l)).1.truthy
          = true)) := by
  rw [eol] at h
  simp only [hl] at h
  by_cases h1 : eolAlways.contains i.kind = true
  · exact Or.inl (Or.inl h1)
  by_cases h2 : eolBlock.contains i.kind = true
  · rw [if_neg h1, if_pos h2] at h
    simp [EolRes.truthy] at h
  by_cases h3 : (l.endLn == l.ln) = true
  · exact Or.inl (Or.inr (Or.inl (by simpa using h3)))
  by_cases h4 : (checkPars && decide (0 < i.n)) = true
  · simp only [Bool.and_eq_true, decide_eq_true_eq] at h4
    exact Or.inl (Or.inr (Or.inr h4))
  by_cases h5 : isStrKind i.kind = true
  · simp only [h1, h2, h3, h4, h5, if_true, if_false, Bool.false_eq_true] at h
    exact Or.inr (Or.inl ⟨h5, h⟩)
  refine Or.inr (Or.inr ⟨by simpa using h5, ?_⟩)
  by_cases h6 : (i.ptup == some true) = true
  · exact Or.inl (by simpa using h6)
  by_cases h7 : (i.ptup == none && i.dms == some true) = true
  · simp only [Bool.and_eq_true, beq_iff_eq] at h7
    exact Or.inr (Or.inl h7)
  simp only [h1, h2, h3, h4, h5, h6, h7, if_false, Bool.false_eq_true] at h
  -- what is left of `eol` is its tail loop, and `tailEnd i l` unfolds to the `endLn` bound there
  exact Or.inr (Or.inr h)

theorem tableLookup_eq_some {p : K} {f : F} {c : K} {fl : Nat} {b : Bool} (h : tableLookup p f c fl = some b) :
    ∃ r ∈ rows, ∃ cm ∈ List.zip children r.2.2, cm.1 = c ∧ cm.2 ≠ 65536 ∧ Pfst.Prec.bit cm.2 fl = b := by
  unfold tableLookup at h
  split at h
  · cases h
  · next r hr =>
    split at h
    · cases h
    · next cm hcm =>
      split at h
      · cases h
      · next hne =>
        exact ⟨r, List.mem_of_find?_eq_some hr, cm, List.mem_of_find?_eq_some hcm, by simpa using List.find?_some hcm,
          by simpa using hne, Option.some.inj h⟩

theorem needPars_eq (x : NPIn) (adding : Bool) :
    needPars x adding = (needFirst x adding).map fun b => b || lineBranch x adding || lambdaBranch x := by
  unfold needPars
  rcases needFirst x adding with _ | _ | _ <;> rfl

/-- the source has parentheses, `pars='auto'`: they go exactly when `need_pars(False)` says they are not needed -/
theorem actionCore_auto_src (th ut pz an : Bool) (nF nT : Option Bool) :
    actionCore .auto true th ut pz an nF nT = nF.map fun nd => ⟨if nd then .none else .unpar, true⟩ := by
  rcases nF with _ | _ | _ <;> rfl

theorem actionCore_on_src (th ut pz an : Bool) (nF nT : Option Bool) :
    actionCore .on true th ut pz an nF nT = some ⟨.none, true⟩ := rfl

/-- the source has none: parentheses (delimiters for a bare tuple) are added when `need_pars(True)` asks for them and the
target does not keep its own; the target's go with it when the source is a bare tuple, or when they are not needed
(`pars=True`, or not the target of an `AnnAssign`) -/
theorem actionCore_bare {opt : ParsOpt} (h : opt ≠ .off) (th ut pz an : Bool) (nF nT : Option Bool) :
    actionCore opt false th ut pz an nF nT = nT.map fun nd =>
      ⟨if nd && !(th && !ut) then (if ut then .delimit else if pz then .group else .deferred) else .none,
       th && (ut || !nd && (opt == .on || !an))⟩ := by
  cases nT with
  | none => cases opt <;> first | contradiction | rfl
  | some nd => cases opt <;> first | contradiction | cases nd <;> cases th <;> cases ut <;> cases pz <;> cases an <;> rfl

end Pfst.NeedPars
