import Pfst.Parse
import Pfst.GrammarLemmas
/-!
Lemmas about the precedence-climbing parser `Pfst/Parse.lean`.

* Its equations in terms of `Option.bind`, with the infix constructs factored out of the loop (`pInfix`, `pLoop_cons`)
  and the prefix constructs in a table (`prefixOp`, `pPre_succ`); fuel monotonicity follows branch by branch (`Le.bind`).
* Completeness with respect to the grammar `Derives`, on the fragment `inFrag`: `Parses q ni ts e` says that the phrase
  `ts` is parsed to `e` wherever an operand of a slot of level `q` is expected; a phrase enters a larger one either as
  a whole operand (`Parses.run`) or as the left operand of an infix construct (`Parses.cont`), and `complete` goes
  through the derivation.
-/
namespace Pfst.Parse
open Pfst.Grammar

abbrev isCmp (op : Nat) : Prop := 80 ≤ op ∧ op < 90

def expect (t : Tok) : List Tok → Option (List Tok)
  | u :: rest => if u = t then some rest else none
  | [] => none

theorem expect_eq_some {t toks rest} : expect t toks = some rest ↔ toks = t :: rest := by
  cases toks with
  | nil => simp [expect]
  | cons u r => simp only [expect]; split <;> simp_all [eq_comm]

theorem expect_bind {β : Type} {t toks} {k : List Tok → Option β} {y : β} :
    (expect t toks).bind k = some y ↔ ∃ rest, toks = t :: rest ∧ k rest = some y := by
  simp only [Option.bind_eq_some_iff, expect_eq_some]

/-- The infix construct opened by the first token, applied to the left operand `l`: its node and the tokens after it. -/
def pInfix (f : Nat) (l : E) : List Tok → Option (E × List Tok)
  | .sym op :: rest =>
    if op < 12 then (pE f (binLevel op + 1) rest).bind fun (r, _, _, rest') => some (.node (.bin op) [l, r], rest')
    else if op = tPow then (pE f FACTOR rest).bind fun (r, _, _, rest') => some (.node (.bin 12) [l, r], rest')
    else if 80 ≤ op ∧ op < 90 then
      (pCmp f (.sym op :: rest)).bind fun (ops, xs, rest') => some (.node (.cmp ops) (l :: xs), rest')
    else if op = 70 then
      (pBool f 70 AND (.sym op :: rest)).bind fun (xs, rest') => some (.node (.boolop true) (l :: xs), rest')
    else if op = 71 then
      (pBool f 71 NOT (.sym op :: rest)).bind fun (xs, rest') => some (.node (.boolop false) (l :: xs), rest')
    else if op = tIf then
      (pE f OR rest).bind fun (t, _, _, rest') => (expect (.sym tElse) rest').bind fun rest' =>
        (pE f TEST rest').bind fun (o, _, _, rest'') => some (.node .ifexp [l, t, o], rest'')
    else if op = tDot then
      match rest with
      | .name n :: rest' => some (.node (.attr n) [l], rest')
      | _ => none
    else if op = tLb then
      (pE f TEST rest).bind fun (x, _, _, rest') => (expect (.sym tRb) rest').bind fun rest' =>
        some (.node .subscr [l, x], rest')
    else none
  | .lp :: rest =>
    match rest with
    | .rp :: rest' => some (.node (.call 0 []) [l], rest')
    | _ =>
      (pE f TEST rest).bind fun (x, _, _, rest1) => (pBool f tComma TEST rest1).bind fun (xs, rest2) =>
        (expect .rp rest2).bind fun rest2 => some (.node (.call (xs.length + 1) []) (l :: x :: xs), rest2)
  | _ => none

theorem pLoop_cons (f m l ll bi t rest) :
    pLoop (f + 1) m l ll bi (t :: rest) =
      match infixLev t with
      | some (a, b) =>
        if m ≤ b ∧ a ≤ ll ∧ (t = .sym tDot → bi = false) then
          (pInfix f l (t :: rest)).bind fun (e, rest') => pLoop f m e b false rest'
        else some (l, ll, bi, t :: rest)
      | none => some (l, ll, bi, t :: rest) := by
  rw [pLoop.eq_def]
  cases t with
  | sym op =>
    simp only [infixLev, pInfix, Tok.sym.injEq]
    by_cases hd : op = tDot
    · subst hd
      simp only [tDot, tPow, tIf, Nat.reduceLT, Nat.reduceEqDiff, Nat.reduceLeDiff, if_false, if_true, false_and, true_implies]
      rcases rest with _ | ⟨_ | _ | _ | _ | _, _⟩ <;> rfl
    · simp only [hd, false_implies, and_true, if_false]
      -- the three chains of conditions are decided together, one condition at a time (`split` on terms of this size is slow)
      by_cases h1 : op < 12 <;> simp only [h1, if_true, if_false]
      · cases pE f (binLevel op + 1) rest <;> rfl
      by_cases h2 : op = tPow <;> simp only [h2, if_true, if_false]
      · cases pE f FACTOR rest <;> rfl
      by_cases h3 : 80 ≤ op ∧ op < 90 <;> simp only [h3, and_self, if_true, if_false]
      · cases pCmp f (.sym op :: rest) <;> rfl
      by_cases h4 : op = 70 <;> simp only [h4, if_true, if_false]
      · cases pBool f 70 AND (.sym 70 :: rest) <;> rfl
      by_cases h5 : op = 71 <;> simp only [h5, if_true, if_false]
      · cases pBool f 71 NOT (.sym 71 :: rest) <;> rfl
      by_cases h6 : op = tIf <;> simp only [h6, if_true, if_false]
      · rcases pE f OR rest with _ | ⟨t, _, _, _ | ⟨_ | _ | c | _ | _, rest'⟩⟩ <;> try rfl
        simp only [Option.bind_some, expect, Tok.sym.injEq]
        by_cases hc : c = tElse <;> simp only [hc, if_true, if_false, Option.bind_some, Option.bind_none]
        cases pE f TEST rest' <;> rfl
      by_cases h7 : op = tLb <;> simp only [h7, if_true, if_false]
      rcases pE f TEST rest with _ | ⟨t, _, _, _ | ⟨_ | _ | c | _ | _, rest'⟩⟩ <;> try rfl
      simp only [Option.bind_some, expect, Tok.sym.injEq]
      by_cases hc : c = tRb <;> simp only [hc, if_true, if_false, Option.bind_some, Option.bind_none]
  | lp =>
    simp only [infixLev, pInfix, reduceCtorEq, false_implies, and_true]
    rcases rest with _ | ⟨_ | _ | _ | _ | _, rest⟩ <;> try rfl
    all_goals
      rcases pE f TEST _ with _ | ⟨x, _, _, rest1⟩
      · rfl
      simp only [Option.bind_some]
      rcases pBool f tComma TEST rest1 with _ | ⟨xs, _ | ⟨_ | _ | _ | _ | _, rest2⟩⟩ <;> rfl
  | _ => rfl

theorem pLoop_step {f m l ll bi t rest a b e rest'} (hinf : infixLev t = some (a, b)) (hm : m ≤ b) (ha : a ≤ ll)
    (hbi : t = .sym tDot → bi = false) (h : pInfix f l (t :: rest) = some (e, rest')) :
    pLoop (f + 1) m l ll bi (t :: rest) = pLoop f m e b false rest' := by
  rw [pLoop_cons, hinf]
  simp only [if_pos (And.intro hm (And.intro ha hbi)), h, Option.bind_some]

theorem pInfix_bin {f l op rest} (hop : op < 12) :
    pInfix f l (.sym op :: rest) =
      (pE f (binLevel op + 1) rest).bind fun (r, _, _, rest') => some (.node (.bin op) [l, r], rest') := by
  simp only [pInfix, if_pos hop]

theorem pInfix_pow {f l rest} :
    pInfix f l (.sym tPow :: rest) =
      (pE f FACTOR rest).bind fun (r, _, _, rest') => some (.node (.bin 12) [l, r], rest') := rfl

theorem infixLev_cmp {op} (h : isCmp op) : infixLev (.sym op) = some (BOR, CMP) := by
  unfold isCmp at h
  simp only [infixLev]
  rw [if_neg (by omega), if_neg (by simp only [tPow]; omega), if_pos h]

theorem pInfix_cmp {f l op rest} (hop : isCmp op) :
    pInfix f l (.sym op :: rest) =
      (pCmp f (.sym op :: rest)).bind fun (ops, xs, rest') => some (.node (.cmp ops) (l :: xs), rest') := by
  unfold isCmp at hop
  simp only [pInfix]
  rw [if_neg (by omega), if_neg (by simp only [tPow]; omega), if_pos hop]

/-- `or` / `and`: the token, the level of the operand slots and the level of the construct -/
abbrev boolTok (isOr : Bool) : Nat := if isOr then 70 else 71
abbrev boolSlot (isOr : Bool) : Nat := if isOr then AND else NOT
abbrev boolLev (isOr : Bool) : Nat := if isOr then OR else AND

theorem infixLev_bool (isOr : Bool) : infixLev (.sym (boolTok isOr)) = some (boolSlot isOr, boolLev isOr) := by
  cases isOr <;> rfl

theorem pInfix_bool {f l rest} (isOr : Bool) :
    pInfix f l (.sym (boolTok isOr) :: rest) =
      (pBool f (boolTok isOr) (boolSlot isOr) (.sym (boolTok isOr) :: rest)).bind fun (xs, rest') =>
        some (.node (.boolop isOr) (l :: xs), rest') := by
  cases isOr <;> rfl

theorem pInfix_if {f l rest} :
    pInfix f l (.sym tIf :: rest) =
      (pE f OR rest).bind fun (t, _, _, rest') => (expect (.sym tElse) rest').bind fun rest' =>
        (pE f TEST rest').bind fun (o, _, _, rest'') => some (.node .ifexp [l, t, o], rest'') := rfl

theorem pInfix_attr {f l n rest} : pInfix f l (.sym tDot :: .name n :: rest) = some (.node (.attr n) [l], rest) := rfl

theorem pInfix_subscr {f l rest} :
    pInfix f l (.sym tLb :: rest) =
      (pE f TEST rest).bind fun (x, _, _, rest') => (expect (.sym tRb) rest').bind fun rest' =>
        some (.node .subscr [l, x], rest') := rfl

theorem pInfix_call0 {f l rest} : pInfix f l (.lp :: .rp :: rest) = some (.node (.call 0 []) [l], rest) := rfl

theorem pInfix_call {f l rest} (hne : ∀ r, rest ≠ .rp :: r) :
    pInfix f l (.lp :: rest) =
      (pE f TEST rest).bind fun (x, _, _, rest1) => (pBool f tComma TEST rest1).bind fun (xs, rest2) =>
        (expect .rp rest2).bind fun rest2 => some (.node (.call (xs.length + 1) []) (l :: x :: xs), rest2) := by
  rcases rest with _ | ⟨_ | _ | _ | _ | _, r⟩ <;> first | rfl | exact absurd rfl (hne r)

theorem sym_cases (op : Nat) :
    op < 12 ∨ op = tPow ∨ isCmp op ∨ (∃ isOr, op = boolTok isOr) ∨ op = tIf ∨ op = tDot ∨ op = tLb ∨
      (infixLev (.sym op) = none ∧ ∀ f l rest, pInfix f l (.sym op :: rest) = none) := by
  by_cases h : op < 12 ∨ op = tPow ∨ isCmp op ∨ op = 70 ∨ op = 71 ∨ op = tIf ∨ op = tDot ∨ op = tLb
  · rcases h with h | h | h | h | h | h | h | h
    · exact .inl h
    · exact .inr (.inl h)
    · exact .inr (.inr (.inl h))
    · exact .inr (.inr (.inr (.inl ⟨true, h⟩)))
    · exact .inr (.inr (.inr (.inl ⟨false, h⟩)))
    · exact .inr (.inr (.inr (.inr (.inl h))))
    · exact .inr (.inr (.inr (.inr (.inr (.inl h)))))
    · exact .inr (.inr (.inr (.inr (.inr (.inr (.inl h))))))
  · simp only [not_or] at h
    obtain ⟨h1, h2, h3, h4, h5, h6, h7, h8⟩ := h
    refine .inr (.inr (.inr (.inr (.inr (.inr (.inr ⟨?_, fun f l rest => ?_⟩))))))
    · simp only [infixLev, if_neg h1, if_neg h2, if_neg h3, if_neg h4, if_neg h5, if_neg h6, if_neg h7, if_neg h8]
    · simp only [pInfix, if_neg h1, if_neg h2, if_neg h3, if_neg h4, if_neg h5, if_neg h6, if_neg h7, if_neg h8]

/-- Prefix constructs: own ladder level, level of the operand slot, kind, and the tokens after the prefix. -/
def prefixOp : List Tok → Option (Nat × Nat × Kind × List Tok)
  | .sym op :: rest =>
    if 30 ≤ op ∧ op < 33 then some (FACTOR, FACTOR, .un (op - 30), rest)
    else if op = tNot then some (NOT, NOT, .not_, rest)
    else if op = tAwait then some (AWAIT, ATOM, .await_, rest)
    else if op = tLambda then
      match rest with
      | .sym c :: rest' => if c = tColon then some (TEST, TEST, .lambda, rest') else none
      | _ => none
    else none
  | _ => none

theorem pPre_succ (f m toks) :
    pPre (f + 1) m toks =
      match toks with
      | .name n :: rest => some (.leaf (.name n) (.lad ATOM), ATOM, false, rest)
      | .int n :: rest => some (.leaf (.int n) .intlit, GRP, true, rest)
      | .lp :: rest =>
        (pE f TEST rest).bind fun (e, _, _, rest') => (expect .rp rest').bind fun rest' => some (e, GRP, false, rest')
      | toks =>
        (prefixOp toks).bind fun (p, q, k, rest) =>
          if m ≤ p then (pE f q rest).bind fun (x, _, _, r) => some (.node k [x], p, false, r) else none := by
  rw [pPre.eq_def]
  rcases toks with _ | ⟨_ | _ | op | _ | _, rest⟩ <;> try rfl
  · simp only []
    rcases pE f TEST rest with _ | ⟨e, _, _, _ | ⟨_ | _ | _ | _ | _, rest'⟩⟩ <;> rfl
  · simp only [prefixOp]
    by_cases h1 : 30 ≤ op ∧ op < 33 <;> simp only [h1, and_self, if_true, if_false, Option.bind_some]
    · cases pE f FACTOR rest <;> rfl
    by_cases h2 : op = tNot <;> simp only [h2, if_true, if_false, Option.bind_some]
    · cases pE f NOT rest <;> rfl
    by_cases h3 : op = tAwait <;> simp only [h3, if_true, if_false, Option.bind_some]
    · cases pE f ATOM rest <;> rfl
    by_cases h4 : op = tLambda <;> simp only [h4, if_true, if_false, Option.bind_none]
    rcases rest with _ | ⟨_ | _ | c | _ | _, rest'⟩ <;> try simp only [Option.bind_none, ite_self]
    by_cases hc : c = tColon <;> simp only [hc, if_true, if_false, Option.bind_some, Option.bind_none, ite_self]
    cases pE f TEST rest' <;> rfl

theorem pPre_prefix {f m toks p q k rest} (h : prefixOp toks = some (p, q, k, rest)) (hm : m ≤ p) :
    pPre (f + 1) m toks = (pE f q rest).bind fun (x, _, _, r) => some (.node k [x], p, false, r) := by
  rw [pPre_succ]
  rcases toks with _ | ⟨_ | _ | op | _ | _, r⟩ <;> try cases h
  simp only [h, Option.bind_some, if_pos hm]

theorem pLoop_nil (f m l ll bi) : pLoop (f + 1) m l ll bi [] = some (l, ll, bi, []) := by
  rw [pLoop.eq_def]

theorem pE_succ (f m toks) :
    pE (f + 1) m toks = (pPre f m toks).bind fun (e, lev, bi, rest) => pLoop f m e lev bi rest := by
  rw [pE]; cases pPre f m toks <;> rfl

theorem pCmp_succ (f toks) :
    pCmp (f + 1) toks =
      match toks with
      | .sym op :: rest =>
        if isCmp op then
          (pE f BOR rest).bind fun (x, _, _, rest') => (pCmp f rest').bind fun (ops, xs, r) => some (op :: ops, x :: xs, r)
        else some ([], [], toks)
      | _ => some ([], [], toks) := by
  rw [pCmp.eq_def]
  rcases toks with _ | ⟨_ | _ | op | _ | _, rest⟩ <;> try rfl
  simp only []
  split
  · rcases pE f BOR rest with _ | ⟨x, _, _, rest'⟩
    · rfl
    · simp only [Option.bind_some]; cases pCmp f rest' <;> rfl
  · rfl

theorem pBool_succ (f tk q toks) :
    pBool (f + 1) tk q toks =
      match toks with
      | .sym op :: rest =>
        if op = tk then
          (pE f q rest).bind fun (x, _, _, rest') => (pBool f tk q rest').bind fun (xs, r) => some (x :: xs, r)
        else some ([], toks)
      | _ => some ([], toks) := by
  rw [pBool.eq_def]
  rcases toks with _ | ⟨_ | _ | op | _ | _, rest⟩ <;> try rfl
  simp only []
  split
  · rcases pE f q rest with _ | ⟨x, _, _, rest'⟩
    · rfl
    · simp only [Option.bind_some]; cases pBool f tk q rest' <;> rfl
  · rfl

/-- `q` is at least as defined as `p` -/
def Le {α} (p q : Option α) : Prop := ∀ a, p = some a → q = some a

theorem Le.rfl {α} {p : Option α} : Le p p := fun _ h => h

theorem Le.bind {α β} {p p' : Option α} {k k' : α → Option β} (hp : Le p p') (hk : ∀ a, Le (k a) (k' a)) :
    Le (p.bind k) (p'.bind k') := by
  intro b h
  obtain ⟨a, ha, hb⟩ := Option.bind_eq_some_iff.1 h
  rw [hp a ha]; exact hk a b hb

/-- The five functions call each other, so the five statements go through one induction on the fuel; each is the
function's equation on both sides and `Le.bind` along it. -/
theorem mono_all (f : Nat) :
    (∀ m toks, Le (pE f m toks) (pE (f + 1) m toks)) ∧
    (∀ m toks, Le (pPre f m toks) (pPre (f + 1) m toks)) ∧
    (∀ m l ll bi toks, Le (pLoop f m l ll bi toks) (pLoop (f + 1) m l ll bi toks)) ∧
    (∀ toks, Le (pCmp f toks) (pCmp (f + 1) toks)) ∧
    (∀ tk q toks, Le (pBool f tk q toks) (pBool (f + 1) tk q toks)) := by
  induction f with
  | zero => simp [Le, pE, pPre, pLoop, pCmp, pBool]
  | succ f ih =>
    obtain ⟨ihE, ihP, ihL, ihC, ihB⟩ := ih
    have ihI : ∀ l toks, Le (pInfix f l toks) (pInfix (f + 1) l toks) := by
      intro l toks
      rcases toks with _ | ⟨_ | _ | op | _ | _, rest⟩ <;> try exact .rfl
      · simp only [pInfix]
        split
        · exact .rfl
        · exact (ihE _ _).bind fun _ => (ihB _ _ _).bind fun _ => .rfl
      rcases sym_cases op with h | rfl | h | ⟨isOr, rfl⟩ | rfl | rfl | rfl | ⟨_, h⟩
      · rw [pInfix_bin h, pInfix_bin h]; exact (ihE _ _).bind fun _ => .rfl
      · rw [pInfix_pow, pInfix_pow]; exact (ihE _ _).bind fun _ => .rfl
      · rw [pInfix_cmp h, pInfix_cmp h]; exact (ihC _).bind fun _ => .rfl
      · rw [pInfix_bool, pInfix_bool]; exact (ihB _ _ _).bind fun _ => .rfl
      · rw [pInfix_if, pInfix_if]; exact (ihE _ _).bind fun _ => Le.rfl.bind fun _ => (ihE _ _).bind fun _ => .rfl
      · exact .rfl
      · rw [pInfix_subscr, pInfix_subscr]; exact (ihE _ _).bind fun _ => .rfl
      · rw [h, h]; exact .rfl
    refine ⟨fun m toks => ?_, fun m toks => ?_, fun m l ll bi toks => ?_, fun toks => ?_, fun tk q toks => ?_⟩
    · rw [pE_succ, pE_succ]
      exact (ihP _ _).bind fun ⟨_, _, _, _⟩ => ihL _ _ _ _ _
    · rw [pPre_succ, pPre_succ]
      split
      · exact .rfl
      · exact .rfl
      · exact (ihE _ _).bind fun _ => .rfl
      · refine Le.rfl.bind fun ⟨p, q, k, rest⟩ => ?_
        dsimp only
        split
        · exact (ihE _ _).bind fun _ => .rfl
        · exact .rfl
    · cases toks with
      | nil => rw [pLoop_nil, pLoop_nil]; exact .rfl
      | cons t rest =>
        rw [pLoop_cons, pLoop_cons]
        split
        · split
          · exact (ihI _ _).bind fun ⟨_, _⟩ => ihL _ _ _ _ _
          · exact .rfl
        · exact .rfl
    · rw [pCmp_succ, pCmp_succ]
      split
      · split
        · exact (ihE _ _).bind fun _ => (ihC _).bind fun _ => .rfl
        · exact .rfl
      · exact .rfl
    · rw [pBool_succ, pBool_succ]
      split
      · split
        · exact (ihE _ _).bind fun _ => (ihB _ _ _).bind fun _ => .rfl
        · exact .rfl
      · exact .rfl

theorem pE_mono {f g m toks r} (h : pE f m toks = some r) (hle : f ≤ g) : pE g m toks = some r := by
  induction hle with
  | refl => exact h
  | step _ ih => exact (mono_all _).1 _ _ _ ih

theorem pLoop_mono {f g m l ll bi toks r} (h : pLoop f m l ll bi toks = some r) (hle : f ≤ g) :
    pLoop g m l ll bi toks = some r := by
  induction hle with
  | refl => exact h
  | step _ ih => exact (mono_all _).2.2.1 _ _ _ _ _ _ ih

theorem pCmp_mono {f g toks r} (h : pCmp f toks = some r) (hle : f ≤ g) : pCmp g toks = some r := by
  induction hle with
  | refl => exact h
  | step _ ih => exact (mono_all _).2.2.2.1 _ _ ih

theorem pBool_mono {f g tk q toks r} (h : pBool f tk q toks = some r) (hle : f ≤ g) : pBool g tk q toks = some r := by
  induction hle with
  | refl => exact h
  | step _ ih => exact (mono_all _).2.2.2.2 _ _ _ _ ih

theorem pLoop_fuel_pos {f m l ll bi toks r} (h : pLoop f m l ll bi toks = some r) : 1 ≤ f := by
  cases f with
  | zero => simp [pLoop] at h
  | succ f => omega

theorem binLevel_range : ∀ op, op < 12 → 5 ≤ binLevel op ∧ binLevel op ≤ 10 := by decide

/-- The rows of `infixLev`, the levels as numerals so that `omega` can use them: a binary operator (`BOR = 5` … `TERM = 10`,
left slot at the level of the construct), `**` `(AWAIT, POWER)`, a comparison `(BOR, CMP)`, `or` `(AND, OR)`, `and`
`(NOT, AND)`, `if` `(OR, TEST)`, a trailer `(ATOM, ATOM)`. -/
theorem infixLev_cases {t a b} (h : infixLev t = some (a, b)) :
    (5 ≤ a ∧ a ≤ 10 ∧ b = a) ∨ (a = 13 ∧ b = 12) ∨ (a = 5 ∧ b = 4) ∨ (a = 2 ∧ b = 1) ∨ (a = 3 ∧ b = 2) ∨
      (a = 1 ∧ b = 0) ∨ (a = 14 ∧ b = 14) := by
  cases t with
  | sym op =>
    rcases sym_cases op with h1 | rfl | h3 | ⟨isOr, rfl⟩ | rfl | rfl | rfl | ⟨h0, _⟩
    · simp only [infixLev, if_pos h1] at h
      cases h; exact .inl ⟨(binLevel_range op h1).1, (binLevel_range op h1).2, rfl⟩
    · cases h; decide
    · rw [infixLev_cmp h3] at h; cases h; decide
    · rw [infixLev_bool] at h; cases h; cases isOr <;> decide
    · cases h; decide
    · cases h; decide
    · cases h; decide
    · rw [h0] at h; cases h
  | lp => cases h; decide
  | _ => cases h

theorem follow_cons {fl t rest a b} (h : infixLev t = some (a, b)) (hb : b < fl) : follow fl (t :: rest) = true := by
  simp [follow, h, hb]

theorem follow_cons_none {fl t rest} (h : infixLev t = none) : follow fl (t :: rest) = true := by
  simp [follow, h]

theorem follow_imp {a b rest} (hab : ∀ t a' b', infixLev t = some (a', b') → b' < a → b' < b)
    (h : follow a rest = true) : follow b rest = true := by
  cases rest with
  | nil => rfl
  | cons t r =>
    cases hinf : infixLev t with
    | none => exact follow_cons_none hinf
    | some ab =>
      simp only [follow, hinf, decide_eq_true_eq] at h
      exact follow_cons hinf (hab t _ _ hinf h)

theorem follow_mono {a b rest} (h : follow a rest = true) (hab : a ≤ b) : follow b rest = true :=
  follow_imp (fun _ _ _ _ h' => Nat.lt_of_lt_of_le h' hab) h

theorem infixLev_lt_GRP {t a b} (h : infixLev t = some (a, b)) : b < GRP := by
  have := infixLev_cases h; simp only [GRP]; omega

theorem follow_top {rest} : follow GRP rest = true := by
  cases rest with
  | nil => rfl
  | cons t r =>
    cases hinf : infixLev t with
    | none => exact follow_cons_none hinf
    | some ab => exact follow_cons hinf (infixLev_lt_GRP hinf)

theorem pLoop_stop {f m l ll bi rest} (h : follow m rest = true) :
    pLoop (f + 1) m l ll bi rest = some (l, ll, bi, rest) := by
  cases rest with
  | nil => exact pLoop_nil ..
  | cons t r =>
    rw [pLoop_cons]
    simp only [follow] at h
    generalize infixLev t = o at h
    rcases o with _ | ⟨a, b⟩
    · rfl
    · exact if_neg fun hg => Nat.lt_irrefl _ (Nat.lt_of_lt_of_le (of_decide_eq_true h) hg.1)

/-- what the table `prefixOp` and the grammar say of a prefix construct -/
structure IsPrefix (tok : List Tok) (p q : Nat) (k : Kind) : Prop where
  ne : 1 ≤ tok.length
  lt : p < ATOM
  qle : q ≤ ATOM
  ok : kindOk k = true
  arity : ∀ n, k.arityOk n = (n == 1)
  cls : k.cls = .lad p
  slot : ∀ i, k.slot i = sl q
  render : ∀ tx, k.render [tx] = tok ++ tx
  table : ∀ t a b, infixLev t = some (a, b) → a ≤ p → b < q

theorem prefixOp_spec {toks p q k rest} (h : prefixOp toks = some (p, q, k, rest)) :
    ∃ tok, toks = tok ++ rest ∧ IsPrefix tok p q k := by
  have tab : ∀ {p q : Nat}, (p, q) ∈ [(FACTOR, FACTOR), (NOT, NOT), (AWAIT, ATOM), (TEST, TEST)] →
      ∀ t a b, infixLev t = some (a, b) → a ≤ p → b < q := by
    intro p q hpq t a b h ha
    have := infixLev_cases h
    simp only [List.mem_cons, Prod.mk.injEq, List.not_mem_nil, or_false, FACTOR, NOT, AWAIT, ATOM, TEST] at hpq
    omega
  rcases toks with _ | ⟨_ | _ | op | _ | _, rest0⟩ <;> try cases h
  simp only [prefixOp] at h
  by_cases h1 : 30 ≤ op ∧ op < 33
  · rw [if_pos h1] at h
    cases h
    refine ⟨[.sym op], rfl, Nat.le_refl 1, by decide, by decide, by simp only [kindOk, decide_eq_true_eq]; omega,
      fun _ => rfl, rfl, fun _ => rfl, fun tx => ?_, tab (by simp)⟩
    simp only [Kind.render, List.singleton_append, show 30 + (op - 30) = op by omega]
  rw [if_neg h1] at h
  by_cases h2 : op = tNot
  · subst h2; rw [if_pos rfl] at h; cases h
    exact ⟨[.sym tNot], rfl, by decide, by decide, by decide, rfl, fun _ => rfl, rfl, fun _ => rfl,
      fun _ => rfl, tab (by simp)⟩
  rw [if_neg h2] at h
  by_cases h3 : op = tAwait
  · subst h3; rw [if_pos rfl] at h; cases h
    exact ⟨[.sym tAwait], rfl, by decide, by decide, by decide, rfl, fun _ => rfl, rfl, fun _ => rfl,
      fun _ => rfl, tab (by simp)⟩
  rw [if_neg h3] at h
  by_cases h4 : op = tLambda
  · subst h4
    rw [if_pos rfl] at h
    rcases rest0 with _ | ⟨_ | _ | c | _ | _, rest1⟩ <;> try cases h
    simp only [] at h
    by_cases hc : c = tColon
    · subst hc; rw [if_pos rfl] at h; cases h
      exact ⟨[.sym tLambda, .sym tColon], rfl, by decide, by decide, by decide, rfl, fun _ => rfl, rfl,
        fun _ => rfl, fun _ => rfl, tab (by simp)⟩
    · rw [if_neg hc] at h; cases h
  · rw [if_neg h4] at h; cases h

/-- `ts` is a phrase for `e` whose ladder level is `lev`, whose right edge sits in an operand slot of level `fl`, and
the parser, started in any slot that accepts level `lev`, reaches the loop state "left operand `e` parsed".  Only used
inside `Parses`, which hides `lev`, `fl` and `bi` behind what a slot of level `q` has to know of them. -/
def Inv (ts : List Tok) (e : E) (lev fl : Nat) (bi : Bool) : Prop :=
  (∀ t a b, infixLev t = some (a, b) → a ≤ lev → b < fl) ∧
  ∀ m f f0 rest r, m ≤ lev ∨ GRP ≤ lev → follow fl rest = true →
    pLoop f0 m e lev bi rest = some r → f0 + 3 * ts.length ≤ f → pE f m (ts ++ rest) = some r

/-- `ts` is a phrase for `e` that the parser accepts as an operand of a slot of minimal level `q` (`ni`: the slot takes
no bare integer literal): its level suits the slot, and whatever may follow the slot may follow the phrase. -/
def Parses (q : Nat) (ni : Bool) (ts : List Tok) (e : E) : Prop :=
  ∃ lev fl bi, (q ≤ lev ∨ GRP ≤ lev) ∧ (∀ rest, follow q rest = true → follow fl rest = true) ∧
    (ni = true → bi = false) ∧ Inv ts e lev fl bi

theorem Parses.run {q ni ts e rest f} (h : Parses q ni ts e) (hfol : follow q rest = true)
    (hf : 1 + 3 * ts.length ≤ f) : ∃ lev bi, (ni = true → bi = false) ∧ pE f q (ts ++ rest) = some (e, lev, bi, rest) := by
  obtain ⟨lev, fl, bi, hl, hF, hni, hinv⟩ := h
  exact ⟨lev, bi, hni, hinv.2 q f 1 rest _ hl (hF rest hfol) (pLoop_stop hfol) hf⟩

theorem Parses.cont {a ni tl l t b} (h : Parses a ni tl l) (hinf : infixLev t = some (a, b)) :
    ∃ lev bi, a ≤ lev ∧ (ni = true → bi = false) ∧ ∀ m f f0 rest r, m ≤ b →
      pLoop f0 m l lev bi (t :: rest) = some r → f0 + 3 * tl.length ≤ f → pE f m (tl ++ t :: rest) = some r := by
  obtain ⟨lev, fl, bi, hl, _, hni, htab, hrun⟩ := h
  have := infixLev_cases hinf
  have ha : a ≤ lev := by simp only [GRP] at hl; omega
  exact ⟨lev, bi, ha, hni, fun m f f0 rest r hm =>
    hrun m f f0 _ r (Or.inl (by omega)) (follow_cons hinf (htab _ _ _ hinf ha))⟩

/-- A construct of ladder level `b` whose last operand sits in a slot of level `fl`.  What may follow the construct
may follow that operand, because the left slot of an infix construct is at most one level above the construct. -/
theorem Parses.node {m ni ts e b fl} (hm : m ≤ b) (hb : b ≤ ATOM)
    (htab : ∀ t a' b', infixLev t = some (a', b') → a' ≤ b → b' < fl)
    (hrun : ∀ m' f f0 rest r, m' ≤ b → follow fl rest = true → pLoop f0 m' e b false rest = some r →
      f0 + 3 * ts.length ≤ f → pE f m' (ts ++ rest) = some r) : Parses m ni ts e :=
  ⟨b, fl, false, Or.inl hm,
    fun rest h => follow_imp (fun t a' b' hi hlt => htab t a' b' hi (by have := infixLev_cases hi; omega)) (follow_mono h hm),
    fun _ => rfl, htab,
    fun m' f f0 rest r hm' => hrun m' f f0 rest r (by simp only [ATOM, GRP] at *; omega)⟩

theorem parses_atom {t : Tok} {e : E} {bi : Bool} {lev m : Nat} {ni : Bool}
    (hP : ∀ f m rest, pPre (f + 1) m (t :: rest) = some (e, lev, bi, rest)) (hl : m ≤ lev ∨ GRP ≤ lev)
    (hni : ni = true → bi = false) : Parses m ni [t] e := by
  refine ⟨lev, GRP, bi, hl, fun _ _ => follow_top, hni, fun t a b h _ => infixLev_lt_GRP h, ?_⟩
  intro m f f0 rest r _ _ hl hf
  simp only [List.length_cons, List.length_nil] at hf
  obtain ⟨f', rfl⟩ : ∃ f', f = f' + 2 := ⟨f - 2, by omega⟩
  rw [pE, List.singleton_append, hP]
  exact pLoop_mono hl (by omega)

theorem parses_paren {ts : List Tok} {e : E} {m : Nat} {ni : Bool} (h : Parses TEST false ts e) :
    Parses m ni (Tok.lp :: ts ++ [Tok.rp]) e := by
  refine ⟨GRP, GRP, false, Or.inr (Nat.le_refl _), fun _ _ => follow_top, fun _ => rfl,
    fun t a b h _ => infixLev_lt_GRP h, ?_⟩
  intro m f f0 rest r _ _ hl hf
  simp only [List.length_cons, List.length_append, List.length_nil] at hf
  obtain ⟨f', rfl⟩ : ∃ f', f = f' + 2 := ⟨f - 2, by omega⟩
  obtain ⟨lev, bi, _, hin⟩ := h.run (rest := Tok.rp :: rest) (f := f') (follow_cons_none rfl) (by omega)
  have : pPre (f' + 1) m (Tok.lp :: ts ++ [Tok.rp] ++ rest) = some (e, GRP, false, rest) := by
    simp only [pPre, List.cons_append, List.append_assoc, List.nil_append, hin]
  rw [pE, this]
  exact pLoop_mono hl (by omega)

theorem parses_prefix {pre tx : List Tok} {k : Kind} {x : E} {p q m : Nat} {ni : Bool}
    (hP : ∀ rest, prefixOp (pre ++ rest) = some (p, q, k, rest)) (hk : IsPrefix pre p q k)
    (hx : Parses q false tx x) (hm : m ≤ p) : Parses m ni (pre ++ tx) (.node k [x]) := by
  refine Parses.node hm (Nat.le_of_lt hk.lt) hk.table ?_
  intro m' f f0 rest r hm' hfol hloop hf
  have := hk.ne
  simp only [List.length_append] at hf
  obtain ⟨f', rfl⟩ : ∃ f', f = f' + 2 := ⟨f - 2, by omega⟩
  obtain ⟨levx, bix, _, hin⟩ := hx.run hfol (f := f') (by omega)
  rw [pE_succ, List.append_assoc, pPre_prefix (hP _) hm', hin]
  exact pLoop_mono hloop (by omega)

/-- Infix constructs: `tl` the phrase of the left operand, `t` the opening token, `tail` the rest of the construct,
which `pInfix` turns into the node `e`; `fl` is the level of the slot of the last operand. -/
theorem parses_infix {t : Tok} {a b fl m : Nat} {ni ni' : Bool} {tl tail : List Tok} {l e : E}
    (hinf : infixLev t = some (a, b)) (hl : Parses a ni' tl l) (hdot : t = .sym tDot → ni' = true)
    (htab : ∀ t' a' b', infixLev t' = some (a', b') → a' ≤ b → b' < fl)
    (hI : ∀ g rest, follow fl rest = true → 3 * (tail.length + 1) ≤ g → pInfix g l (t :: (tail ++ rest)) = some (e, rest))
    (hm : m ≤ b) : Parses m ni (tl ++ t :: tail) e := by
  obtain ⟨levl, bil, hal, hbil, hcont⟩ := hl.cont hinf
  have := infixLev_cases hinf
  refine Parses.node hm (by simp only [ATOM]; omega) htab ?_
  intro m' f f0 rest r hm' hfol hloop hf
  simp only [List.length_append, List.length_cons] at hf
  have f0pos := pLoop_fuel_pos hloop
  rw [List.append_assoc, List.cons_append]
  refine hcont m' f (f0 + 3 * tail.length + 3) _ _ hm' ?_ (by omega)
  rw [pLoop_step hinf hm' hal (fun h => hbil (hdot h)) (hI _ rest hfol (by omega))]
  exact pLoop_mono hloop (by omega)

inductive ParsesL (q : Nat) : List (List Tok) → List E → Prop where
  | nil : ParsesL q [] []
  | cons {ts e tss es} : Parses q false ts e → ParsesL q tss es → ParsesL q (ts :: tss) (e :: es)

theorem ParsesL.length {q tss es} (h : ParsesL q tss es) : tss.length = es.length := by
  induction h with
  | nil => rfl
  | cons _ _ ih => simp only [List.length_cons, ih]

/-- rendered tail of an n-ary construct: `(sep operand)*` -/
def tailR (sep : Tok) : List (List Tok) → List Tok
  | [] => []
  | t :: r => sep :: t ++ tailR sep r

theorem sepBy_cons (sep : Tok) (t : List Tok) (r : List (List Tok)) : sepBy [sep] (t :: r) = t ++ tailR sep r := by
  induction r generalizing t with
  | nil => simp [sepBy, tailR]
  | cons u r ih => simp [sepBy, tailR, ih]

theorem pBool_end {f tk q rest} (h : ∀ r', rest ≠ Tok.sym tk :: r') : pBool (f + 1) tk q rest = some ([], rest) := by
  rw [pBool_succ]
  split
  · next op r => exact if_neg fun (heq : op = tk) => h r (by rw [heq])
  · rfl

theorem pBool_tail {tk q : Nat} (hsep : ∀ r, follow q (Tok.sym tk :: r) = true) {tss es}
    (h : ParsesL q tss es) :
    ∀ rest f, follow q rest = true → (∀ r', rest ≠ Tok.sym tk :: r') → 3 * (tailR (Tok.sym tk) tss).length ≤ f →
      1 ≤ f → pBool f tk q (tailR (Tok.sym tk) tss ++ rest) = some (es, rest) := by
  induction h with
  | nil =>
    intro rest f _ hne _ hf
    obtain ⟨f', rfl⟩ : ∃ f', f = f' + 1 := ⟨f - 1, by omega⟩
    exact pBool_end hne
  | @cons ts e tss es hi _ ih =>
    intro rest f hfq hne hf _
    simp only [tailR, List.length_cons, List.length_append] at hf
    obtain ⟨f', rfl⟩ : ∃ f', f = f' + 1 := ⟨f - 1, by omega⟩
    have hfol : follow q (tailR (Tok.sym tk) tss ++ rest) = true := by
      cases tss with
      | nil => exact hfq
      | cons _ _ => exact hsep _
    obtain ⟨lev, bi, _, hin⟩ := hi.run hfol (f := f') (by omega)
    simp only [tailR, List.cons_append, List.append_assoc]
    rw [pBool_succ]
    simp only [eq_self, if_true, hin, ih rest f' hfq hne (by omega) (by omega), Option.bind_some]

theorem pCmp_end {f rest} (h : ∀ op r', isCmp op → rest ≠ Tok.sym op :: r') : pCmp (f + 1) rest = some ([], [], rest) := by
  rw [pCmp_succ]
  split
  · next op r => exact if_neg fun hc => h op r hc rfl
  · rfl

theorem follow_ne {t a b rest r} (hinf : infixLev t = some (a, b)) (h : follow b rest = true) : rest ≠ t :: r := by
  intro heq
  subst heq
  simp [follow, hinf] at h

theorem pCmp_tail {tss es} (h : ParsesL BOR tss es) :
    ∀ ops rest f, ops.length = tss.length → (∀ op ∈ ops, isCmp op) → follow CMP rest = true →
      3 * (cmpRender ops tss).length ≤ f → 1 ≤ f → pCmp f (cmpRender ops tss ++ rest) = some (ops, es, rest) := by
  induction h with
  | nil =>
    intro ops rest f hlen _ hfol _ hf
    obtain ⟨f', rfl⟩ : ∃ f', f = f' + 1 := ⟨f - 1, by omega⟩
    obtain rfl := List.length_eq_zero_iff.1 hlen
    exact pCmp_end fun op r' hc => follow_ne (infixLev_cmp hc) hfol
  | @cons ts e tss es hi _ ih =>
    intro ops rest f hlen hops hfol hf _
    match ops, hlen with
    | op :: ops, hlen =>
    simp only [cmpRender, List.length_cons, List.length_append] at hf
    obtain ⟨f', rfl⟩ : ∃ f', f = f' + 1 := ⟨f - 1, by omega⟩
    have hfol' : follow BOR (cmpRender ops tss ++ rest) = true := by
      match ops, tss, hlen with
      | [], [], _ => exact follow_mono hfol (by decide)
      | op' :: _, _ :: _, _ => exact follow_cons (infixLev_cmp (hops op' (by simp))) (by decide)
    obtain ⟨lev, bi, _, hin⟩ := hi.run hfol' (f := f') (by omega)
    simp only [cmpRender, List.cons_append, List.append_assoc]
    rw [pCmp_succ]
    simp only [if_pos (hops op (by simp)), hin, Option.bind_some,
      ih ops rest f' (by simpa using hlen) (fun o ho => hops o (by simp [ho])) hfol (by omega) (by omega)]

theorem parses_bool {isOr : Bool} {m : Nat} {ni : Bool} {t0 x0 tss xs} (h0 : Parses (boolSlot isOr) false t0 x0)
    (htl : ParsesL (boolSlot isOr) tss xs) (hne : 2 ≤ (x0 :: xs).length) (hm : m ≤ boolLev isOr) :
    Parses m ni (t0 ++ tailR (Tok.sym (boolTok isOr)) tss) (.node (.boolop isOr) (x0 :: xs)) := by
  obtain ⟨tl, hT⟩ : ∃ tl, tailR (Tok.sym (boolTok isOr)) tss = Tok.sym (boolTok isOr) :: tl := by
    cases htl with
    | nil => exact absurd hne (Nat.lt_irrefl 1)
    | cons _ _ => exact ⟨_, rfl⟩
  have hinf := infixLev_bool isOr
  have hlt : boolLev isOr < boolSlot isOr := by cases isOr <;> decide
  have hb4 : boolLev isOr ≤ 4 := by cases isOr <;> decide
  rw [hT]
  refine parses_infix (fl := boolLev isOr) hinf h0 (fun h => by cases isOr <;> cases h)
    (fun t a' b' h ha => by have := infixLev_cases h; omega)
    (fun g rest hfol hg => ?_) hm
  have := pBool_tail (fun r => follow_cons hinf hlt) htl rest g (follow_mono hfol (Nat.le_of_lt hlt))
    (fun _ => follow_ne hinf hfol) (by rw [hT]; exact hg) (by omega)
  rw [hT, List.cons_append] at this
  rw [pInfix_bool, this]; rfl

theorem parses_cmp {ops : List Nat} {m : Nat} {ni : Bool} {t0 x0 tss xs} (hops : ∀ op ∈ ops, isCmp op)
    (hlen : xs.length = ops.length) (hpos : 1 ≤ ops.length) (h0 : Parses BOR false t0 x0) (htl : ParsesL BOR tss xs)
    (hm : m ≤ CMP) : Parses m ni (t0 ++ cmpRender ops tss) (.node (.cmp ops) (x0 :: xs)) := by
  rw [← htl.length] at hlen
  obtain ⟨op, tl, hop, hT⟩ : ∃ op tl, isCmp op ∧ cmpRender ops tss = Tok.sym op :: tl := by
    match ops, tss, hpos, hlen with
    | op :: _, _ :: _, _, _ => exact ⟨op, _, hops op (by simp), rfl⟩
  rw [hT]
  refine parses_infix (fl := CMP) (infixLev_cmp hop) h0 (fun h => by cases h; exact absurd hop (by decide))
    (fun t a' b' h ha => by have := infixLev_cases h; simp only [CMP] at *; omega)
    (fun g rest hfol hg => ?_) hm
  have := pCmp_tail htl ops rest g hlen.symm hops hfol (by rw [hT]; exact hg) (by omega)
  rw [hT, List.cons_append] at this
  rw [pInfix_cmp hop, this]; rfl

theorem accepts_lad {s : Slot} {b : Nat} : accepts s (.lad b) = true ↔ s.minLad ≤ b :=
  decide_eq_true_iff

/-- the phrases `tss` of the children `es` of a node of kind `k`, from position `i` on, each parsed as an operand of its slot -/
def ParsesK (k : Kind) (i : Nat) (tss : List (List Tok)) : List E → Prop
  | [] => tss = []
  | e :: es => ∃ ts tss', tss = ts :: tss' ∧ Parses (k.slot i).minLad (k.slot i).noInt ts e ∧ ParsesK k (i + 1) tss' es

theorem ParsesK.uniform {k : Kind} {q es} : ∀ {i tss}, ParsesK k i tss es →
    (∀ j, i ≤ j → j < i + es.length → (k.slot j).minLad = q ∧ (k.slot j).noInt = false) → ParsesL q tss es := by
  induction es with
  | nil => rintro _ _ rfl _; exact .nil
  | cons e es ih =>
    rintro i _ ⟨ts, tss, rfl, hx, h⟩ hslot
    rw [(hslot i (Nat.le_refl _) (by simp)).1, (hslot i (Nat.le_refl _) (by simp)).2] at hx
    exact .cons hx (ih h fun j h1 h2 => hslot j (by omega) (by simp only [List.length_cons]; omega))

theorem pE_rp {f m r} : pE f m (Tok.rp :: r) = none := by
  cases f with
  | zero => simp [pE]
  | succ f =>
    cases f with
    | zero => simp [pE, pPre]
    | succ f => simp [pE, pPre]

theorem parses_call {m : Nat} {ni : Bool} {tf fn tss xs} (hf : Parses ATOM false tf fn)
    (hargs : ParsesL TEST tss xs) (hm : m ≤ ATOM) :
    Parses m ni (tf ++ Tok.lp :: (sepBy [Tok.sym tComma] tss ++ [Tok.rp])) (.node (.call xs.length []) (fn :: xs)) := by
  refine parses_infix (t := Tok.lp) (fl := GRP) rfl hf nofun (fun _ _ _ h _ => infixLev_lt_GRP h)
    (fun g rest _ hg => ?_) hm
  cases hargs with
  | nil => exact pInfix_call0
  | @cons t0 x0 tss xs h0 htl =>
    rw [sepBy_cons] at hg ⊢
    simp only [List.length_append, List.length_cons, List.length_nil] at hg
    have hfol : ∀ r, follow TEST (tailR (Tok.sym tComma) tss ++ Tok.rp :: r) = true := fun r => by
      cases tss <;> exact follow_cons_none rfl
    obtain ⟨lev0, bi0, _, hin⟩ := h0.run (hfol rest) (f := g) (by omega)
    have hb := pBool_tail (tk := tComma) (fun r => follow_cons_none rfl) htl (Tok.rp :: rest) g (follow_cons_none rfl) nofun
      (by omega) (by omega)
    rw [List.append_assoc, List.append_assoc, List.singleton_append]
    rw [pInfix_call (fun r heq => by rw [heq, pE_rp] at hin; cases hin), hin]
    simp only [Option.bind_some, hb, expect, if_true, List.length_cons]

theorem parses_leaf {s : Slot} {t : Tok} {c : Cls} (hacc : accepts s c = true) (hf : inFrag (.leaf t c) = true) :
    Parses s.minLad s.noInt [t] (.leaf t c) := by
  cases t with
  | name n =>
    cases c with
    | lad l =>
      simp only [inFrag, beq_iff_eq] at hf
      subst hf
      exact parses_atom (lev := ATOM) (bi := false) (fun f m rest => by simp [pPre]) (Or.inl (accepts_lad.1 hacc)) (fun _ => rfl)
    | _ => simp [inFrag] at hf
  | int n =>
    cases c with
    | intlit =>
      exact parses_atom (lev := GRP) (bi := true) (fun f m rest => by simp [pPre]) (Or.inr (Nat.le_refl _))
        (fun h => by simp [accepts, h] at hacc)
    | _ => simp [inFrag] at hf
  | _ => simp [inFrag] at hf

theorem parses_node_prefix {s : Slot} {k : Kind} {p q : Nat} {pre : List Tok} {kids tss}
    (hP : ∀ rest, prefixOp (pre ++ rest) = some (p, q, k, rest)) (har : k.arityOk kids.length = true)
    (hacc : accepts s k.cls = true) (hK : ParsesK k 0 tss kids) :
    Parses s.minLad s.noInt (k.render tss) (.node k kids) := by
  obtain ⟨tok, htok, hk⟩ := prefixOp_spec (hP [])
  obtain rfl : pre = tok := by simpa using htok
  rw [hk.arity, beq_iff_eq] at har
  match kids, har with
  | [x], _ =>
    obtain ⟨tx, _, rfl, hx, rfl⟩ := hK
    rw [hk.slot] at hx
    rw [hk.render]
    exact parses_prefix hP hk hx (by simpa [hk.cls, accepts] using hacc)

theorem parses_node {s : Slot} {k : Kind} {kids tss} (hk : kindOk k = true) (har : k.arityOk kids.length = true)
    (hacc : accepts s k.cls = true) (hK : ParsesK k 0 tss kids) :
    Parses s.minLad s.noInt (k.render tss) (.node k kids) := by
  cases k with
  | un op =>
    simp only [kindOk, decide_eq_true_eq] at hk
    refine parses_node_prefix (pre := [Tok.sym (30 + op)]) (p := FACTOR) (q := FACTOR) (fun rest => ?_) har hacc hK
    simp only [prefixOp, List.singleton_append]
    rw [if_pos ⟨by omega, by omega⟩, Nat.add_sub_cancel_left]
  | not_ => exact parses_node_prefix (pre := [Tok.sym tNot]) (fun _ => rfl) har hacc hK
  | await_ => exact parses_node_prefix (pre := [Tok.sym tAwait]) (fun _ => rfl) har hacc hK
  | lambda => exact parses_node_prefix (pre := [Tok.sym tLambda, Tok.sym tColon]) (fun _ => rfl) har hacc hK
  | bin op =>
    simp only [kindOk, decide_eq_true_eq] at hk
    simp only [Kind.arityOk, beq_iff_eq] at har
    have hm : s.minLad ≤ binLevel op := accepts_lad.1 hacc
    match kids, har with
    | [l, r], _ =>
    obtain ⟨tl, _, rfl, hl, tr, _, rfl, hr, rfl⟩ := hK
    by_cases h12 : op < 12
    · have hb := binLevel_range op h12
      have hn : ¬ op ≥ 12 := by omega
      simp only [Kind.slot, if_neg hn] at hl hr
      have hr : Parses (binLevel op + 1) false tr r := hr
      simp only [Kind.render, if_neg hn, List.append_assoc, List.singleton_append]
      exact parses_infix (a := binLevel op) (fl := binLevel op + 1) (by simp only [infixLev, if_pos h12]) hl (fun h => by cases h; exact absurd h12 (by decide))
        (fun t a' b' h ha => by have := infixLev_cases h; omega)
        (fun g rest hfol hg => by
          obtain ⟨_, _, _, hin⟩ := hr.run hfol (f := g) (by omega)
          rw [pInfix_bin h12, hin]; rfl) hm
    · obtain rfl : op = 12 := by omega
      have hr : Parses FACTOR false tr r := hr
      simp only [Kind.render, List.append_assoc, List.singleton_append]
      exact parses_infix (t := Tok.sym tPow) (a := AWAIT) (fl := FACTOR) rfl hl (fun h => absurd h (by decide))
        (fun t a' b' h ha => by have := infixLev_cases h; simp only [POWER, FACTOR] at *; omega)
        (fun g rest hfol hg => by
          obtain ⟨_, _, _, hin⟩ := hr.run hfol (f := g) (by omega)
          rw [pInfix_pow, hin]; rfl) hm
  | ifexp =>
    simp only [Kind.arityOk, beq_iff_eq] at har
    match kids, har with
    | [b, t, o], _ =>
    obtain ⟨tb, _, rfl, hb, tt, _, rfl, ht, to, _, rfl, ho, rfl⟩ := hK
    have ht : Parses OR false tt t := ht
    have ho : Parses TEST false to o := ho
    simp only [Kind.render, List.append_assoc, List.singleton_append]
    exact parses_infix (t := Tok.sym tIf) (a := OR) (fl := TEST) (tail := tt ++ Tok.sym tElse :: to) rfl hb
      (fun h => absurd h (by decide)) (fun t a' b' h ha => by have := infixLev_cases h; simp only [TEST] at *; omega)
      (fun g rest hfol hg => by
        simp only [List.length_append, List.length_cons] at hg
        obtain ⟨_, _, _, hin1⟩ := ht.run (rest := Tok.sym tElse :: (to ++ rest)) (f := g) (follow_cons_none rfl) (by omega)
        obtain ⟨_, _, _, hin2⟩ := ho.run hfol (f := g) (by omega)
        rw [List.append_assoc, List.cons_append, pInfix_if, hin1]
        simp only [Option.bind_some, expect, if_true, hin2]) (accepts_lad.1 hacc)
  | boolop isOr =>
    simp only [Kind.arityOk, decide_eq_true_eq] at har
    obtain ⟨x0, xs, rfl⟩ := List.exists_cons_of_length_pos (Nat.lt_of_lt_of_le Nat.zero_lt_two har)
    obtain ⟨t0, tss', rfl, h0, htl⟩ := hK
    simp only [Kind.render, sepBy_cons]
    exact parses_bool h0 (htl.uniform fun _ _ _ => ⟨rfl, rfl⟩) har (accepts_lad.1 hacc)
  | cmp ops =>
    simp only [kindOk, List.all_eq_true, decide_eq_true_eq] at hk
    simp only [Kind.arityOk, Bool.and_eq_true, beq_iff_eq, decide_eq_true_eq] at har
    match kids, har with
    | x0 :: xs, har =>
    obtain ⟨t0, tss', rfl, h0, htl⟩ := hK
    exact parses_cmp hk (Nat.succ.inj har.1) har.2 h0 (htl.uniform fun _ _ _ => ⟨rfl, rfl⟩) (accepts_lad.1 hacc)
  | attr n =>
    simp only [Kind.arityOk, beq_iff_eq] at har
    match kids, har with
    | [v], _ =>
    obtain ⟨tv, _, rfl, hv, rfl⟩ := hK
    exact parses_infix (t := Tok.sym tDot) (fl := GRP) (tail := [Tok.name n]) rfl hv (fun _ => rfl)
      (fun _ _ _ h _ => infixLev_lt_GRP h) (fun g rest _ _ => pInfix_attr) (accepts_lad.1 hacc)
  | subscr =>
    simp only [Kind.arityOk, beq_iff_eq] at har
    match kids, har with
    | [v, x], _ =>
    obtain ⟨tv, _, rfl, hv, tx, _, rfl, hx, rfl⟩ := hK
    have hx : Parses TEST false tx x := hx
    simp only [Kind.render, List.append_assoc, List.singleton_append]
    exact parses_infix (t := Tok.sym tLb) (a := ATOM) (fl := GRP) (tail := tx ++ [Tok.sym tRb]) rfl hv (fun h => absurd h (by decide))
      (fun _ _ _ h _ => infixLev_lt_GRP h)
      (fun g rest _ hg => by
        simp only [List.length_append, List.length_cons, List.length_nil] at hg
        obtain ⟨_, _, _, hin⟩ := hx.run (rest := Tok.sym tRb :: rest) (f := g) (follow_cons_none rfl) (by omega)
        rw [List.append_assoc, List.singleton_append, pInfix_subscr, hin]; rfl) (accepts_lad.1 hacc)
  | call na kws =>
    simp only [kindOk, List.isEmpty_iff] at hk
    subst hk
    simp only [Kind.arityOk, beq_iff_eq, List.length_nil, Nat.add_zero, Nat.add_comm 1] at har
    match kids, har with
    | fn :: args, har =>
    obtain ⟨tf, tss', rfl, hf, hargs⟩ := hK
    obtain rfl : args.length = na := Nat.succ.inj har
    have hargs : ParsesL TEST tss' args := hargs.uniform fun j h1 h2 => by
      simp only [Kind.slot]
      rw [if_neg (by simp; omega), if_pos (by omega)]
      exact ⟨rfl, rfl⟩
    have hrender : (Kind.call args.length []).render (tf :: tss') =
        tf ++ Tok.lp :: (sepBy [Tok.sym tComma] tss' ++ [Tok.rp]) := by
      simp [Kind.render, kwRender, ← hargs.length]
    rw [hrender]
    exact parses_call hf hargs (accepts_lad.1 hacc)
  | _ => simp [kindOk] at hk

mutual
theorem complete : ∀ {s ts e}, Derives s ts e → inFrag e = true → Parses s.minLad s.noInt ts e
  | _, _, _, .leaf _ _ _ hacc, hf => parses_leaf hacc hf
  | _, _, _, .paren _ _ _ _ hd, hf => parses_paren (complete hd hf)
  | _, _, _, .node _ _ _ _ har hacc hL, hf => by
    simp only [inFrag, Bool.and_eq_true] at hf
    exact parses_node hf.1 har hacc (completeL hL hf.2)
theorem completeL : ∀ {k i es tss}, DerivesL k i es tss → inFragL es = true → ParsesK k i tss es
  | _, _, _, _, .nil _ _, _ => rfl
  | _, _, _, _, .cons _ _ _ _ _ _ hd hL, hf => by
    simp only [inFragL, Bool.and_eq_true] at hf
    exact ⟨_, _, rfl, complete hd hf.1, completeL hL hf.2⟩
end

/-- **Completeness of the parser for the grammar** (on the fragment): a phrase of slot `s` for the tree `e`, followed
by tokens that cannot continue a phrase of that slot, is parsed to exactly `e`, leaving exactly those tokens. -/
theorem parse_complete {s : Slot} {ts : List Tok} {e : E} (rest : List Tok) (hd : Derives s ts e)
    (hf : inFrag e = true) (hfol : follow s.minLad rest = true) : parseE s (ts ++ rest) = some (e, rest) := by
  obtain ⟨lev, bi, hni, h⟩ := (complete hd hf).run hfol
    (f := fuelFor (ts ++ rest)) (by simp only [fuelFor, List.length_append]; omega)
  simp only [parseE, h]
  cases hn : s.noInt with
  | false => simp
  | true => simp [hni hn]

theorem parse_complete_nil {s : Slot} {ts : List Tok} {e : E} (hd : Derives s ts e) (hf : inFrag e = true) :
    parse s ts = some e := by
  have := parse_complete [] hd hf rfl
  rw [List.append_nil] at this
  simp [parse, this]

end Pfst.Parse
