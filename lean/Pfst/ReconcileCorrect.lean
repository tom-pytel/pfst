import Pfst.ReconcileBase
/-!
Correctness of the reconcile trace (`Pfst/Reconcile.lean`): replaying the emitted operations on what the output tree holds
at a slot yields the structure of the edited node (`NodeOK`).  Induction over the edited tree (`T.induct`, `recNode_ok`),
following the call structure `recNode / recFields / recPlain / recSliceGo (/ recPair)`: each list recursion (`fields_ok`,
`plain_ok`, `slice_ok`) is an induction over its list with `NodeOK` of the smaller trees as hypothesis, a step being the
result on child `i` followed by the rest of the loop (`seq_apply`); for the loops of `recurse_slice` and
`recurse_slice_dict` the step is `slice_step` of `Pfst/ReconcileBase.lean`.
-/
namespace Pfst.Reconcile

/-- correctness of `recNode` at one edited node, as a predicate of the node (the induction goes over it) -/
def NodeOK (mark n : T) : Prop := ∀ (np : NP) (rel : Path) (outa : T),
  wfN mark n = true → (putsFirst np rel n = true ∨ slot mark np rel outa n) →
  (recNode mark np rel outa n).fail = false → applyOps (recNode mark np rel outa n).ops outa = erase n

theorem seq_apply (i : Nat) (r r2 : R) (t t1 t2 : T) (hf : (seqR i r r2).fail = false)
    (h1 : r.fail = false → modKid i (applyOps r.ops) t = t1) (h2 : r2.fail = false → applyOps r2.ops t1 = t2) :
    applyOps (seqR i r r2).ops t = t2 := by
  obtain ⟨a, b⟩ := seqR_fail hf
  rw [seqR_ops a, applyOps_append, applyOps_preAll, h1 a, h2 b]

theorem run_kid_free (np : NP) (fi i : Nat) (pp : Path) (cfi c j : Nat) (kid : T)
    (hrun : inPlace np [fi, i] (some ⟨pp, cfi, some c⟩) = false)
    (ho : kid.origin = .tree (some ⟨pp ++ [cfi, c], j, none⟩)) : putsFirst (np.ext [fi, i]) [j] kid = true := by
  cases kid with
  | node o k cs =>
    cases ho
    have hrun := mt (inPlace_elem np fi i pp cfi c).mpr (Bool.eq_false_iff.mp hrun)
    match np with
    | .none | .ast | .fst (_ + 1) _ => simp [putsFirst, NP.ext, inPlace]
    | .fst 0 q =>
      simp only [putsFirst, NP.ext, inPlace, Loc.rel, Option.toList, Bool.not_eq_eq_eq_not, Bool.not_true,
        Bool.and_eq_false_iff, beq_eq_false_iff_ne]
      refine Or.inl fun h => hrun ?_
      have := List.append_inj' h rfl
      simp_all
  | _ => simp [T.origin] at ho

theorem ElemHyp_pair (mark : T) (np : NP) (fi i pk : Nat) (o : Origin) (k v ok : T) (hnn : np ≠ .none)
    (hcons : pairCons mark pk o [k, v] = true) (h : ElemHyp mark np fi true i ok (.node o pk [k, v])) :
    (k.isNil = true ∨ putsFirst (np.ext [fi, i]) [0] k = true ∨ slot mark (np.ext [fi, i]) [0] ((ok.kids[0]?).getD .nil) k) ∧
    (putsFirst (np.ext [fi, i]) [1] v = true ∨ slot mark (np.ext [fi, i]) [1] ((ok.kids[1]?).getD .nil) v) := by
  rcases h with hrun | ⟨_, hfree⟩ | hslot
  · -- a run copied from the marked tree: key and value carry the origins of the copied element's key and value
    unfold runElem at hrun
    split at hrun
    · rename_i pp cfi c _ _ heq
      cases heq
      simp only [Bool.not_eq_eq_eq_not, Bool.not_true] at hrun
      simp only [pairCons, Bool.and_eq_true, Bool.or_eq_true, beq_iff_eq] at hcons
      exact ⟨hcons.2.1.imp id fun h => Or.inl (run_kid_free np fi i pp cfi c 0 k hrun h),
        Or.inl (run_kid_free np fi i pp cfi c 1 v hrun hcons.2.2)⟩
    · cases hrun
  · simp only [elemFree, T.kids, kidsFree, if_true, Bool.and_eq_true, Bool.or_eq_true] at hfree
    exact ⟨hfree.1.imp id Or.inl, Or.inl hfree.2⟩
  · exact ⟨Or.inr (Or.inr (slot_kid mark np [fi, i] _ _ 0 hnn hslot)), Or.inr (slot_kid mark np [fi, i] _ _ 1 hnn hslot)⟩

/-- one pair of a `Dict`: `recurse_node` on the key (or the `put(None)` of a removed key) and on the value -/
theorem pair_elem_ok (mark : T) (np : NP) (fi i : Nat) (pk : Nat) (o : Origin) (kv : List T) (ok : T)
    (IH : ∀ d, sizeOf d < sizeOf kv → NodeOK mark d) (hnn : np ≠ .none)
    (hcons : pairCons mark pk o kv = true) (hwf : wfKV mark kv = true)
    (hshape : ∃ m, pairShape pk m = true ∧ ok = erase m) (hEH : ElemHyp mark np fi true i ok (.node o pk kv))
    (hf : (recPair mark (np.ext [fi, i]) ok.kids kv).fail = false) :
    applyOps (recPair mark (np.ext [fi, i]) ok.kids kv).ops ok = erase (.node o pk kv) := by
  obtain ⟨k, v, rfl, hkey, hwk, hwv⟩ := wfKV_two mark kv hwf
  -- the slot holds a pair `[erase mk, erase mv]` whose key is a node or `None`
  obtain ⟨m, hm, rfl⟩ := hshape
  obtain ⟨mo, mk, mv, rfl, hmkey⟩ := pairShape_inv pk m hm
  have hnil : k.isNode = true → ¬ k.isNil = true := by cases k <;> simp [T.isNode, T.isNil]
  obtain ⟨hsk, hsv⟩ := ElemHyp_pair mark np fi i pk o k v _ hnn hcons hEH
  rw [recPair_seq] at hf ⊢
  simp only [erase, T.kids, eraseL, List.headD_cons, List.tail_cons] at hf ⊢
  refine seq_apply 0 _ _ _ (.node .new pk [erase k, erase mv]) _ hf (fun hrk => ?_) (fun hrv => ?_)
  · refine congrArg (fun a => T.node .new pk [a, erase mv]) ?_
    by_cases hkn : k.isNode = true
    · simp only [hkn, if_true] at hrk ⊢
      exact IH k (by simp; omega) (np.ext [fi, i]) [0] (erase mk) hwk (hsk.resolve_left (hnil hkn)) hrk
    · -- the key is `None`: it is put unless the slot holds `None` already
      obtain rfl : k = .nil := isNil_eq k (hkey.resolve_right hkn)
      simp only [hkn, if_false, Bool.false_eq_true]
      by_cases hmn : (erase mk).isNode = true
      · simp [hmn, applyOps, applyOp, applyAt, applyAct, erase]
      · simp only [hmn, if_false, Bool.false_eq_true, applyOps]
        rw [erase_isNode] at hmn
        rw [isNil_eq mk (by simpa [hmn] using hmkey)]
  · rw [applyOps_preAll]
    exact congrArg (fun b => T.node .new pk [erase k, b]) (IH v (by simp; omega) (np.ext [fi, i]) [1] (erase mv) hwv hsv hrv)

theorem run_shaped (mark : T) (pk : Nat) (pp : Path) (cfi : Nat) : ∀ (rest : List T) (nxt : Nat), wfPs mark pk rest = true →
    ∀ j, j < runLen 0 pp cfi nxt rest → pairShape pk (markAt mark (pp ++ [cfi, nxt + j])) = true
  | [], nxt, _, j, hj => by simp [runLen] at hj
  | y :: ys, nxt, hw, j, hj => by
    simp only [runLen] at hj
    split at hj
    · rename_i hf
      obtain ⟨k, cs, rfl⟩ := follows_zero pp cfi nxt y hf
      simp only [wfPs, Bool.and_eq_true] at hw
      cases j with
      | zero =>
        have := hw.1.1.2
        simp only [pairCons, Bool.and_eq_true] at this
        simpa using this.1
      | succ j =>
        have := run_shaped mark pk pp cfi ys (nxt + 1) hw.2 j (by omega)
        rw [show nxt + (j + 1) = nxt + 1 + j by omega]; exact this
    · omega

theorem allE_splice (pk : Nat) (cur pl : List T) (a b : Nat) (hc : allE pk cur) (hp : allE pk pl) :
    allE pk (cur.take a ++ pl ++ cur.drop b) := by
  intro y hy
  simp only [List.mem_append] at hy
  rcases hy with (h | h) | h
  · exact hc y (List.mem_of_mem_take h)
  · exact hp y h
  · exact hc y (List.mem_of_mem_drop h)

theorem head_allE (mark : T) (np : NP) (fi : Nat) (ns : Option Nat) (i : Nat) (run : Run) (cur : List T) (x : T)
    (rest : List T) (pk : Nat) (hwf : wfPs mark pk (x :: rest) = true) (hc : allE pk cur) :
    allE pk (headState mark np fi ns i run cur x rest).2.1 := by
  rcases headState_spec mark np fi ns i run cur x rest (wfPs_elemsOK mark pk _ hwf) with
    ⟨_, hd⟩ | ⟨_, n, _, hd⟩ | ⟨_, n, src, pl, run1, _, _, _, hd, hrun⟩
  · rw [hd]; exact hc
  · rw [hd]; exact hc
  · rw [hd]
    refine allE_splice pk cur _ _ _ hc ?_
    rcases hrun with ⟨_, rfl, _⟩ | ⟨_, pp, cfi, ci, k, cs, rfl, rfl, rfl, _⟩
    · exact allE_eraseL pk _ (fun m hm => wfPs_shaped mark pk _ hwf m (List.mem_of_mem_take hm))
    · -- element `j` of the copied run is the marked pair at `ci + j`
      refine allE_eraseL pk _ (fun m hm => ?_)
      obtain ⟨j, hj, hget⟩ := List.getElem_of_mem hm
      simp only [List.length_take, List.length_drop] at hj
      simp only [List.getElem_take, List.getElem_drop] at hget
      have hmm : markAt mark (pp ++ [cfi, ci + j]) = m := by
        rw [markAt_elem, List.getElem?_eq_getElem (by omega), hget]; rfl
      rw [← hmm]
      exact run_shaped mark pk pp cfi (_ :: rest) ci hwf j (by simp [runLen, follows, T.origin]; omega)

theorem ne_ast_or_self (mark : T) (np : NP) (rel : Path) (outa n : T)
    (hs : putsFirst np rel n = true ∨ slot mark np rel outa n) (hp : putsFirst np rel n = (np != .ast)) :
    (np != .ast) = true ∨ outa = erase n := by
  cases hs with
  | inl h => left; rw [← hp]; exact h
  | inr h =>
    cases hb : np.base with
    | none => right; simpa [slot, hb] using h
    | some q => left; simpa using base_ne_ast hb

theorem scalar_res_ok (np : NP) (ok c : T) (a : Act) (ha : applyAct a ok = c) (hs : scalarSlot np ok c) :
    applyOps (if (np != .ast && pyNe c ok) = true then [(⟨[], a⟩ : Op)] else []) ok = c := by
  by_cases hput : (np != .ast && pyNe c ok) = true
  · simpa [hput, applyOps, applyOp, applyAt] using ha
  · simp only [hput, if_false, Bool.false_eq_true, applyOps]
    simp only [Bool.and_eq_true, bne_iff_ne, ne_eq, not_and, Bool.not_eq_true] at hput
    by_cases hnp : np = .ast
    · exact hs.1 hnp
    · exact (hs.2 hnp (hput hnp)).symm

theorem plain_ok (mark : T) : ∀ (items : List T), (∀ d, sizeOf d < sizeOf items → NodeOK mark d) →
    ∀ (np : NP) (fi j : Nat) (oks pre : List T) (s : Option Nat) (md : Nat),
    wfEs mark items = true → pre.length = j → oks.length = items.length → plainSlots mark np fi j oks items →
    (recPlain mark np fi j oks items).fail = false →
    applyOps (recPlain mark np fi j oks items).ops (.many s md (pre ++ oks)) = .many s md (pre ++ eraseL items) := by
  intro items
  induction items with
  | nil =>
    intro _ np fi j oks pre s md _ _ hl _ _
    cases oks with
    | nil => rw [recPlain]; rfl
    | cons a b => simp at hl
  | cons c rest ih =>
    intro IH np fi j oks pre s md hwf hpre hl hsl hf
    cases oks with
    | nil => simp at hl
    | cons ok oks' =>
      subst hpre
      simp only [plainSlots] at hsl
      simp only [wfEs, Bool.and_eq_true] at hwf
      rw [recPlain_cons] at hf ⊢
      simp only [List.headD_cons, List.tail_cons] at hf ⊢
      refine seq_apply pre.length _ _ _ (.many s md (pre ++ erase c :: oks')) _ hf ?_ ?_
      · intro hr
        rw [modKid_many_at, IH c (by simp; omega) np [fi, pre.length] ok hwf.1 (Or.inr hsl.1) hr]
      · intro h2
        have := ih (fun d hd => IH d (by simp; omega)) np fi (pre.length + 1) oks' (pre ++ [erase c]) s md
          hwf.2 (by simp) (by simpa using hl) hsl.2 h2
        simpa [eraseL] using this

theorem wf_body_cons (mark : T) (dict : Bool) (pk : Nat) (x : T) (rest : List T)
    (h : if dict then wfPs mark pk (x :: rest) = true else wfEs mark (x :: rest) = true) :
    if dict then wfPs mark pk rest = true else wfEs mark rest = true := by
  cases dict with
  | false => simp only [Bool.false_eq_true, if_false, wfEs, Bool.and_eq_true] at h ⊢; exact h.2
  | true =>
    simp only [if_true] at h ⊢
    cases x with
    | node o k kv => simp only [wfPs, Bool.and_eq_true] at h; exact h.2
    | _ => simp [wfPs] at h

theorem slice_ok (mark : T) : ∀ (body : List T), (∀ d, sizeOf d < sizeOf body → NodeOK mark d) →
    ∀ (np : NP) (fi : Nat) (ns : Option Nat) (dict : Bool) (pk : Nat) (i : Nat)
    (run : Run) (cur done bt : List T) (g : Nat) (s : Option Nat) (md : Nat),
    (if dict then wfPs mark pk body = true else wfEs mark body = true) → np ≠ .none → done.length = i →
    elemSlots mark np fi dict i bt body → SI np fi i run cur body bt g → (dict = true → body ≠ [] → allE pk cur) →
    (recSliceGo mark np fi ns dict i run cur body).fail = false →
    applyOps (recSliceGo mark np fi ns dict i run cur body).ops (.many s md (done ++ cur.drop i))
      = .many s md (done ++ eraseL body) := by
  intro body
  induction body with
  | nil =>
    intro _ np fi ns dict pk i run cur done bt g s md _ _ hdone _ _ _ _
    -- what the output list holds beyond the last element is deleted
    rw [recSliceGo_nil]
    simp only [eraseL, List.append_nil]
    by_cases h : i < cur.length
    · simp only [h, if_true, applyOps, applyOp, applyAt, applyAct]
      rw [List.take_left' hdone]
    · simp only [h, if_false, applyOps]
      rw [List.drop_eq_nil_of_le (by omega)]; simp
  | cons x rest ih =>
    intro IHn np fi ns dict pk i run cur done bt g s md hwf hnn hdone hsl hsi hE hf
    have helems : (x :: rest).all (elemOK mark) = true := by
      cases dict with
      | false => exact wfEs_elemsOK mark _ hwf
      | true => exact wfPs_elemsOK mark pk _ hwf
    obtain ⟨ops0, r, ok, run', cur', g', heq, hr, _, happ, hok, hmem, hsi'⟩ :=
      slice_step mark np fi ns dict i run cur bt g x rest helems hsl hsi
    -- the predicted output list of a `Dict` keeps holding pair structures
    have hE' : dict = true → allE pk cur' := by
      intro hd y hy
      subst hd
      have hwp : wfPs mark pk (x :: rest) = true := hwf
      rcases hmem y hy with h | h | rfl
      · exact hE rfl (by simp) y h
      · exact head_allE mark np fi ns i run cur x rest pk hwp (hE rfl (by simp)) y h
      · exact ⟨x, wfPs_shaped mark pk _ hwp x (by simp), rfl⟩
    rw [heq] at hf ⊢
    simp only at hf ⊢
    rw [applyOps_append, happ s md done hdone]
    refine seq_apply i r _ _ (.many s md (done ++ erase x :: cur'.drop (i + 1))) _ hf ?_ ?_
    · intro hrf
      have hx : applyOps r.ops ok = erase x := by
        rcases hr with ⟨rfl, rfl⟩ | ⟨rfl, heh⟩
        · rfl
        · cases dict with
          | false =>
            exact IHn x (by simp; omega) np [fi, i] ok (wfEs_mem mark _ hwf x (by simp)) (ElemHyp_plain mark np fi i ok x heh) hrf
          | true =>
            obtain ⟨o, kv, rfl, hcons, hkv⟩ := wfPs_mem mark pk _ hwf _ (List.mem_cons_self ..)
            exact pair_elem_ok mark np fi i pk o kv ok (fun d hd => IHn d (by simp; omega)) hnn hcons hkv
              (hE' rfl ok (List.mem_of_getElem? hok)) heh hrf
      rw [← hdone, modKid_many_at, hx]
    · intro h2
      have := ih (fun d hd => IHn d (by simp; omega)) np fi ns dict pk (i + 1) run' cur' (done ++ [erase x])
        bt.tail g' s md (wf_body_cons mark dict pk x rest hwf) hnn (by simp [hdone])
        (elemSlots_tail mark np fi dict i bt x rest hsl) hsi' (fun hd _ => hE' hd) h2
      simpa [eraseL] using this

/-- the loop entered at the first element, as `recurse_children` (and `FST.reconcile` through it) calls it -/
theorem slice_ok_start (mark : T) (items : List T) (IH : ∀ d, sizeOf d < sizeOf items → NodeOK mark d) (np : NP) (fi : Nat)
    (ns : Option Nat) (dict : Bool) (pk : Nat) (cur : List T) (s : Option Nat) (md : Nat)
    (hwf : if dict then wfPs mark pk items = true else wfEs mark items = true) (hnn : np ≠ .none)
    (hsl : elemSlots mark np fi dict 0 cur items) (hE : dict = true → items ≠ [] → allE pk cur)
    (hf : (recSliceGo mark np fi ns dict 0 {} cur items).fail = false) :
    applyOps (recSliceGo mark np fi ns dict 0 {} cur items).ops (.many s md cur) = .many s md (eraseL items) := by
  simpa using slice_ok mark items IH np fi ns dict pk 0 {} cur [] cur 0 s md hwf hnn rfl hsl (SI_start np fi cur items) hE hf

theorem field_ok (mark : T) (c : T) (IH : ∀ d, sizeOf d ≤ sizeOf c → NodeOK mark d) (np : NP) (fi : Nat) (ok : T)
    (rest : List T) (hwf : wfFs mark (c :: rest) = true) (hnn : np ≠ .none) (hs : fieldSlot mark np fi ok c)
    (hr : (fieldRes mark np fi ok c).fail = false) : applyOps (fieldRes mark np fi ok c).ops ok = erase c := by
  have hwc := (wfFs_cons mark c rest hwf).1
  cases c with
  | nil => rw [fieldRes_scalar _ _ _ _ _ rfl]; exact scalar_res_ok np ok .nil _ rfl hs
  | prim v => rw [fieldRes_scalar _ _ _ _ _ rfl]; exact scalar_res_ok np ok (.prim v) _ rfl hs
  | node o' k' cs' => exact IH _ (Nat.le_refl _) np [fi] ok hwc (Or.inr hs) hr
  | many s md items =>
    obtain ⟨cur, rfl, hsl⟩ := hs
    have IHi : ∀ d, sizeOf d < sizeOf items → NodeOK mark d := fun d hd => IH d (by simp; omega)
    rw [fieldRes_many] at hr ⊢
    simp only [T.kids, erase] at hwc hr ⊢
    by_cases h1 : md = 1
    · subst h1
      simp only [if_true] at hsl hr ⊢
      exact slice_ok_start mark items IHi np fi s false 0 cur s 1 (by simpa using hwc) hnn hsl (by simp) hr
    · by_cases h2 : md = 2
      · subst h2
        simp only [h1, if_false, if_true] at hsl hr ⊢
        exact slice_ok_start mark items IHi np fi s true _ cur s 2 (by simpa using hwc) hnn hsl.1 (fun _ => hsl.2) hr
      · simp only [h1, h2, if_false] at hsl hr ⊢
        have hwe : wfEs mark items = true := by simpa [h2] using hwc
        by_cases hl : items.length = cur.length
        · simp only [hl, if_true] at hr ⊢
          simpa using plain_ok mark items IHi np fi 0 cur [] s md hwe rfl hl.symm hsl hr
        · simp [hl] at hr

theorem fields_ok (mark : T) : ∀ (fs : List T), (∀ d, sizeOf d < sizeOf fs → NodeOK mark d) →
    ∀ (np : NP) (fi : Nat) (oks pre : List T) (o : Origin) (k : Nat),
    wfFs mark fs = true → np ≠ .none → pre.length = fi → fieldSlots mark np fi oks fs →
    (recFields mark np fi oks fs).fail = false →
    applyOps (recFields mark np fi oks fs).ops (.node o k (pre ++ oks)) = .node o k (pre ++ eraseL fs) := by
  intro fs
  induction fs with
  | nil =>
    intro _ np fi oks pre o k _ _ _ hsl _
    cases oks with
    | nil => rw [recFields]; rfl
    | cons a b => simp [fieldSlots] at hsl
  | cons c rest ih =>
    intro IH np fi oks pre o k hwf hnn hpre hsl hf
    cases oks with
    | nil => simp [fieldSlots] at hsl
    | cons ok oks' =>
      subst hpre
      obtain ⟨hs1, hsr⟩ := hsl
      rw [recFields_cons] at hf ⊢
      simp only [List.headD_cons, List.tail_cons] at hf ⊢
      refine seq_apply pre.length _ _ _ (.node o k (pre ++ erase c :: oks')) _ hf ?_ ?_
      · intro hr
        rw [modKid_node_at, field_ok mark c (fun d hd => IH d (by simp; omega)) np pre.length ok rest hwf hnn hs1 hr]
      · intro h2
        have := ih (fun d hd => IH d (by simp; omega)) np (pre.length + 1) oks' (pre ++ [erase c]) o k
          (wfFs_cons mark c rest hwf).2 hnn (by simp) hsr h2
        simpa [eraseL] using this

theorem astPath_ok (mark : T) (np np' : NP) (outa : T) (k : Nat) (cs : List T)
    (IH : ∀ d, sizeOf d < sizeOf cs → NodeOK mark d) (hb : np'.base = none) (hwf : wfFs mark cs = true)
    (hs : (np != .ast) = true ∨ outa = .node .new k (eraseL cs))
    (hf : (astPath mark np np' outa k cs).fail = false) :
    applyOps (astPath mark np np' outa k cs).ops outa = .node .new k (eraseL cs) := by
  have IHf := fields_ok mark cs IH np' 0 (eraseL cs) [] .new k hwf (by rintro rfl; cases hb) rfl
    (fieldSlots_self mark np' hb cs 0 hwf)
  unfold astPath at hf ⊢
  by_cases hput : (np != .ast) = true
  · simp only [hput, if_true, T.isNode, Bool.not_true, Bool.false_eq_true, if_false, T.kids] at hf ⊢
    exact IHf hf
  · obtain rfl : outa = .node .new k (eraseL cs) := hs.resolve_left hput
    simp only [hput, if_false, T.isNode, Bool.not_true, Bool.false_eq_true, T.kids, List.nil_append] at hf ⊢
    exact IHf hf

/-- the `except` of `recurse_node`: should the fields raise, the node is put as a pure AST over whatever they left -/
theorem retry_apply (ops : List Op) (fail : Bool) (n t : T) (h : fail = false → applyOps ops t = n) :
    applyOps (if fail = true then (⟨ops ++ [⟨[], .put .ast n⟩], false⟩ : R) else ⟨ops, false⟩).ops t = n := by
  cases fail with
  | true => exact applyOps_put_last _ _ _ _
  | false => exact h rfl

theorem tree_ok (mark : T) (np : NP) (rel : Path) (outa : T) (l : Option Loc) (k : Nat) (cs : List T) (mo : Origin)
    (mcs : List T) (IH : ∀ d, sizeOf d < sizeOf cs → NodeOK mark d) (hmq : markAt mark (qOf l) = .node mo k mcs)
    (hshape : shapeOK mcs cs = true) (hwf : wfFs mark cs = true)
    (hs : putsFirst np rel (.node (.tree l) k cs) = true ∨ slot mark np rel outa (.node (.tree l) k cs)) :
    applyOps (recNode mark np rel outa (.node (.tree l) k cs)).ops outa = .node .new k (eraseL cs) := by
  have IHf := fields_ok mark cs IH (.fst 0 (qOf l)) 0 (eraseL mcs) [] .new k hwf (by simp) rfl
    (fieldSlots_mark mark (qOf l) mcs cs 0 (by rw [hmq]; rfl) hshape hwf)
  have hcopy : erase (markAt mark (qOf l)) = .node .new k (eraseL mcs) := by rw [hmq]; simp [erase]
  rw [recNode_tree]
  simp only [hcopy]
  by_cases hin : inPlace np rel l = true
  · -- in place: the slot holds the marked node
    obtain rfl : outa = .node .new k (eraseL mcs) := by
      cases hs with
      | inl h => simp [putsFirst, hin] at h
      | inr h =>
        obtain ⟨q', hb, hq⟩ := inPlace_base _ _ _ hin
        simp only [slot, hb] at h
        rw [h, ← hq, hcopy]
    simp only [hin, Bool.not_true, Bool.false_eq_true, if_false, T.isNode, T.kids, List.nil_append]
    exact retry_apply _ _ _ _ IHf
  · simp only [hin, Bool.not_false, if_true, T.isNode, Bool.not_true, Bool.false_eq_true, if_false, T.kids]
    exact retry_apply _ _ _ _ fun hfl => by rw [applyOps_append]; exact IHf hfl

theorem recNode_ok (mark n : T) : NodeOK mark n := by
  induction n using T.induct with | _ n IH => ?_
  intro np rel outa hwf hs hf
  by_cases hsc : scalar n = true
  · -- `None` / primitive list element: put unless it is what the slot holds
    have hput : putsFirst np rel n = (np != .ast) := by cases n <;> first | rfl | simp [scalar] at hsc
    rw [recNode_scalar mark np rel outa n hsc, erase_of_scalar n hsc] at *
    refine scalar_res_ok np outa n _ rfl ⟨fun hnp => ?_, fun _ hne => pyNe_false_eq n outa hsc hne⟩
    cases ne_ast_or_self mark np rel outa n hs hput with
    | inl h => simp [hnp] at h
    | inr h => rw [h, erase_of_scalar n hsc]
  cases n with
  | nil => simp [scalar] at hsc
  | prim v => simp [scalar] at hsc
  | many s m cs => simp [wfN] at hwf
  | node o k cs =>
    have IHcs : ∀ d, sizeOf d < sizeOf cs → NodeOK mark d := fun d hd => IH d (by simp; omega)
    match o with
    | .foreign true tid l sg => rw [recNode_foreign_ok]; simp [applyOps, applyOp, applyAt, applyAct, erase]
    | .foreign false tid l sg =>
      rw [recNode_foreign_bad] at hf ⊢
      simp only [wfN, Bool.and_eq_true, bne_iff_ne, ne_eq] at hwf
      have hb : (NP.fst tid (qOf l)).base = none := by
        cases tid with
        | zero => exact absurd rfl hwf.1
        | succ t => rfl
      exact astPath_ok mark np _ outa k cs IHcs hb hwf.2 (ne_ast_or_self mark np rel outa _ hs rfl) hf
    | .new =>
      rw [recNode_new] at hf ⊢
      exact astPath_ok mark np .ast outa k cs IHcs rfl (by simpa [wfN] using hwf) (ne_ast_or_self mark np rel outa _ hs rfl) hf
    | .tree l =>
      obtain ⟨mo, mcs, hmq, hshape, hcs⟩ := wfN_tree mark l k cs hwf
      exact tree_ok mark np rel outa l k cs mo mcs IHcs hmq hshape hcs hs

theorem recPlain_ok (mark : T) : ∀ (items : List T) (np : NP) (fi j : Nat) (oks pre : List T) (s : Option Nat) (md : Nat),
    wfEs mark items = true → pre.length = j → oks.length = items.length → plainSlots mark np fi j oks items →
    (recPlain mark np fi j oks items).fail = false →
    applyOps (recPlain mark np fi j oks items).ops (.many s md (pre ++ oks)) = .many s md (pre ++ eraseL items) :=
  fun items => plain_ok mark items (fun d _ => recNode_ok mark d)

end Pfst.Reconcile
