import Pfst.Trivia

/-! Lemmas about the scanning loops of `leading_trivia` / `trailing_trivia` and the regex models, and the totality of
`get_trivia_params` on the option values `_check_opt_trivia` accepts. -/
namespace Pfst.Trivia
open Pfst.Text

/-- a line the widest trivia pattern accepts: blank, pure comment or lone line continuation -/
def isTriviaLine (l : Line) : Bool := (reEmptyLineContOrComment l).isSome

theorem patCommentStart_isSome {l : Line} (h : (patCommentStart l).isSome) : reCommentLineStart l = true := by
  unfold patCommentStart at h
  split at h
  · assumption
  · cases h

theorem trivia_of_commentStart (l : Line) (h : reCommentLineStart l = true) : isTriviaLine l = true := by
  unfold reCommentLineStart at h
  unfold isTriviaLine reEmptyLineContOrComment
  split at h <;> simp_all

theorem trivia_of_emptyOrCont (l : Line) (h : reEmptyLineOrCont l = true) : isTriviaLine l = true := by
  unfold reEmptyLineOrCont at h
  unfold isTriviaLine reEmptyLineContOrComment
  split at h <;> simp_all

theorem scanUp_spec (pat : Line → Option Bool) (lines : List Line) (stop n cl : Nat) :
    let r := scanUp pat lines stop n cl
    r.1 ≤ n ∧ (stop ≤ r.1 ∨ r.1 = n) ∧ (∀ i, r.1 ≤ i → i < n → (pat (lineAt lines i)).isSome)
      ∧ (r.2 = cl ∨ (r.1 ≤ r.2 ∧ r.2 < n ∧ pat (lineAt lines r.2) = some true)) := by
  fun_induction scanUp pat lines stop n cl with
  | case3 n cl _ isC hsome ih =>
    -- line `n` matched: the loop goes on from `n`, with `n` recorded if it is a comment
    obtain ⟨h1, h2, h3, h4⟩ := ih
    refine ⟨by omega, Or.inl (by omega), fun i hi1 hi2 => ?_, ?_⟩
    · by_cases hin : i = n
      · rw [hin, hsome]; rfl
      · exact h3 i hi1 (by omega)
    · rcases h4 with h4 | ⟨h4a, h4b, h4c⟩
      · cases isC
        · exact Or.inl h4
        · exact Or.inr (by rw [show _ = n from h4]; exact ⟨h1, by omega, hsome⟩)
      · exact Or.inr ⟨h4a, by omega, h4c⟩
  | _ => exact ⟨Nat.le_refl _, Or.inr rfl, fun i a b => by omega, Or.inl rfl⟩

/-- the space loops are the comment loops for the pattern "blank or continuation", which never records a comment -/
def patSpace (l : Line) : Option Bool := if reEmptyLineOrCont l then some false else none

theorem patSpace_isSome {l : Line} (h : (patSpace l).isSome) : reEmptyLineOrCont l = true := by
  unfold patSpace at h
  split at h
  · assumption
  · cases h

theorem spaceUp_eq (lines : List Line) (lo n cl : Nat) : spaceUp lines lo n = (scanUp patSpace lines lo n cl).1 := by
  induction n generalizing cl with
  | zero => rfl
  | succ n ih =>
    simp only [spaceUp, scanUp, patSpace]
    split
    · split
      · exact ih _
      · rfl
    · rfl

theorem spaceUp_spec (lines : List Line) (lo : Nat) :
    ∀ n, let b := spaceUp lines lo n
      b ≤ n ∧ (lo ≤ b ∨ b = n) ∧ (∀ i, b ≤ i → i < n → reEmptyLineOrCont (lineAt lines i) = true) := by
  intro n
  obtain ⟨h1, h2, h3, _⟩ := scanUp_spec patSpace lines lo n 0
  rw [← spaceUp_eq] at h1 h2 h3
  exact ⟨h1, h2, fun i a b => patSpace_isSome (h3 i a b)⟩

theorem scanDown_spec (pat : Line → Option Bool) (lines : List Line) (stop fuel cur cl : Nat) :
    let r := scanDown pat lines stop fuel cur cl
    cur ≤ r.1 ∧ (r.1 ≤ stop ∨ r.1 = cur) ∧ (∀ i, cur ≤ i → i < r.1 → (pat (lineAt lines i)).isSome)
      ∧ (r.2 = cl ∨ (cur < r.2 ∧ r.2 ≤ r.1 ∧ pat (lineAt lines (r.2 - 1)) = some true)) := by
  fun_induction scanDown pat lines stop fuel cur cl with
  | case3 fuel cur cl _ isC hsome ih =>
    -- line `cur` matched: the loop goes on below it, with `cur + 1` recorded if it is a comment
    obtain ⟨h1, h2, h3, h4⟩ := ih
    refine ⟨by omega, Or.inl (by omega), fun i hi1 hi2 => ?_, ?_⟩
    · by_cases hin : i = cur
      · rw [hin, hsome]; rfl
      · exact h3 i (by omega) hi2
    · rcases h4 with h4 | ⟨h4a, h4b, h4c⟩
      · cases isC
        · exact Or.inl h4
        · exact Or.inr (by rw [show _ = cur + 1 from h4]; exact ⟨by omega, h1, hsome⟩)
      · exact Or.inr ⟨by omega, h4b, h4c⟩
  | _ => exact ⟨Nat.le_refl _, Or.inr rfl, fun i a b => by omega, Or.inl rfl⟩

theorem spaceDown_eq (lines : List Line) (hi fuel cur cl : Nat) :
    spaceDown lines hi fuel cur = (scanDown patSpace lines hi fuel cur cl).1 := by
  induction fuel generalizing cur cl with
  | zero => rfl
  | succ f ih =>
    simp only [spaceDown, scanDown, patSpace]
    split
    · split
      · exact ih _ _
      · rfl
    · rfl

theorem spaceDown_spec (lines : List Line) (hi : Nat) :
    ∀ fuel cur, let b := spaceDown lines hi fuel cur
      cur ≤ b ∧ (b ≤ hi ∨ b = cur) ∧ (∀ i, cur ≤ i → i < b → reEmptyLineOrCont (lineAt lines i) = true) := by
  intro fuel cur
  obtain ⟨h1, h2, h3, _⟩ := scanDown_spec patSpace lines hi fuel cur 0
  rw [← spaceDown_eq] at h1 h2 h3
  exact ⟨h1, h2, fun i a b => patSpace_isSome (h3 i a b)⟩

/-- first line of the range `leading_trivia` hands back: the space start if any, else the text line -/
def LeadResult.startLn (r : LeadResult) : Nat := match r.space with | some p => p.1 | none => r.text.1

theorem leadFinish_text (lines : List Line) (topLn ln col commentsLn : Nat) (space : Space) (indent : Line) :
    (leadFinish lines topLn ln col commentsLn space indent).text
      = (if commentsLn != ln then (commentsLn, 0) else (ln, col)) := by
  simp only [leadFinish, apply_ite LeadResult.text, ite_self]

theorem leadFinish_text_fst (lines : List Line) (topLn ln col commentsLn : Nat) (space : Space) (indent : Line) :
    (leadFinish lines topLn ln col commentsLn space indent).text.1 = commentsLn := by
  rw [leadFinish_text]; split <;> simp_all

theorem leadFinish_space (lines : List Line) (topLn ln col commentsLn : Nat) (space : Space) (indent : Line)
    (h1 : topLn ≤ commentsLn) (p : Nat × Nat)
    (hp : (leadFinish lines topLn ln col commentsLn space indent).space = some p) :
    p.2 = 0 ∧ topLn ≤ p.1 ∧ p.1 ≤ commentsLn
      ∧ (∀ i, p.1 ≤ i → i < commentsLn → reEmptyLineOrCont (lineAt lines i) = true)
      ∧ (∀ k, space = .n k → commentsLn ≤ p.1 + k) := by
  -- the space position is the comment position, or the line at which the space loop, run up to its limit `lo`, ended
  have hp' : p = (commentsLn, 0) ∨ ∃ lo, topLn ≤ lo ∧ (∀ k, space = .n k → commentsLn ≤ lo + k)
      ∧ spaceUp lines lo commentsLn ≠ commentsLn ∧ p = (spaceUp lines lo commentsLn, 0) := by
    simp only [leadFinish, apply_ite LeadResult.space] at hp
    generalize (if (commentsLn != ln) = true then (commentsLn, 0) else (ln, col)) = t at hp
    have triv : (if (commentsLn, 0) == t then none else some (commentsLn, 0)) = some p → p = (commentsLn, 0) := by
      intro ht; split at ht <;> cases ht; rfl
    split at hp
    · exact Or.inl (triv hp)
    · split at hp
      · split at hp
        · exact Or.inl (triv hp)
        · next hne =>
          cases hp
          exact Or.inr ⟨topLn, Nat.le_refl _, (fun k hk => nomatch hk), by simpa using hne, rfl⟩
      · next k _ =>
        split at hp
        · exact Or.inl (triv hp)
        · next hne =>
          cases hp
          exact Or.inr ⟨max topLn (commentsLn - k), by omega, (fun j hj => by cases hj; omega),
            by simpa using hne, rfl⟩
  rcases hp' with rfl | ⟨lo, h2, h3, hne, rfl⟩
  · exact ⟨rfl, h1, Nat.le_refl _, fun i a b => by omega, fun k _ => by omega⟩
  · obtain ⟨a, b, c⟩ := spaceUp_spec lines lo commentsLn
    have hb : lo ≤ spaceUp lines lo commentsLn := b.resolve_right hne
    exact ⟨rfl, by omega, a, c, fun k hk => by have := h3 k hk; omega⟩

/-- the early return of `leading_trivia`: the element does not start its line (or the bound is on its line) -/
def leadEarly (lines : List Line) (bln bcol ln col : Nat) : Bool :=
  (bln == ln && bcol != 0) || !(reEmptyLine (lineAt lines ln) col)

/-- the topmost line `leading_trivia` may hand back: the bound line, or the next one if the bound is inside its line -/
def topLnOf (bln bcol : Nat) : Nat := bln + (if bcol != 0 then 1 else 0)

theorem lead_early (lines : List Line) (bln bcol ln col : Nat) (c : LComments) (s : Space)
    (h : leadEarly lines bln bcol ln col = true) :
    leadingTrivia lines bln bcol ln col c s = ⟨(ln, col), none, none⟩ := by
  unfold leadEarly at h
  simp only [leadingTrivia, h, if_true]

theorem topLnOf_le {lines : List Line} {bln bcol ln col : Nat} (hb : bln ≤ ln)
    (h : leadEarly lines bln bcol ln col = false) : topLnOf bln bcol ≤ ln := by
  have h1 := (Bool.or_eq_false_iff.mp h).1
  unfold topLnOf
  split
  · next hz => rw [hz, Bool.and_true, beq_eq_false_iff_ne] at h1; omega
  · omega

theorem lead_late (lines : List Line) (bln bcol ln col : Nat) (c : LComments) (s : Space)
    (h : leadEarly lines bln bcol ln col = false) (hc : c ≠ .all) :
    leadingTrivia lines bln bcol ln col c s
      = leadFinish lines (topLnOf bln bcol) ln col
          (match c with
            | .block => (scanUp patCommentStart lines (topLnOf bln bcol) ln ln).1
            | .lineno n => (scanUp reEmptyLineContOrComment lines
                (if n > (topLnOf bln bcol : Int) then n.toNat else topLnOf bln bcol) ln ln).1
            | _ => ln)
          s ((lineAt lines ln).take col) := by
  unfold leadEarly at h
  simp only [leadingTrivia, h, Bool.false_eq_true, if_false, topLnOf]
  cases c with
  | all => exact absurd rfl hc
  | _ => rfl

/-- For `comments` none / block / line number `leading_trivia` returns early, or is the common tail applied to a
`comments_ln` that lies between the topmost admissible line and the element, with only comment / blank / continuation
lines in between. -/
theorem lead_modes (lines : List Line) (bln bcol ln col : Nat) (c : LComments) (s : Space) (hb : bln ≤ ln)
    (hc : c ≠ .all) :
    leadingTrivia lines bln bcol ln col c s = ⟨(ln, col), none, none⟩ ∨
    ∃ cl, topLnOf bln bcol ≤ cl ∧ cl ≤ ln ∧ (∀ i, cl ≤ i → i < ln → isTriviaLine (lineAt lines i) = true)
      ∧ (c = .none → cl = ln)
      ∧ (c = .block → ∀ i, cl ≤ i → i < ln → reCommentLineStart (lineAt lines i) = true)
      ∧ leadingTrivia lines bln bcol ln col c s
          = leadFinish lines (topLnOf bln bcol) ln col cl s ((lineAt lines ln).take col) := by
  by_cases he : leadEarly lines bln bcol ln col = true
  · exact Or.inl (lead_early lines bln bcol ln col c s he)
  right
  rw [Bool.not_eq_true] at he
  have htop := topLnOf_le hb he
  have late := lead_late lines bln bcol ln col c s he hc
  cases c with
  | all => exact absurd rfl hc
  | none => exact ⟨ln, htop, Nat.le_refl _, fun i a b => by omega, fun _ => rfl, fun _ i a b => by omega, late⟩
  | block =>
    have sp := scanUp_spec patCommentStart lines (topLnOf bln bcol) ln ln
    simp only at sp
    obtain ⟨a, b, c', _⟩ := sp
    refine ⟨(scanUp patCommentStart lines (topLnOf bln bcol) ln ln).1, by rcases b with b | b <;> omega, a,
      fun i h1 h2 => trivia_of_commentStart _ (patCommentStart_isSome (c' i h1 h2)), (fun h => nomatch h),
      fun _ i h1 h2 => patCommentStart_isSome (c' i h1 h2), late⟩
  | lineno n =>
    have hst : topLnOf bln bcol ≤ (if n > (topLnOf bln bcol : Int) then n.toNat else topLnOf bln bcol) := by
      split <;> omega
    have sp := scanUp_spec reEmptyLineContOrComment lines
      (if n > (topLnOf bln bcol : Int) then n.toNat else topLnOf bln bcol) ln ln
    simp only at sp
    obtain ⟨a, b, c', _⟩ := sp
    refine ⟨_, by rcases b with b | b <;> omega, a, fun i h1 h2 => c' i h1 h2, (fun h => nomatch h),
      (fun h => nomatch h), late⟩

/-! ### get_trivia_params is total on what _check_opt_trivia accepts -/

theorem splitAtChar_digits (c : Char) (hc : isDigitCh c = false) :
    ∀ ds : List Char, ds.all isDigitCh = true → splitAtChar c ds = none
  | [], _ => rfl
  | d :: ds, h => by
    simp only [List.all_cons, Bool.and_eq_true] at h
    have hne : (d == c) = false := by
      by_cases e : d = c
      · subst e; rw [h.1] at hc; cases hc
      · simpa using e
    simp [splitAtChar, hne, splitAtChar_digits c hc ds h.2]

theorem parseNat_digits (ds : List Char) (h : ds.all isDigitCh = true) (hne : ds ≠ []) : ∃ n, parseNat ds = some n := by
  unfold parseNat
  have : ds.isEmpty = false := by cases ds <;> simp_all
  simp [this, h]

theorem spaceOf_digits (ds : List Char) (h : ds.all isDigitCh = true) : ∃ sp, spaceOf ds = some sp := by
  cases ds with
  | nil => exact ⟨_, rfl⟩
  | cons d ds =>
    obtain ⟨n, hn⟩ := parseNat_digits (d :: ds) h (by simp)
    exact ⟨.int n, by simp [spaceOf, hn]⟩

theorem stripPrefix_eq (p s r : List Char) (h : stripPrefix p s = some r) : s = p ++ r := by
  unfold stripPrefix at h
  split at h
  · next hp =>
    obtain ⟨t, ht⟩ := List.isPrefixOf_iff_prefix.mp hp
    cases h; subst ht; simp
  · cases h

/-- every word an option string may start with (`leadPrefixes` and `trailPrefixes` together); the empty word stands for
the bare `+…` / `-…` form -/
def words : List (List Char) := ["all".toList, "block".toList, "none".toList, "line".toList, []]

theorem splitAtChar_append (c : Char) (p rest : List Char) (hp : c ∉ p) :
    splitAtChar c (p ++ rest) = (splitAtChar c rest).map (fun q => (p ++ q.1, q.2)) := by
  induction p with
  | nil => simp
  | cons x p ih =>
    simp only [List.mem_cons, not_or] at hp
    have hx : (x == c) = false := beq_eq_false_iff_ne.mpr (Ne.symm hp.1)
    simp only [List.cons_append, splitAtChar, hx, Bool.false_eq_true, if_false, ih hp.2, Option.map_map]
    rfl

/-- a string of the option language `word? ([+-] digits*)?`, not empty, is mapped to the word (or the default) -/
theorem oneParam_str (p r dflt : List Char) (neg : Bool) (hp : p ∈ words) (hr : sufOk r = true) (hne : p ++ r ≠ []) :
    ∃ sp ng, oneParam (.str (p ++ r)) dflt neg = some (.str (if p.isEmpty then dflt else p), sp, ng) := by
  -- no word contains a sign, so the first sign of `p ++ r`, if any, is the first character of `r`
  have hw : '+' ∉ p ∧ '-' ∉ p := (by decide : ∀ p ∈ words, '+' ∉ p ∧ '-' ∉ p) p hp
  have hplus := splitAtChar_append '+' p r hw.1
  have hminus := splitAtChar_append '-' p r hw.2
  match r, hr with
  | [], _ =>
    have hpn : p ≠ [] := by simpa using hne
    rw [List.append_nil] at hplus hminus
    exact ⟨.bool false, false, by simp [oneParam, hplus, hminus, splitAtChar, hpn]⟩
  | c :: ds, hr =>
    simp only [sufOk, Bool.and_eq_true, Bool.or_eq_true, beq_iff_eq] at hr
    obtain ⟨hc, hds⟩ := hr
    obtain ⟨sp, hsp⟩ := spaceOf_digits ds hds
    rcases hc with rfl | rfl
    · exact ⟨sp, false, by simp [oneParam, hplus, splitAtChar, hsp]⟩
    · have hno := splitAtChar_digits '+' (by decide) ds hds
      cases neg
      · exact ⟨.int 0, true, by simp [oneParam, hplus, hminus, splitAtChar, hno]⟩
      · exact ⟨sp, true, by simp [oneParam, hplus, hminus, splitAtChar, hsp, hno]⟩

/-- what `oneParam` may return as `comments`: a line number, the default word, `none`, or a non-empty admitted word -/
def goodC (prefixes : List (List Char)) (dflt : List Char) (c : CVal) : Prop :=
  (∃ n, c = .int n) ∨ ∃ w, c = .str w ∧ (w = dflt ∨ (w ∈ prefixes ∧ w ≠ []))

theorem oneParam_ok (prefixes : List (List Char)) (hsub : ∀ p ∈ prefixes, p ∈ words) (hnone : "none".toList ∈ prefixes)
    (v : TVal) (h : okVal prefixes v = true) (dflt : List Char) (neg : Bool) :
    ∃ c sp ng, oneParam v dflt neg = some (c, sp, ng) ∧ goodC prefixes dflt c := by
  cases v with
  | bool b =>
    cases b
    · exact ⟨_, _, _, rfl, Or.inr ⟨"none".toList, rfl, Or.inr ⟨hnone, by decide⟩⟩⟩
    · exact ⟨_, _, _, rfl, Or.inr ⟨_, rfl, Or.inl rfl⟩⟩
  | int n => exact ⟨_, _, _, rfl, Or.inl ⟨n, rfl⟩⟩
  | str s =>
    simp only [okVal, reTrivia, Bool.and_eq_true, Bool.not_eq_true', List.any_eq_true] at h
    obtain ⟨hne, p, hp, hm⟩ := h
    split at hm
    · next r hr =>
      have hs := stripPrefix_eq p s r hr
      subst hs
      have hne' : p ++ r ≠ [] := by intro e; rw [e] at hne; simp at hne
      obtain ⟨sp, ng, h1⟩ := oneParam_str p r dflt neg (hsub p hp) hm hne'
      refine ⟨_, sp, ng, h1, Or.inr ⟨_, rfl, ?_⟩⟩
      cases p with
      | nil => exact Or.inl rfl
      | cons x p => exact Or.inr ⟨hp, List.cons_ne_nil x p⟩
    · cases hm

theorem goodC_lead (c : CVal) (h : goodC leadPrefixes "block".toList c) :
    legalLead c = true ∧ c ≠ .str "line".toList := by
  rcases h with ⟨n, rfl⟩ | ⟨w, rfl, rfl | ⟨hw, hne⟩⟩
  · exact ⟨rfl, by simp⟩
  · decide
  · exact (by decide +kernel :
      ∀ w ∈ leadPrefixes, w ≠ [] → legalLead (.str w) = true ∧ CVal.str w ≠ .str "line".toList) w hw hne

theorem goodC_trail (c : CVal) (h : goodC trailPrefixes "line".toList c) : legalTrail c = true := by
  rcases h with ⟨n, rfl⟩ | ⟨w, rfl, rfl | ⟨hw, hne⟩⟩
  · rfl
  · decide
  · exact (by decide +kernel : ∀ w ∈ trailPrefixes, w ≠ [] → legalTrail (.str w) = true) w hw hne

theorem okVal_lead_trail (v : TVal) (h : okVal leadPrefixes v = true) : okVal trailPrefixes v = true := by
  cases v with
  | bool b => rfl
  | int n => rfl
  | str s =>
    simp only [okVal, reTrivia, Bool.and_eq_true, List.any_eq_true] at h ⊢
    obtain ⟨hne, p, hp, hm⟩ := h
    refine ⟨hne, p, ?_, hm⟩
    simp only [leadPrefixes, trailPrefixes, List.mem_cons, List.not_mem_nil, or_false] at hp ⊢
    rcases hp with rfl | rfl | rfl | rfl <;> simp

/-- the two-component form of the option, to which `get_trivia_params` brings every other form first -/
theorem getTriviaParams_pair (lc tc : TVal) (neg : Bool) (h1 : okVal leadPrefixes lc = true)
    (h2 : okVal trailPrefixes tc = true) :
    ∃ p, getTriviaParams (.tuple [lc, tc]) neg = some p ∧ legalLead p.leadC = true ∧ legalTrail p.trailC = true := by
  obtain ⟨c1, s1, n1, e1, g1⟩ := oneParam_ok leadPrefixes (by decide) (by decide) lc h1 "block".toList neg
  obtain ⟨c2, s2, n2, e2, g2⟩ := oneParam_ok trailPrefixes (by decide) (by decide) tc h2 "line".toList neg
  obtain ⟨l1, ne1⟩ := goodC_lead c1 g1
  have : (c1 == CVal.str "line".toList) = false := by simpa using ne1
  simp only [getTriviaParams, e1, e2, this, Bool.and_false, Bool.false_eq_true, if_false]
  exact ⟨_, rfl, l1, goodC_trail c2 g2⟩

/-- **Totality**: every value `_check_opt_trivia` accepts is mapped by `get_trivia_params` to `comments` values that
`leading_trivia` / `trailing_trivia` handle. -/
theorem getTriviaParams_total (t : TrivOpt) (neg : Bool) (h : checkOptTrivia t = true) :
    ∃ p, getTriviaParams t neg = some p ∧ legalLead p.leadC = true ∧ legalTrail p.trailC = true :=
  match t, h with
  | .single v, h => getTriviaParams_pair v (.bool true) neg h rfl
  | .tuple [], _ => getTriviaParams_pair (.bool false) (.bool false) neg rfl rfl
  | .tuple [a], h => getTriviaParams_pair (.bool true) a neg rfl h
  | .tuple [a, b], h =>
    have h := Bool.and_eq_true_iff.mp h
    getTriviaParams_pair a b neg h.1 h.2
  | .tuple (_ :: _ :: _ :: _), h => by simp [checkOptTrivia] at h

end Pfst.Trivia
