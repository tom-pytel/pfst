import Pfst.LinksLemmas
/-
Helper lemmas for `_set_ast` / `_set_field` at any node of the tree: the link invariant of the whole tree survives the
replacement of one subtree resp. of the elements of one field.  `replaceId` and `setKids` both edit the tree at the
first node with a given id (`EditAt`); what the operation does to the store is abstracted by `SwapCtx` / `FieldCtx`,
both of which leave everything outside the unmade and the new ASTs alone (`Keep`); `EditAt.linked` carries the
invariant down the spine from the root to the edited node.
-/
namespace Pfst.Links

mutual
theorem findId_some : ∀ (T : Ast) (i : Nat) (o : Ast), findId i T = some o → o.id = i ∧ ∀ y ∈ ids o, y ∈ ids T
  | .mk j k f ks, i, o, h => by
    simp only [findId] at h
    split at h
    · next e => cases h; exact ⟨e, fun y hy => hy⟩
    · obtain ⟨h1, h2⟩ := findIdList_some ks i o h
      exact ⟨h1, fun y hy => List.mem_cons_of_mem _ (h2 y hy)⟩
theorem findIdList_some : ∀ (l : List Ast) (i : Nat) (o : Ast), findIdList i l = some o →
    o.id = i ∧ ∀ y ∈ ids o, y ∈ idsList l
  | [], i, o, h => by simp [findIdList] at h
  | k :: rest, i, o, h => by
    cases hk : findId i k with
    | some r =>
      simp only [findIdList, hk] at h
      cases h
      obtain ⟨h1, h2⟩ := findId_some k i o hk
      exact ⟨h1, fun y hy => List.mem_append_left _ (h2 y hy)⟩
    | none =>
      simp only [findIdList, hk] at h
      obtain ⟨h1, h2⟩ := findIdList_some rest i o h
      exact ⟨h1, fun y hy => List.mem_append_right _ (h2 y hy)⟩
end

mutual
theorem findId_none : ∀ (T : Ast) (i : Nat), findId i T = none → i ∉ ids T
  | .mk j k f ks, i, h => by
    simp only [findId] at h
    split at h
    · cases h
    · next ne =>
      simp only [ids, List.mem_cons, not_or]
      exact ⟨fun e => ne e.symm, findIdList_none ks i h⟩
theorem findIdList_none : ∀ (l : List Ast) (i : Nat), findIdList i l = none → i ∉ idsList l
  | [], i, _ => by simp [idsList]
  | k :: rest, i, h => by
    cases hk : findId i k with
    | some r => simp [findIdList, hk] at h
    | none =>
      simp only [findIdList, hk] at h
      simp only [idsList, List.mem_append, not_or]
      exact ⟨findId_none k i hk, findIdList_none rest i h⟩
end

theorem id_notin_kids (t : Ast) (h : (ids t).Nodup) : t.id ∉ idsList t.kids := by
  obtain ⟨a, k, f, ks⟩ := t
  exact (List.nodup_cons.mp h).1

theorem replaceId_root (T : Ast) (i : Nat) (new : Ast) :
    replaceId i new T = if T.id = i then new else .mk T.id T.kind T.fld (replaceIdList i new T.kids) := by
  cases T; rfl

theorem findId_self (T : Ast) : findId T.id T = some T := by
  obtain ⟨j, k, f, ks⟩ := T
  simp [findId, Ast.id]

theorem findId_root_notin (T : Ast) (i : Nat) (o : Ast) (h : findId i T = some o) (hne : T.id ≠ i)
    (hnd : (ids T).Nodup) : T.id ∉ ids o := by
  obtain ⟨j, k, f, ks⟩ := T
  have hne' : ¬ j = i := hne
  simp only [findId, if_neg hne'] at h
  exact fun hj => (List.nodup_cons.mp hnd).1 ((findIdList_some ks i o h).2 j hj)

theorem findId_root_notin_kids (T : Ast) (i : Nat) (o : Ast) (h : findId i T = some o) (hnd : (ids T).Nodup) :
    T.id ∉ idsList o.kids := by
  by_cases e : T.id = i
  · cases Option.some.inj ((findId_self T).symm.trans (e ▸ h))
    exact id_notin_kids T hnd
  · exact fun hk => findId_root_notin T i o h e hnd (idsList_kids_sub o _ hk)

theorem linkedB_root (σ : Store) (pf : Option Nat) (t : Ast) (h : linkedB σ pf t = true) (f : Nat)
    (hf : σ.astF t.id = some f) :
    (σ.fst f).a = some t.id ∧ (σ.fst f).parent = pf ∧ (σ.fst f).pfield = t.fld ∧
      linkedListB σ (some f) t.kids = true := by
  obtain ⟨g, hg, h⟩ := linkedB_iff.mp h
  cases hg.symm.trans hf
  exact h

theorem linkedB_setFld (σ : Store) (pf : Option Nat) (t : Ast) (fl : Option Fld) (f : Nat)
    (hA : σ.astF t.id = some f) (ha : (σ.fst f).a = some t.id) (hp : (σ.fst f).parent = pf)
    (hq : (σ.fst f).pfield = fl) (hk : linkedListB σ (some f) t.kids = true) :
    linkedB σ pf (t.setFld fl) = true := by
  obtain ⟨a, k, fl0, ks⟩ := t
  exact linkedB_iff.mpr ⟨f, hA, ha, hp, hq, hk⟩

mutual
theorem linked_node (σ : Store) : ∀ (t : Ast) (pf : Option Nat), linkedB σ pf t = true →
    ∀ x ∈ ids t, ∃ f, σ.astF x = some f ∧ (σ.fst f).a = some x
  | .mk a _ fld kids, pf, h, x, hx => by
    obtain ⟨g, hg, ha, _, _, hk⟩ := linkedB_iff.mp h
    rcases List.mem_cons.mp hx with rfl | hx
    · exact ⟨g, hg, ha⟩
    · exact linkedList_node σ kids (some g) hk x hx
theorem linkedList_node (σ : Store) : ∀ (l : List Ast) (pf : Option Nat), linkedListB σ pf l = true →
    ∀ x ∈ idsList l, ∃ f, σ.astF x = some f ∧ (σ.fst f).a = some x
  | [], _, _, x, hx => by cases hx
  | k :: rest, pf, h, x, hx => by
    simp only [linkedListB, Bool.and_eq_true] at h
    rcases List.mem_append.mp hx with h0 | h1
    · exact linked_node σ k pf h.1 x h0
    · exact linkedList_node σ rest pf h.2 x h1
end

theorem linked_back (σ : Store) (t : Ast) (pf : Option Nat) (h : linkedB σ pf t = true) :
    ∀ x ∈ ids t, ∀ f, σ.astF x = some f → (σ.fst f).a = some x := by
  intro x hx f hf
  obtain ⟨g, hg, ha⟩ := linked_node σ t pf h x hx
  cases hg.symm.trans hf
  exact ha

theorem linkedList_back (σ : Store) : ∀ (l : List Ast) (pf : Option Nat), linkedListB σ pf l = true →
    ∀ x ∈ idsList l, ∀ f, σ.astF x = some f → (σ.fst f).a = some x := by
  intro l pf h x hx f hf
  obtain ⟨g, hg, ha⟩ := linkedList_node σ l pf h x hx
  cases hg.symm.trans hf
  exact ha

theorem linked_isSome (σ : Store) (t : Ast) (pf : Option Nat) (h : linkedB σ pf t = true) :
    ∀ x ∈ ids t, σ.astF x ≠ none := by
  intro x hx e
  obtain ⟨g, hg, _⟩ := linked_node σ t pf h x hx
  cases hg.symm.trans e

theorem linkedList_isSome (σ : Store) : ∀ (l : List Ast) (pf : Option Nat), linkedListB σ pf l = true →
    ∀ x ∈ idsList l, σ.astF x ≠ none := by
  intro l pf h x hx e
  obtain ⟨g, hg, _⟩ := linkedList_node σ l pf h x hx
  cases hg.symm.trans e

mutual
theorem linked_find (σ : Store) : ∀ (T : Ast) (pf : Option Nat) (i : Nat) (o : Ast), linkedB σ pf T = true →
    findId i T = some o → ∃ po, linkedB σ po o = true ∧ ((po = pf ∧ T.id = i) ∨ (∃ p, po = some p ∧ T.id ≠ i))
  | .mk j k fl ks, pf, i, o, h, hf => by
    simp only [findId] at hf
    split at hf
    · next e => cases hf; exact ⟨pf, h, Or.inl ⟨rfl, e⟩⟩
    · next ne =>
      obtain ⟨g, _, _, _, _, hk⟩ := linkedB_iff.mp h
      obtain ⟨p, hp⟩ := linkedList_find σ ks g i o hk hf
      exact ⟨some p, hp, Or.inr ⟨p, rfl, ne⟩⟩
theorem linkedList_find (σ : Store) : ∀ (l : List Ast) (g : Nat) (i : Nat) (o : Ast),
    linkedListB σ (some g) l = true → findIdList i l = some o → ∃ p, linkedB σ (some p) o = true
  | [], _, _, _, _, hf => by simp [findIdList] at hf
  | k :: rest, g, i, o, h, hf => by
    simp only [linkedListB, Bool.and_eq_true] at h
    cases hk : findId i k with
    | some r =>
      simp only [findIdList, hk] at hf
      cases hf
      obtain ⟨po, hpo, hc⟩ := linked_find σ k (some g) i o h.1 hk
      rcases hc with ⟨rfl, _⟩ | ⟨p, rfl, _⟩
      · exact ⟨g, hpo⟩
      · exact ⟨p, hpo⟩
    | none =>
      simp only [findIdList, hk] at hf
      exact linkedList_find σ rest g i o h.2 hf
end

theorem ids_setFld (t : Ast) (fl : Option Fld) : ids (t.setFld fl) = ids t := by
  cases t; simp [Ast.setFld, ids]

theorem idsList_append : ∀ (l1 l2 : List Ast), idsList (l1 ++ l2) = idsList l1 ++ idsList l2
  | [], l2 => by simp [idsList]
  | k :: rest, l2 => by simp only [List.cons_append, idsList, idsList_append rest l2, List.append_assoc]

theorem idsList_relabel (name : String) (isList : Bool) : ∀ (l : List Ast) (i : Nat),
    idsList (relabel name isList i l) = idsList l
  | [], _ => rfl
  | k :: rest, i => by simp only [relabel, idsList, ids_setFld, idsList_relabel name isList rest (i + 1)]

theorem idsList_filter_sublist (p : Ast → Bool) : ∀ (l : List Ast), (idsList (l.filter p)).Sublist (idsList l)
  | [] => List.Sublist.refl _
  | k :: rest => by
    simp only [List.filter]
    cases p k with
    | true => exact (List.Sublist.refl _).append (idsList_filter_sublist p rest)
    | false => exact (idsList_filter_sublist p rest).trans (List.sublist_append_right _ _)

theorem idsList_filter_sub (p : Ast → Bool) (l : List Ast) : ∀ y ∈ idsList (l.filter p), y ∈ idsList l :=
  fun _ h => (idsList_filter_sublist p l).subset h

theorem idsList_filter_nodup (p : Ast → Bool) (l : List Ast) (h : (idsList l).Nodup) : (idsList (l.filter p)).Nodup :=
  h.sublist (idsList_filter_sublist p l)

theorem idsList_filter_disjoint (p : Ast → Bool) : ∀ (l : List Ast), (idsList l).Nodup →
    ∀ y ∈ idsList (l.filter (fun c => !p c)), y ∉ idsList (l.filter p)
  | [], _, y, hy => by simp [idsList] at hy
  | k :: rest, hnd, y, hy => by
    simp only [idsList] at hnd
    have hnd' := List.nodup_append.mp hnd
    simp only [List.filter] at hy ⊢
    cases hp : p k with
    | true =>
      simp only [hp, Bool.not_true, idsList, List.mem_append, not_or] at hy ⊢
      have hyr := idsList_filter_sub _ rest y hy
      exact ⟨fun h => hnd'.2.2 y h y hyr rfl, idsList_filter_disjoint p rest hnd'.2.1 y hy⟩
    | false =>
      simp only [hp, Bool.not_false, idsList, List.mem_append] at hy ⊢
      cases hy with
      | inl h => exact fun h2 => hnd'.2.2 y h y (idsList_filter_sub _ rest y h2) rfl
      | inr h => exact idsList_filter_disjoint p rest hnd'.2.1 y h

theorem linkedListB_append (σ : Store) (pf : Option Nat) : ∀ (l1 l2 : List Ast),
    linkedListB σ pf (l1 ++ l2) = (linkedListB σ pf l1 && linkedListB σ pf l2)
  | [], l2 => by simp [linkedListB]
  | k :: rest, l2 => by simp only [List.cons_append, linkedListB, linkedListB_append σ pf rest l2, Bool.and_assoc]

theorem linkedListB_filter (σ : Store) (pf : Option Nat) (p : Ast → Bool) : ∀ (l : List Ast),
    linkedListB σ pf l = true → linkedListB σ pf (l.filter p) = true
  | [], _ => by simp [linkedListB]
  | k :: rest, h => by
    simp only [linkedListB, Bool.and_eq_true] at h
    simp only [List.filter]
    cases hp : p k with
    | true => simp only [linkedListB, Bool.and_eq_true]; exact ⟨h.1, linkedListB_filter σ pf p rest h.2⟩
    | false => exact linkedListB_filter σ pf p rest h.2

theorem setKids_id (T : Ast) (i : Nat) (name : String) (new : List Ast) : (setKids i name new T).id = T.id := by
  obtain ⟨j, k, f, ks⟩ := T
  simp only [setKids]
  split <;> rfl

/-- `F` / `FL` walk a tree / a child list in preorder and rewrite the first node with id `i` by `g`. -/
structure EditAt (i : Nat) (g : Ast → Ast) (F : Ast → Ast) (FL : List Ast → List Ast) : Prop where
  node : ∀ j k f ks, F (.mk j k f ks) = if j = i then g (.mk j k f ks) else .mk j k f (FL ks)
  nil : FL [] = []
  cons : ∀ k r, FL (k :: r) = F k :: FL r

theorem replaceId_editAt (i : Nat) (new : Ast) :
    EditAt i (fun _ => new) (replaceId i new) (replaceIdList i new) :=
  ⟨fun _ _ _ _ => rfl, rfl, fun _ _ => rfl⟩

/-- what `setKids` makes of the node it edits: the children outside field `name`, then the new elements -/
def setKidsNode (name : String) (new : List Ast) (t : Ast) : Ast :=
  .mk t.id t.kind t.fld
    (t.kids.filter (fun c => !(match c.fld with | some g => g.name == name | none => false)) ++ new)

theorem setKids_editAt (i : Nat) (name : String) (new : List Ast) :
    EditAt i (setKidsNode name new) (setKids i name new) (setKidsList i name new) :=
  ⟨fun _ _ _ _ => rfl, rfl, fun _ _ => rfl⟩

section EditAt
variable {i : Nat} {g : Ast → Ast} {F : Ast → Ast} {FL : List Ast → List Ast} (E : EditAt i g F FL)
include E

namespace EditAt

mutual
theorem notin : ∀ (T : Ast), i ∉ ids T → F T = T
  | .mk j k f ks, h => by
    simp only [ids, List.mem_cons, not_or] at h
    rw [E.node, if_neg (fun e => h.1 e.symm), EditAt.notinList ks h.2]
theorem notinList : ∀ (l : List Ast), i ∉ idsList l → FL l = l
  | [], _ => E.nil
  | k :: rest, h => by
    simp only [idsList, List.mem_append, not_or] at h
    rw [E.cons, EditAt.notin k h.1, EditAt.notinList rest h.2]
end

variable {N : List Nat} (hsub : ∀ o, ∀ y ∈ ids (g o), y ∈ ids o ∨ y ∈ N)
include hsub

mutual
theorem ids_sub : ∀ (T : Ast), ∀ y ∈ ids (F T), y ∈ ids T ∨ y ∈ N
  | .mk j k f ks, y, hy => by
    rw [E.node] at hy
    split at hy
    · exact hsub _ y hy
    · rcases List.mem_cons.mp hy with h | h
      · exact Or.inl (h ▸ List.mem_cons_self)
      · exact (EditAt.ids_subList ks y h).imp (List.mem_cons_of_mem _) id
theorem ids_subList : ∀ (l : List Ast), ∀ y ∈ idsList (FL l), y ∈ idsList l ∨ y ∈ N
  | [], y, hy => by rw [E.nil] at hy; cases hy
  | k :: rest, y, hy => by
    rw [E.cons] at hy
    simp only [idsList, List.mem_append] at hy ⊢
    rcases hy with h | h
    · exact (EditAt.ids_sub k y h).imp Or.inl id
    · exact (EditAt.ids_subList rest y h).imp Or.inr id
end

variable (hnodup : ∀ o, (ids o).Nodup → (∀ x ∈ ids o, x ∉ N) → (ids (g o)).Nodup)
include hnodup

mutual
theorem nodup : ∀ (T : Ast), (ids T).Nodup → (∀ x ∈ ids T, x ∉ N) → (ids (F T)).Nodup
  | .mk j k f ks, hnd, hd => by
    rw [E.node]
    split
    · exact hnodup _ hnd hd
    · simp only [ids, List.nodup_cons] at hnd ⊢
      refine ⟨fun h => ?_, EditAt.nodupList ks hnd.2 (fun x hx => hd x (List.mem_cons_of_mem _ hx))⟩
      rcases EditAt.ids_subList E hsub ks j h with h1 | h2
      · exact hnd.1 h1
      · exact hd j List.mem_cons_self h2
theorem nodupList : ∀ (l : List Ast), (idsList l).Nodup → (∀ x ∈ idsList l, x ∉ N) → (idsList (FL l)).Nodup
  | [], _, _ => by rw [E.nil]; exact List.nodup_nil
  | k :: rest, hnd, hd => by
    simp only [idsList] at hnd
    have hnd' := List.nodup_append.mp hnd
    have hdk : ∀ x ∈ ids k, x ∉ N := fun x hx => hd x (List.mem_append_left _ hx)
    have hdr : ∀ x ∈ idsList rest, x ∉ N := fun x hx => hd x (List.mem_append_right _ hx)
    rw [E.cons]
    simp only [idsList]
    rw [List.nodup_append]
    -- only one of `k`, `rest` contains `i`; the other is untouched
    by_cases hik : i ∈ ids k
    · rw [EditAt.notinList E rest (fun h => hnd'.2.2 i hik i h rfl)]
      refine ⟨EditAt.nodup k hnd'.1 hdk, hnd'.2.1, ?_⟩
      rintro a ha b hb rfl
      rcases EditAt.ids_sub E hsub k a ha with h1 | h2
      · exact hnd'.2.2 a h1 a hb rfl
      · exact hdr a hb h2
    · rw [EditAt.notin E k hik]
      refine ⟨hnd'.1, EditAt.nodupList rest hnd'.2.1 hdr, ?_⟩
      rintro a ha b hb rfl
      rcases EditAt.ids_subList E hsub rest a hb with h1 | h2
      · exact hnd'.2.2 a ha a h1 rfl
      · exact hdk a ha h2
end

end EditAt

end EditAt

/-- `σ3` comes from `σ` by an operation that wrote `a.f` only for the ASTs in `D` (unmade) and `N` (new), and no record
of an existing FST other than those of `D`; `R` = the ASTs of the whole tree, each pointed back at by its FST, which
exists. -/
structure Keep (σ σ3 : Store) (R D N : List Nat) : Prop where
  back : ∀ x ∈ R, ∀ g, σ.astF x = some g → (σ.fst g).a = some x ∧ g < σ.next
  deadR : ∀ y ∈ D, y ∈ R
  astF_keep : ∀ x, x ∉ D → x ∉ N → σ3.astF x = σ.astF x
  fst_keep : ∀ g, g < σ.next → (∀ y ∈ D, σ.astF y ≠ some g) → σ3.fst g = σ.fst g

section Keep
variable {σ σ3 : Store} {R D N : List Nat} (K : Keep σ σ3 R D N)
include K

namespace Keep

/-- no unmade AST shares the FST of `x`, since each FST points back at its own AST -/
theorem node {x g : Nat} (hx : x ∈ R) (hD : x ∉ D) (hN : x ∉ N) (hg : σ.astF x = some g) :
    σ3.astF x = some g ∧ σ3.fst g = σ.fst g := by
  refine ⟨(K.astF_keep x hD hN).trans hg, K.fst_keep g (K.back x hx g hg).2 (fun y hy hyg => hD ?_)⟩
  cases Option.some.inj ((K.back x hx g hg).1.symm.trans (K.back y (K.deadR y hy) g hyg).1)
  exact hy

theorem linked (t : Ast) (pf : Option Nat) (hl : linkedB σ pf t = true)
    (h : ∀ x ∈ ids t, x ∈ R ∧ x ∉ D ∧ x ∉ N) : linkedB σ3 pf t = true :=
  linkedB_congrP σ σ3 (fun g => σ3.fst g = σ.fst g) t pf (fun x hx => K.astF_keep x (h x hx).2.1 (h x hx).2.2)
    (fun x hx _ hg => (K.node (h x hx).1 (h x hx).2.1 (h x hx).2.2 hg).2) (fun _ e => e) hl

theorem linkedList (l : List Ast) (pf : Option Nat) (hl : linkedListB σ pf l = true)
    (h : ∀ x ∈ idsList l, x ∈ R ∧ x ∉ D ∧ x ∉ N) : linkedListB σ3 pf l = true :=
  linkedListB_congrP σ σ3 (fun g => σ3.fst g = σ.fst g) l pf (fun x hx => K.astF_keep x (h x hx).2.1 (h x hx).2.2)
    (fun x hx _ hg => (K.node (h x hx).1 (h x hx).2.1 (h x hx).2.2 hg).2) (fun _ e => e) hl

/-- `hB` is what `swapσ_bounds` / `fieldσ_bounds` conclude -/
theorem bounded (hB : σ.next ≤ σ3.next ∧ (∀ y ∈ N, ∀ g, σ3.astF y = some g → g < σ3.next) ∧
      ∀ y ∈ D, y ∉ N → σ3.astF y = none)
    (x : Nat) (hx : x ∈ R ∨ x ∈ N) (g : Nat) (hg : σ3.astF x = some g) : g < σ3.next := by
  by_cases hxn : x ∈ N
  · exact hB.2.1 x hxn g hg
  · by_cases hxo : x ∈ D
    · rw [hB.2.2 x hxo hxn] at hg; cases hg
    · rw [K.astF_keep x hxo hxn] at hg
      exact Nat.lt_of_lt_of_le (K.back x (hx.resolve_right hxn) g hg).2 hB.1

end Keep

variable {o : Ast} {g : Ast → Ast} {F : Ast → Ast} {FL : List Ast → List Ast} (E : EditAt o.id g F FL)
  (hD : ∀ y ∈ D, y ∈ ids o)
  (hg : ∀ pf, linkedB σ pf o = true → (ids o).Nodup → (∀ x ∈ ids o, x ∈ R) → (∀ x ∈ ids o, x ∉ N) →
    linkedB σ3 pf (g o) = true)
include E hD hg

namespace EditAt

mutual
theorem linked : ∀ (T : Ast) (pf : Option Nat), linkedB σ pf T = true → (ids T).Nodup →
    (∀ x ∈ ids T, x ∈ R) → (∀ x ∈ ids T, x ∉ N) → findId o.id T = some o → linkedB σ3 pf (F T) = true
  | .mk j k fl ks, pf, hl, hnd, hR, hdn, hfind => by
    rw [E.node]
    by_cases e : j = o.id
    · simp only [findId, if_pos e] at hfind
      rw [if_pos e, Option.some.inj hfind]
      rw [Option.some.inj hfind] at hl hnd hR hdn
      exact hg pf hl hnd hR hdn
    · simp only [findId, if_neg e] at hfind
      rw [if_neg e]
      have hjD : j ∉ D := fun h =>
        (List.nodup_cons.mp hnd).1 ((findIdList_some ks o.id o hfind).2 j (hD j h))
      obtain ⟨f, hf, ha, hp, hq, hk⟩ := linkedB_iff.mp hl
      obtain ⟨hf3, hr3⟩ := K.node (hR j List.mem_cons_self) hjD (hdn j List.mem_cons_self) hf
      refine linkedB_iff.mpr ⟨f, hf3, ?_⟩
      rw [hr3]
      exact ⟨ha, hp, hq, EditAt.linkedList ks (some f) hk (List.nodup_cons.mp hnd).2
        (fun x hx => hR x (List.mem_cons_of_mem _ hx)) (fun x hx => hdn x (List.mem_cons_of_mem _ hx)) hfind⟩
theorem linkedList : ∀ (l : List Ast) (pf : Option Nat), linkedListB σ pf l = true → (idsList l).Nodup →
    (∀ x ∈ idsList l, x ∈ R) → (∀ x ∈ idsList l, x ∉ N) → findIdList o.id l = some o →
    linkedListB σ3 pf (FL l) = true
  | [], _, _, _, _, _, h => by simp [findIdList] at h
  | k :: rest, pf, hl, hnd, hR, hdn, hfind => by
    simp only [linkedListB, Bool.and_eq_true] at hl
    simp only [idsList] at hnd
    have hnd' := List.nodup_append.mp hnd
    have hRk : ∀ x ∈ ids k, x ∈ R := fun x hx => hR x (List.mem_append_left _ hx)
    have hRr : ∀ x ∈ idsList rest, x ∈ R := fun x hx => hR x (List.mem_append_right _ hx)
    have hNk : ∀ x ∈ ids k, x ∉ N := fun x hx => hdn x (List.mem_append_left _ hx)
    have hNr : ∀ x ∈ idsList rest, x ∉ N := fun x hx => hdn x (List.mem_append_right _ hx)
    rw [E.cons]
    simp only [linkedListB, Bool.and_eq_true]
    -- `o` is in `k` or in `rest`; the other part shares no AST with it and is kept as it is
    cases hk : findId o.id k with
    | some r =>
      simp only [findIdList, hk] at hfind
      rw [Option.some.inj hfind] at hk
      have hsub := (findId_some k o.id o hk).2
      rw [E.notinList rest (fun h => hnd'.2.2 o.id (hsub _ (id_mem_ids o)) o.id h rfl)]
      exact ⟨EditAt.linked k pf hl.1 hnd'.1 hRk hNk hk, K.linkedList rest pf hl.2
        (fun x hx => ⟨hRr x hx, fun h => hnd'.2.2 x (hsub x (hD x h)) x hx rfl, hNr x hx⟩)⟩
    | none =>
      simp only [findIdList, hk] at hfind
      rw [E.notin k (findId_none k _ hk)]
      have hsub := (findIdList_some rest o.id o hfind).2
      exact ⟨K.linked k pf hl.1 (fun x hx => ⟨hRk x hx, fun h => hnd'.2.2 x hx x (hsub x (hD x h)) rfl, hNk x hx⟩),
        EditAt.linkedList rest pf hl.2 hnd'.2.1 hRr hNr hfind⟩
end

end EditAt

end Keep

/-- What `swap_linked` needs to know about the store `σ3` after `_set_ast` replaced `old` (whose FST is `f`) by `new`;
`R` = the ASTs of the whole tree. -/
structure SwapCtx (σ σ3 : Store) (R : List Nat) (old new : Ast) (f : Nat) : Prop where
  back : ∀ x ∈ R, ∀ g, σ.astF x = some g → (σ.fst g).a = some x ∧ g < σ.next
  oldR : ∀ y ∈ ids old, y ∈ R
  oldF : σ.astF old.id = some f
  astF_keep : ∀ x, x ∉ ids old → x ∉ ids new → σ3.astF x = σ.astF x
  fst_keep : ∀ g, g < σ.next ∧ g ≠ f ∧ (∀ y ∈ ids old, σ.astF y ≠ some g) → σ3.fst g = σ.fst g
  newA : σ3.astF new.id = some f
  newFa : (σ3.fst f).a = some new.id
  newFp : (σ3.fst f).parent = (σ.fst f).parent
  newFq : (σ3.fst f).pfield = (σ.fst f).pfield
  newKids : linkedListB σ3 (some f) new.kids = true

namespace SwapCtx

theorem keep {σ σ3 : Store} {R : List Nat} {old new : Ast} {f : Nat} (C : SwapCtx σ σ3 R old new f) :
    Keep σ σ3 R (ids old) (ids new) :=
  ⟨C.back, C.oldR, C.astF_keep, fun g hg h =>
    C.fst_keep g ⟨hg, fun e => h old.id (id_mem_ids old) (e ▸ C.oldF), h⟩⟩

theorem node {σ σ3 : Store} {R : List Nat} {old new : Ast} {f : Nat} (C : SwapCtx σ σ3 R old new f)
    (pf : Option Nat) (hl : linkedB σ pf old = true) : linkedB σ3 pf (new.setFld old.fld) = true := by
  have ho := linkedB_root σ pf old hl f C.oldF
  exact linkedB_setFld σ3 pf new old.fld f C.newA C.newFa (C.newFp.trans ho.2.1) (C.newFq.trans ho.2.2.1) C.newKids

end SwapCtx

theorem swap_linked {σ σ3 : Store} {R : List Nat} {old new : Ast} {f : Nat} (C : SwapCtx σ σ3 R old new f) :
    ∀ (T : Ast) (pf : Option Nat), linkedB σ pf T = true → (ids T).Nodup → (∀ x ∈ ids T, x ∈ R) →
      (∀ x ∈ ids T, x ∉ ids new) → findId old.id T = some old →
      linkedB σ3 pf (replaceId old.id (new.setFld old.fld) T) = true :=
  EditAt.linked C.keep (replaceId_editAt old.id _) (fun _ h => h) (fun pf hl _ _ _ => C.node pf hl)

theorem swap_linkedList {σ σ3 : Store} {R : List Nat} {old new : Ast} {f : Nat} (C : SwapCtx σ σ3 R old new f) :
    ∀ (l : List Ast) (pf : Option Nat), linkedListB σ pf l = true → (idsList l).Nodup → (∀ x ∈ idsList l, x ∈ R) →
      (∀ x ∈ idsList l, x ∉ ids new) → findIdList old.id l = some old →
      linkedListB σ3 pf (replaceIdList old.id (new.setFld old.fld) l) = true :=
  EditAt.linkedList C.keep (replaceId_editAt old.id _) (fun _ h => h) (fun pf hl _ _ _ => C.node pf hl)

theorem replaceId_ids_sub (T : Ast) (i : Nat) (new : Ast) :
    ∀ y ∈ ids (replaceId i new T), y ∈ ids T ∨ y ∈ ids new :=
  (replaceId_editAt i new).ids_sub (fun _ _ hy => Or.inr hy) T

theorem replaceId_nodup : ∀ (T : Ast) (i : Nat) (new : Ast), (ids T).Nodup → (ids new).Nodup →
    (∀ x ∈ ids T, x ∉ ids new) → (ids (replaceId i new T)).Nodup :=
  fun T i new hnd hn hd => (replaceId_editAt i new).nodup (fun _ _ hy => Or.inr hy) (fun _ _ _ => hn) T hnd hd

theorem replaceIdList_nodup : ∀ (l : List Ast) (i : Nat) (new : Ast), (idsList l).Nodup → (ids new).Nodup →
    (∀ x ∈ idsList l, x ∉ ids new) → (idsList (replaceIdList i new l)).Nodup :=
  fun l i new hnd hn hd => (replaceId_editAt i new).nodupList (fun _ _ hy => Or.inr hy) (fun _ _ _ => hn) l hnd hd

/-- the store after `_set_ast` replaced the subtree `old` under the FST `f` by the fresh tree `new` -/
def swapσ (σ : Store) (old : Ast) (f : Nat) (new : Ast) : Store :=
  makeKids (relink (unmake σ old) f new.id) f new.kids

theorem swapσ_frame (σ : Store) (old new : Ast) (f : Nat) (hF : f < σ.next)
    (hnd : (ids new).Nodup) (hfresh : ∀ x ∈ ids new, σ.astF x = none) :
    Frame (idsList new.kids) (relink (unmake σ old) f new.id) (swapσ σ old f new) ∧
      linkedListB (swapσ σ old f new) (some f) new.kids = true := by
  obtain ⟨nid, nk, nf, nks⟩ := new
  simp only [ids, List.nodup_cons] at hnd
  refine makeKids_spec nks _ f (Nat.lt_of_lt_of_eq hF (unmake_next old σ).symm) hnd.2 (fun x hx => ?_)
  show upd (unmake σ old).astF nid (some f) x = none
  rw [upd_other _ _ _ _ (fun e : x = nid => hnd.1 (e ▸ hx)), unmake_astF, hfresh x (List.mem_cons_of_mem _ hx), ite_self]

theorem swapσ_new (σ : Store) (old new : Ast) (f : Nat) (hF : f < σ.next)
    (hnd : (ids new).Nodup) (hfresh : ∀ x ∈ ids new, σ.astF x = none) :
    (swapσ σ old f new).astF new.id = some f ∧ ((swapσ σ old f new).fst f).a = some new.id ∧
    ((swapσ σ old f new).fst f).parent = (σ.fst f).parent ∧ ((swapσ σ old f new).fst f).pfield = (σ.fst f).pfield ∧
    linkedListB (swapσ σ old f new) (some f) new.kids = true := by
  obtain ⟨hfr, hl⟩ := swapσ_frame σ old new f hF hnd hfresh
  have hf : (swapσ σ old f new).fst f = { (unmake σ old).fst f with a := some new.id } :=
    (hfr.fst_old f (Nat.lt_of_lt_of_eq hF (unmake_next old σ).symm)).trans (upd_same _ _ _)
  refine ⟨?_, by rw [hf], ?_, ?_, hl⟩
  · rw [hfr.astF_out _ (id_notin_kids new hnd)]
    exact upd_same _ _ _
  · rw [hf]; exact (unmake_parent_pfield old σ f).1
  · rw [hf]; exact (unmake_parent_pfield old σ f).2

theorem swapσ_ctx (σ : Store) (R : List Nat) (old new : Ast) (f : Nat)
    (back : ∀ x ∈ R, ∀ g, σ.astF x = some g → (σ.fst g).a = some x ∧ g < σ.next)
    (oldR : ∀ y ∈ ids old, y ∈ R) (oldF : σ.astF old.id = some f)
    (hnd : (ids new).Nodup) (hfresh : ∀ x ∈ ids new, σ.astF x = none) :
    SwapCtx σ (swapσ σ old f new) R old new f := by
  have hF := (back old.id (oldR _ (id_mem_ids old)) f oldF).2
  obtain ⟨hfr, _⟩ := swapσ_frame σ old new f hF hnd hfresh
  obtain ⟨hA, ha, hp, hq, hl⟩ := swapσ_new σ old new f hF hnd hfresh
  refine ⟨back, oldR, oldF, ?_, ?_, hA, ha, hp, hq, hl⟩
  · intro x hxo hxn
    rw [hfr.astF_out x (fun h => hxn (idsList_kids_sub new x h))]
    show upd _ new.id _ x = _
    rw [upd_other _ _ _ _ (fun e : x = new.id => hxn (e ▸ id_mem_ids new)), unmake_astF, if_neg hxo]
  · intro g hP
    rw [hfr.fst_old g (Nat.lt_of_lt_of_eq hP.1 (unmake_next old σ).symm)]
    show upd _ f _ g = _
    rw [upd_other _ _ _ _ hP.2.1, unmake_fst, if_neg (fun ⟨y, hy, e⟩ => hP.2.2 y hy e)]

theorem swapσ_bounds (σ : Store) (old new : Ast) (f : Nat) (hF : f < σ.next)
    (hnd : (ids new).Nodup) (hfresh : ∀ x ∈ ids new, σ.astF x = none) :
    σ.next ≤ (swapσ σ old f new).next ∧
    (∀ y ∈ ids new, ∀ g, (swapσ σ old f new).astF y = some g → g < (swapσ σ old f new).next) ∧
    (∀ y ∈ ids old, y ∉ ids new → (swapσ σ old f new).astF y = none) := by
  obtain ⟨hfr, _⟩ := swapσ_frame σ old new f hF hnd hfresh
  have hle : σ.next ≤ (swapσ σ old f new).next := Nat.le_trans (Nat.le_of_eq (unmake_next old σ).symm) hfr.next_le
  refine ⟨hle, ?_, ?_⟩
  · intro y hy g hg
    by_cases hyk : y ∈ idsList new.kids
    · exact hfr.astF_lt y hyk g hg
    · have hyn : y = new.id := by
        obtain ⟨nid, nk, nf, nks⟩ := new
        exact (List.mem_cons.mp hy).resolve_right hyk
      rw [hfr.astF_out y hyk, hyn] at hg
      cases (upd_same _ _ _).symm.trans hg
      exact Nat.lt_of_lt_of_le hF hle
  · intro y hyo hyn
    rw [hfr.astF_out y (fun h => hyn (idsList_kids_sub new y h))]
    show upd _ new.id _ y = none
    rw [upd_other _ _ _ _ (fun e : y = new.id => hyn (e ▸ id_mem_ids new)), unmake_astF, if_pos hyo]

/-- the elements of field `name` among the children of a node (`getattr(ast, field)`) -/
def fieldOf (name : String) (t : Ast) : List Ast :=
  t.kids.filter (fun c => match c.fld with | some g => g.name == name | none => false)

/-- What `field_linked` needs to know about the store `σ3` after `_set_field` replaced the elements `body` of a field of
the node whose FST is `f` by the fresh elements `new`. -/
structure FieldCtx (σ σ3 : Store) (R : List Nat) (body new : List Ast) (f : Nat) : Prop where
  back : ∀ x ∈ R, ∀ g, σ.astF x = some g → (σ.fst g).a = some x ∧ g < σ.next
  bodyR : ∀ y ∈ idsList body, y ∈ R
  astF_keep : ∀ x, x ∉ idsList body → x ∉ idsList new → σ3.astF x = σ.astF x
  fst_keep : ∀ g, g < σ.next ∧ (∀ y ∈ idsList body, σ.astF y ≠ some g) → σ3.fst g = σ.fst g
  newKids : linkedListB σ3 (some f) new = true

theorem setKidsNode_ids_sub (name : String) (new : List Ast) (o : Ast) :
    ∀ y ∈ ids (setKidsNode name new o), y ∈ ids o ∨ y ∈ idsList new := by
  obtain ⟨j, k, f, ks⟩ := o
  intro y hy
  simp only [setKidsNode, ids, List.mem_cons, idsList_append, List.mem_append] at hy ⊢
  rcases hy with h | h | h
  · exact Or.inl (Or.inl h)
  · exact Or.inl (Or.inr (idsList_filter_sub _ ks y h))
  · exact Or.inr h

theorem setKidsNode_nodup (name : String) (new : List Ast) (hn : (idsList new).Nodup) (o : Ast)
    (hnd : (ids o).Nodup) (hd : ∀ x ∈ ids o, x ∉ idsList new) : (ids (setKidsNode name new o)).Nodup := by
  obtain ⟨j, k, f, ks⟩ := o
  simp only [ids, List.nodup_cons] at hnd
  simp only [setKidsNode, ids, List.nodup_cons, idsList_append, List.mem_append, not_or]
  refine ⟨⟨fun h => hnd.1 (idsList_filter_sub _ ks j h), hd j List.mem_cons_self⟩, ?_⟩
  rw [List.nodup_append]
  exact ⟨idsList_filter_nodup _ ks hnd.2, hn,
    fun a ha b hb hab => hd a (List.mem_cons_of_mem _ (idsList_filter_sub _ ks a ha)) (hab ▸ hb)⟩

namespace FieldCtx

theorem keep {σ σ3 : Store} {R : List Nat} {body new : List Ast} {f : Nat} (C : FieldCtx σ σ3 R body new f) :
    Keep σ σ3 R (idsList body) (idsList new) :=
  ⟨C.back, C.bodyR, C.astF_keep, fun g hg h => C.fst_keep g ⟨hg, h⟩⟩

theorem node {σ σ3 : Store} {R : List Nat} {body new : List Ast} {f : Nat}
    (C : FieldCtx σ σ3 R body new f) (name : String) (P : Ast) (hbody : body = fieldOf name P)
    (hPf : σ.astF P.id = some f) (pf : Option Nat) (hl : linkedB σ pf P = true) (hnd : (ids P).Nodup)
    (hR : ∀ x ∈ ids P, x ∈ R) (hdn : ∀ x ∈ ids P, x ∉ idsList new) :
    linkedB σ3 pf (setKidsNode name new P) = true := by
  obtain ⟨j, k, fl, ks⟩ := P
  subst hbody
  simp only [ids, List.nodup_cons] at hnd
  have hjo : j ∉ idsList (fieldOf name (.mk j k fl ks)) := fun h => hnd.1 (idsList_filter_sub _ ks j h)
  obtain ⟨hf3, hr3⟩ := C.keep.node (hR j List.mem_cons_self) hjo (hdn j List.mem_cons_self) hPf
  obtain ⟨ha, hp, hq, hk⟩ := linkedB_root σ pf _ hl f hPf
  refine linkedB_iff.mpr ⟨f, hf3, ?_⟩
  rw [hr3]
  refine ⟨ha, hp, hq, ?_⟩
  show linkedListB σ3 (some f) (ks.filter _ ++ new) = true
  rw [linkedListB_append, Bool.and_eq_true]
  have hosub := idsList_filter_sub (fun c => !(match c.fld with | some g => g.name == name | none => false)) ks
  exact ⟨C.keep.linkedList _ (some f) (linkedListB_filter σ (some f) _ ks hk) (fun x hx =>
    ⟨hR x (List.mem_cons_of_mem _ (hosub x hx)),
     idsList_filter_disjoint (fun c => match c.fld with | some g => g.name == name | none => false) ks hnd.2 x hx,
     hdn x (List.mem_cons_of_mem _ (hosub x hx))⟩), C.newKids⟩

end FieldCtx

theorem field_linked {σ σ3 : Store} {R : List Nat} {body new : List Ast} {f : Nat}
    (C : FieldCtx σ σ3 R body new f) (name : String) (P : Ast) (hbody : body = fieldOf name P)
    (hPf : σ.astF P.id = some f) :
    ∀ (T : Ast) (pf : Option Nat), linkedB σ pf T = true → (ids T).Nodup → (∀ x ∈ ids T, x ∈ R) →
      (∀ x ∈ ids T, x ∉ idsList new) → findId P.id T = some P →
      linkedB σ3 pf (setKids P.id name new T) = true :=
  EditAt.linked C.keep (setKids_editAt P.id name new)
    (fun y hy => idsList_kids_sub P y (idsList_filter_sub _ _ y (hbody ▸ hy))) (C.node name P hbody hPf)

theorem field_linkedList {σ σ3 : Store} {R : List Nat} {body new : List Ast} {f : Nat}
    (C : FieldCtx σ σ3 R body new f) (name : String) (P : Ast) (hbody : body = fieldOf name P)
    (hPf : σ.astF P.id = some f) :
    ∀ (l : List Ast) (pf : Option Nat), linkedListB σ pf l = true → (idsList l).Nodup → (∀ x ∈ idsList l, x ∈ R) →
      (∀ x ∈ idsList l, x ∉ idsList new) → findIdList P.id l = some P →
      linkedListB σ3 pf (setKidsList P.id name new l) = true :=
  EditAt.linkedList C.keep (setKids_editAt P.id name new)
    (fun y hy => idsList_kids_sub P y (idsList_filter_sub _ _ y (hbody ▸ hy))) (C.node name P hbody hPf)

theorem setKids_ids_sub (T : Ast) (i : Nat) (name : String) (new : List Ast) :
    ∀ y ∈ ids (setKids i name new T), y ∈ ids T ∨ y ∈ idsList new :=
  (setKids_editAt i name new).ids_sub (setKidsNode_ids_sub name new) T

theorem setKids_nodup : ∀ (T : Ast) (i : Nat) (name : String) (new : List Ast), (ids T).Nodup → (idsList new).Nodup →
    (∀ x ∈ ids T, x ∉ idsList new) → (ids (setKids i name new T)).Nodup :=
  fun T i name new hnd hn hd =>
    (setKids_editAt i name new).nodup (setKidsNode_ids_sub name new) (setKidsNode_nodup name new hn) T hnd hd

theorem setKidsList_nodup : ∀ (l : List Ast) (i : Nat) (name : String) (new : List Ast), (idsList l).Nodup →
    (idsList new).Nodup → (∀ x ∈ idsList l, x ∉ idsList new) → (idsList (setKidsList i name new l)).Nodup :=
  fun l i name new hnd hn hd =>
    (setKids_editAt i name new).nodupList (setKidsNode_ids_sub name new) (setKidsNode_nodup name new hn) l hnd hd

/-- the store after `_set_field` (default flags) replaced the elements `body` below the FST `f` by the fresh `new` -/
def fieldσ (σ : Store) (body : List Ast) (f : Nat) (new : List Ast) : Store :=
  makeKids (unmakeList σ body) f new

theorem newElems_eq_makeKids (f : Nat) : ∀ (l : List Ast) (σ : Store), newElems σ f false l = makeKids σ f l
  | [], σ => by simp [newElems, makeKids]
  | k :: rest, σ => by
    obtain ⟨a, kind, fld, kids⟩ := k
    simp only [newElems, makeKids, makeChild, Ast.id, Ast.fld, Ast.kids, Bool.false_eq_true, if_false,
      newElems_eq_makeKids f rest]

theorem fieldσ_frame (σ : Store) (body new : List Ast) (f : Nat) (hF : f < σ.next)
    (hnd : (idsList new).Nodup) (hfresh : ∀ x ∈ idsList new, σ.astF x = none) :
    Frame (idsList new) (unmakeList σ body) (fieldσ σ body f new) ∧
      linkedListB (fieldσ σ body f new) (some f) new = true :=
  makeKids_spec new _ f (Nat.lt_of_lt_of_eq hF (unmakeList_next body σ).symm) hnd
    (fun x hx => by rw [unmakeList_astF, hfresh x hx, ite_self])

theorem fieldσ_ctx (σ : Store) (R : List Nat) (body new : List Ast) (f : Nat) (hF : f < σ.next)
    (back : ∀ x ∈ R, ∀ g, σ.astF x = some g → (σ.fst g).a = some x ∧ g < σ.next)
    (bodyR : ∀ y ∈ idsList body, y ∈ R)
    (hnd : (idsList new).Nodup) (hfresh : ∀ x ∈ idsList new, σ.astF x = none) :
    FieldCtx σ (fieldσ σ body f new) R body new f := by
  obtain ⟨hfr, hl⟩ := fieldσ_frame σ body new f hF hnd hfresh
  refine ⟨back, bodyR, ?_, ?_, hl⟩
  · intro x hxo hxn
    rw [hfr.astF_out x hxn, unmakeList_astF, if_neg hxo]
  · intro g hP
    rw [hfr.fst_old g (Nat.lt_of_lt_of_eq hP.1 (unmakeList_next body σ).symm), unmakeList_fst,
      if_neg (fun ⟨y, hy, e⟩ => hP.2 y hy e)]

theorem fieldσ_bounds (σ : Store) (body new : List Ast) (f : Nat) (hF : f < σ.next)
    (hnd : (idsList new).Nodup) (hfresh : ∀ x ∈ idsList new, σ.astF x = none) :
    σ.next ≤ (fieldσ σ body f new).next ∧
    (∀ y ∈ idsList new, ∀ g, (fieldσ σ body f new).astF y = some g → g < (fieldσ σ body f new).next) ∧
    (∀ y ∈ idsList body, y ∉ idsList new → (fieldσ σ body f new).astF y = none) := by
  obtain ⟨hfr, _⟩ := fieldσ_frame σ body new f hF hnd hfresh
  refine ⟨Nat.le_trans (Nat.le_of_eq (unmakeList_next body σ).symm) hfr.next_le, hfr.astF_lt, ?_⟩
  intro y hyo hyn
  rw [hfr.astF_out y hyn, unmakeList_astF, if_pos hyo]

end Pfst.Links
