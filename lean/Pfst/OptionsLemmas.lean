import Pfst.Options
/-! Helper lemmas for C20: association lists (Python dicts), `update`, `snapshot`, what `set_options` leaves alone, the
specification `dirty` of the options a program may leave changed, the small-step machine. -/
namespace Pfst.Options

@[simp] theorem keys_nil {β : Type} : keys ([] : List (Nat × β)) = [] := rfl
@[simp] theorem keys_cons {β : Type} (k : Nat) (b : β) (l : List (Nat × β)) : keys ((k, b) :: l) = k :: keys l := rfl

theorem alook_aput_same {β : Type} (k : Nat) (b : β) (l : List (Nat × β)) : alook k (aput k b l) = some b := by
  fun_induction aput k b l <;> simp_all [alook]

theorem alook_aput_ne {β : Type} {k k' : Nat} (b : β) (l : List (Nat × β)) (h : k' ≠ k) :
    alook k' (aput k b l) = alook k' l := by
  fun_induction aput k b l <;> simp_all [alook, Ne.symm h]

theorem aget_aput_same {β : Type} (d : β) (k : Nat) (b : β) (l : List (Nat × β)) : aget d k (aput k b l) = b := by
  simp [aget, alook_aput_same]

theorem aget_aput_ne {β : Type} (d : β) {k k' : Nat} (b : β) (l : List (Nat × β)) (h : k' ≠ k) :
    aget d k' (aput k b l) = aget d k' l := by
  simp [aget, alook_aput_ne b l h]

theorem alook_none_iff {β : Type} (k : Nat) (l : List (Nat × β)) : alook k l = none ↔ k ∉ keys l := by
  fun_induction alook k l <;> simp_all [eq_comm]

theorem alook_isSome_iff {β : Type} (k : Nat) (l : List (Nat × β)) : (alook k l).isSome ↔ k ∈ keys l := by
  rw [← Decidable.not_iff_not, ← alook_none_iff]; simp

theorem keys_aput_of_mem {β : Type} (k : Nat) (b : β) (l : List (Nat × β)) (h : k ∈ keys l) :
    keys (aput k b l) = keys l := by
  fun_induction aput k b l <;> simp_all [Ne.symm]

theorem ext_of_keys_alook {β : Type} : ∀ (m' m : List (Nat × β)), keys m' = keys m → (keys m).Nodup →
    (∀ k, alook k m' = alook k m) → m' = m
  | [], [], _, _, _ => rfl
  | [], _ :: _, hk, _, _ => by simp [keys] at hk
  | _ :: _, [], hk, _, _ => by simp [keys] at hk
  | (k1, v1) :: r1, (k2, v2) :: r2, hk, hn, hl => by
    simp only [keys_cons, List.cons.injEq, List.nodup_cons] at hk hn
    obtain ⟨rfl, hkr⟩ := hk
    have hv : v1 = v2 := by simpa [alook] using hl k1
    rw [hv, ext_of_keys_alook r1 r2 hkr hn.2 fun k => ?_]
    by_cases h : k1 = k
    · -- the head key occurs in neither tail
      rw [← h, (alook_none_iff k1 r1).2 (hkr ▸ hn.1), (alook_none_iff k1 r2).2 hn.1]
    · simpa [alook, h] using hl k

theorem alook_update_notin (k : Nat) (kvs : Kvs) (m : OptMap) (h : k ∉ keys kvs) :
    alook k (update m kvs) = alook k m := by
  fun_induction update m kvs <;> simp_all [alook_aput_ne]

theorem keys_update (kvs : Kvs) (m : OptMap) (h : ∀ k ∈ keys kvs, k ∈ keys m) : keys (update m kvs) = keys m := by
  fun_induction update m kvs <;> simp_all [keys_aput_of_mem]

theorem alook_update_mem (f : Nat → Option Val) (k : Nat) (kvs : Kvs) (m : OptMap)
    (hf : ∀ kv ∈ kvs, f kv.1 = some kv.2) (hk : k ∈ keys kvs) : alook k (update m kvs) = f k := by
  fun_induction update m kvs with
  | case1 => simp at hk
  | case2 m k0 v0 r ih =>
    by_cases hr : k ∈ keys r
    · exact ih (fun kv hkv => hf kv (List.mem_cons_of_mem _ hkv)) hr
    · obtain rfl : k = k0 := by simpa [hr] using hk
      rw [alook_update_notin k r _ hr, alook_aput_same, hf (k, v0) (by simp)]

theorem snapshot_ok (kvs : Kvs) (m old : OptMap) (h : snapshot m kvs = .ok old) :
    keys old = keys kvs ∧ (∀ kv ∈ old, alook kv.1 m = some kv.2) := by
  fun_induction snapshot m kvs generalizing old with
  | case1 => cases h; exact ⟨rfl, nofun⟩
  | case2 | case3 => cases h
  | case4 k _ r v hl o hs ih =>
    cases h
    exact ⟨congrArg (k :: ·) (ih o hs).1, List.forall_mem_cons.2 ⟨hl, (ih o hs).2⟩⟩

theorem snapshot_error_of_missing (k : Nat) (kvs : Kvs) (m : OptMap) (hk : k ∈ keys kvs) (hm : alook k m = none) :
    ∃ b, snapshot m kvs = .error b := by
  fun_induction snapshot m kvs <;> simp_all

theorem setOptionsD_ok {c : Cfg} {m m' old : OptMap} {kvs : Kvs} (h : setOptionsD c m kvs = .ok (m', old)) :
    m' = update m kvs ∧ keys old = keys kvs ∧ (∀ kv ∈ old, alook kv.1 m = some kv.2) ∧ (∀ k ∈ keys kvs, k ∈ keys m) := by
  unfold setOptionsD at h
  split at h
  · cases h
  · split at h <;> cases h
    next hs =>
    refine ⟨rfl, (snapshot_ok kvs m old hs).1, (snapshot_ok kvs m old hs).2, fun k hk => Decidable.by_contra fun hn => ?_⟩
    -- a key missing from the dict is the `KeyError` branch of the snapshot
    obtain ⟨b, hb⟩ := snapshot_error_of_missing k kvs m hk ((alook_none_iff k m).2 hn)
    rw [hb] at hs; cases hs

theorem setOptionsD_frame {c : Cfg} {m m' old : OptMap} {kvs : Kvs} (h : setOptionsD c m kvs = .ok (m', old)) :
    keys m' = keys m ∧ ∀ k, k ∉ keys kvs → alook k m' = alook k m := by
  obtain ⟨rfl, _, _, hin⟩ := setOptionsD_ok h
  exact ⟨keys_update kvs m hin, fun k hk => alook_update_notin k kvs m hk⟩

/-- option names a program may leave changed in the running thread's dict: keys of `set_options` statements that are
    not inside a `with options()` block naming the same key -/
def dirty : Prog → List Name
  | .skip => []
  | .seq p q => dirty p ++ dirty q
  | .get _ _ => []
  | .call _ => []
  | .set kvs => keys kvs
  | .block kvs body => (dirty body).filter (fun k => !(keys kvs).contains k)
  | .raise => []
  | .catch body => dirty body

theorem iterL_add (c : Cfg) : ∀ (a b : Nat) (x : OptMap × TS), iterL c (a + b) x = iterL c b (iterL c a x)
  | 0, b, x => by simp [iterL]
  | a + 1, b, x => by
    rw [Nat.add_right_comm]
    exact iterL_add c a b _

def outCtl (e : Bool) : Ctl := if e then .exc else .ret

@[simp] theorem outCtl_true : outCtl true = .exc := rfl
@[simp] theorem outCtl_false : outCtl false = .ret := rfl

theorem stepL_halted_ret (c : Cfg) (m : OptMap) (tr : List Obs) : stepL c m ⟨.ret, [], tr⟩ = (m, ⟨.ret, [], tr⟩) := rfl
theorem stepL_halted_exc (c : Cfg) (m : OptMap) (tr : List Obs) : stepL c m ⟨.exc, [], tr⟩ = (m, ⟨.exc, [], tr⟩) := rfl

theorem iterL_halted (c : Cfg) (m : OptMap) (e : Bool) (tr : List Obs) :
    ∀ n, iterL c n (m, ⟨outCtl e, [], tr⟩) = (m, ⟨outCtl e, [], tr⟩)
  | 0 => rfl
  | n + 1 => by cases e <;> exact iterL_halted c m _ tr n

/-- `y` is reached from `x` by some number of machine steps -/
def Reaches (c : Cfg) (x y : OptMap × TS) : Prop := ∃ n, iterL c n x = y

theorem Reaches.step {c : Cfg} {x y : OptMap × TS} (h : Reaches c (stepL c x.1 x.2) y) : Reaches c x y :=
  let ⟨n, hn⟩ := h; ⟨n + 1, hn⟩

theorem Reaches.trans {c : Cfg} {x y z : OptMap × TS} (h1 : Reaches c x y) (h2 : Reaches c y z) : Reaches c x z :=
  let ⟨a, ha⟩ := h1; let ⟨b, hb⟩ := h2; ⟨a + b, by rw [iterL_add, ha, hb]⟩

end Pfst.Options
