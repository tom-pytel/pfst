import Pfst.SepLemmas

/-!
# C01b — the separator / delimiter primitives under every sequence edit

`FST._trail_sep`, `FST._maybe_ins_sep`, `FST._maybe_add_singleton_comma` / `FST._fix_Tuple` (src/fst/fst_misc.py) are
modelled in `Pfst/Sep.lean` as pure functions of (lines, positions, flags) on top of the scanning layer
(`Pfst/Scan.lean`, C06) and the text layer (`Pfst/Text.lean`, C04).  The theorems say what these functions find and
what they change, for every source text and every position (the hypotheses only ask that the positions lie inside the
text and that the bound starts before it ends).  The models are tied to the real functions on every run by
`harness/c01b.py`.

Vocabulary: `lineWin lines ln col endLn endCol i` (`Pfst/ScanLemmas.lean`) is the part of line `i` that lies inside the
bound `(ln, col) .. (endLn, endCol)`; in `Pfst/SepLemmas.lean`, `Target … sep pl pc` says that the separator follows
the span at `(pl, pc)` (`target_iff` below spells it out) and `SkipTo … l c` that from the start up to `(l, c)` there
are only blanks, closing parentheses, comments and continuation lines.
-/
namespace Pfst.C01b
open Pfst.Scan Pfst.Sep

/-- **What "the separator follows the span at `(pl, pc)`" means**, without reference to the scanning loop: every line
window before line `pl` is blanks and closing parentheses followed by its end, a comment (`#…`) or a backslash; the
window of line `pl` is `body ++ run ++ rest` with `body` made of blanks and closing parentheses, `run` a non-empty
maximal run of code characters (not blank, `#` or backslash) that does not start with `)`, `pc` the column where `run`
starts and `sep` a prefix of `run`. -/
theorem target_iff (lines : List Line) (ln col endLn endCol : Nat) (sep : Line) (pl pc : Nat) :
    Target lines ln col endLn endCol sep pl pc ↔
      ln ≤ pl ∧ pl ≤ endLn ∧
      (∀ i, ln ≤ i → i < pl → ∃ body rest, lineWin lines ln col endLn endCol i = body ++ rest ∧
        (∀ c ∈ body, isSpace c = true ∨ c = ')') ∧ (rest = [] ∨ rest.head? = some '#' ∨ rest.head? = some '\\')) ∧
      ∃ body run rest, lineWin lines ln col endLn endCol pl = body ++ run ++ rest ∧
        (∀ c ∈ body, isSpace c = true ∨ c = ')') ∧ run ≠ [] ∧ run.all isCode = true ∧ run.head? ≠ some ')' ∧
        (∀ x, rest.head? = some x → isCode x = false) ∧
        pc = min (if pl = ln then col else 0) (lineAt lines pl).length + body.length ∧ sep <+: run := by
  constructor
  · intro t
    refine ⟨t.lo, t.hi, fun i h1 h2 => ?_, ?_⟩
    · refine ⟨(lineWin lines ln col endLn endCol i).takeWhile isSkip, afterSkip (lineWin lines ln col endLn endCol i),
        (List.takeWhile_append_dropWhile).symm, fun c hc => isSkip_iff.mp (mem_takeWhile_true hc), ?_⟩
      cases ha : afterSkip (lineWin lines ln col endLn endCol i) with
      | nil => exact Or.inl rfl
      | cons c r =>
        rcases t.before i h1 h2 c (by rw [ha]; rfl) with rfl | rfl
        · exact Or.inr (Or.inl rfl)
        · exact Or.inr (Or.inr rfl)
    · refine ⟨(lineWin lines ln col endLn endCol pl).takeWhile isSkip, codeRun (lineWin lines ln col endLn endCol pl),
        (afterSkip (lineWin lines ln col endLn endCol pl)).dropWhile isCode, ?_,
        fun c hc => isSkip_iff.mp (mem_takeWhile_true hc), t.run,
        List.all_eq_true.mpr fun c hc => mem_takeWhile_true hc, fun hh => ?_, fun x hx => head?_dropWhile_false hx,
        t.pos, t.pre⟩
      · rw [codeRun, afterSkip, List.append_assoc, List.takeWhile_append_dropWhile, List.takeWhile_append_dropWhile]
      · -- what follows the blanks and closing parentheses is not a closing parenthesis
        rw [codeRun, List.head?_takeWhile] at hh
        have := head?_dropWhile_false (Option.filter_eq_some_iff.mp hh).1
        simp [isSkip] at this
  · rintro ⟨h1, h2, h3, body, run, rest, hw, hb, hne, hcode, hhd, hrest, hpc, hpre⟩
    obtain ⟨_, f2, f3⟩ := codeRun_of_decomp hw (fun c hc => isSkip_iff.mpr (hb c hc)) hne hcode hhd hrest
    refine ⟨h1, h2, ?_, by rw [f3]; exact hne, by rw [f2, hpc]; rfl, by rw [f3]; exact hpre⟩
    intro i hi1 hi2
    obtain ⟨body', rest', hw', hb', hr'⟩ := h3 i hi1 hi2
    rw [hw']
    exact skippable_of_decomp (fun c hc => isSkip_iff.mpr (hb' c hc)) hr'

/-! ## `_trail_sep` -/

/-- `_trail_sep` (query, delete or delete-if-unaesthetic alike) answers `(pl, pc)` exactly when
the separator follows the span there: the first thing after the span that is not a blank, a closing parenthesis, a
comment or the rest of a line after a backslash — inside the bound — is a code fragment that starts with `sep`, at
`(pl, pc)`.  It answers `None` in every other case (in particular when there are several candidates the first decides:
a target is unique, `Target.unique`).  Any lines, any bound with `ln ≤ endLn`, any `sep`, any `del_`. -/
theorem trailSep_spec (lines : List Line) (ln col endLn endCol : Nat) (sep : Line) (del : Del)
    (hle : ln ≤ endLn) (hcol : col ≤ (lineAt lines ln).length) (pl pc : Nat) :
    (trailSep lines ln col endLn endCol sep del).pos = some (pl, pc) ↔ Target lines ln col endLn endCol sep pl pc := by
  rw [(sepScan_spec lines endCol hle hcol).target sep pl pc]
  unfold trailSep
  generalize sepScan lines endLn endCol (sepFuel lines ln endLn) ln col = r
  obtain ⟨rl, rc, frag⟩ := r
  cases frag with
  | none => simp
  | some q =>
    obtain ⟨cln, ccol, src⟩ := q
    rw [trailSepTail_pos]
    by_cases hp : sep <+: src <;> simp [hp, and_assoc]

/-- `_trail_sep` answers `None` exactly when no separator follows. -/
theorem trailSep_none (lines : List Line) (ln col endLn endCol : Nat) (sep : Line) (del : Del)
    (hle : ln ≤ endLn) (hcol : col ≤ (lineAt lines ln).length) :
    (trailSep lines ln col endLn endCol sep del).pos = none ↔ ∀ pl pc, ¬ Target lines ln col endLn endCol sep pl pc := by
  constructor
  · intro h pl pc t
    rw [(trailSep_spec lines ln col endLn endCol sep del hle hcol pl pc).mpr t] at h
    simp at h
  · intro h
    cases hp : (trailSep lines ln col endLn endCol sep del).pos with
    | none => rfl
    | some p => exact absurd ((trailSep_spec lines ln col endLn endCol sep del hle hcol p.1 p.2).mp hp) (h p.1 p.2)

/-- The query variant never changes the source.  A deleting variant changes nothing when no
separator follows (or when `del_=None` finds it followed by a comment / continuation); otherwise it removes, on the
line of the separator only, the characters `[a, pc + |sep|)` where `pc` is the returned column, `a ≤ pc` and
`[a, pc)` is whitespace: the flat source is the old one with exactly that piece cut out — every other character of the
document is untouched and in place. -/
theorem trailSep_del_local (lines : List Line) (ln col endLn endCol : Nat) (sep : Line) (del : Del)
    (hle : ln ≤ endLn) (hcol : col ≤ (lineAt lines ln).length) :
    (del = .no → (trailSep lines ln col endLn endCol sep del).lines = lines) ∧
    ((trailSep lines ln col endLn endCol sep del).pos = none → (trailSep lines ln col endLn endCol sep del).lines = lines) ∧
    ((trailSep lines ln col endLn endCol sep del).lines = lines ∨
      ∃ l a pc, (trailSep lines ln col endLn endCol sep del).pos = some (l, pc) ∧ a ≤ pc ∧
        (∀ j, a ≤ j → j < pc → ∃ ch, (lineAt lines l)[j]? = some ch ∧ isSpace ch = true) ∧
        Pfst.Text.flat (trailSep lines ln col endLn endCol sep del).lines
          = (Pfst.Text.flat lines).take (Pfst.Text.off lines l a)
            ++ (Pfst.Text.flat lines).drop (Pfst.Text.off lines l (pc + sep.length))) := by
  rcases trailSep_cases lines ln col endLn endCol sep del hle hcol with h | ⟨rl, rc, l, pc, src, hrc, hfa, hp, h⟩
  · rw [h]; exact ⟨fun _ => rfl, fun _ => rfl, Or.inl rfl⟩
  · by_cases hdd : doDelete lines endLn endCol del l (pc + sep.length) = true
    · rw [h, if_pos hdd]
      obtain ⟨_, b2, b3, _⟩ := hfa.bounds
      obtain ⟨d1, d2⟩ := delFrom_spec hfa hrc
      have hsl := hp.length_le
      refine ⟨fun hd => ?_, nofun, Or.inr ⟨l, delFrom lines rl rc l pc, pc, rfl, d1, d2, ?_⟩⟩
      · subst hd; cases hdd
      · -- the delete is one `_put_src(None, …)` inside line `l`
        have hv : Pfst.Text.ValidSpan lines l (delFrom lines rl rc l pc) l (pc + sep.length) :=
          ⟨Nat.le_refl _, b3, by show _ ≤ (lineAt lines l).length; omega, by show _ ≤ (lineAt lines l).length; omega,
            Or.inr ⟨rfl, by omega⟩⟩
        show Pfst.Text.flat (Pfst.Text.putSrc lines [] l _ l _) = _
        rw [Pfst.Text.putSrc_nil lines _ _ _ _ hv, Pfst.Text.putSrc_flat lines [[]] _ _ _ _ hv (by simp)]
        simp [Pfst.Text.flat, Pfst.Text.flatTail]
    · rw [h, if_neg hdd]; exact ⟨fun _ => rfl, fun _ => rfl, Or.inl rfl⟩

/-! ## `_maybe_ins_sep` -/

/-- After `_maybe_ins_sep` the query `_trail_sep` (same start, the end of the bound moved by
what was put, as the offset tree reports it) finds the separator: where it already was when nothing or only a blank
was put (`c = pc + |sep|`: the blank went right behind it), and exactly where it was inserted otherwise — at the point
`(l, c)` the scan reached over blanks, closing parentheses, comments and continuations (`SkipTo`), one column further
when a blank was put in front of a non-comma separator.  And the function is idempotent: applied again to its own
result it puts nothing and changes nothing. -/
theorem maybeInsSep_post (lines : List Line) (ln col : Nat) (space : Bool) (endLn endCol : Nat) (sep : Line)
    (hse : StartLeEnd ln col endLn endCol) (hend : endLn < lines.length) (hcol : col ≤ (lineAt lines ln).length)
    (sne : sep ≠ []) (scode : sep.all isCode = true) (shd : sep.head? ≠ some ')') :
    ∃ pl pc,
      (trailSep (maybeInsSep lines ln col space endLn endCol sep).lines ln col endLn
        (endAfter (maybeInsSep lines ln col space endLn endCol sep).put endLn endCol) sep .no).pos = some (pl, pc) ∧
      ((maybeInsSep lines ln col space endLn endCol sep).put = none →
        (trailSep lines ln col endLn endCol sep .no).pos = some (pl, pc)) ∧
      (∀ l c s, (maybeInsSep lines ln col space endLn endCol sep).put = some (l, c, s) →
        pl = l ∧
        ((s = [' '] ∧ c = pc + sep.length ∧ (trailSep lines ln col endLn endCol sep .no).pos = some (pl, pc)) ∨
         ((trailSep lines ln col endLn endCol sep .no).pos = none ∧
            pc = c + (if sep != [','] then 1 else 0) ∧ SkipTo lines ln col endLn endCol l c))) ∧
      maybeInsSep (maybeInsSep lines ln col space endLn endCol sep).lines ln col space endLn
          (endAfter (maybeInsSep lines ln col space endLn endCol sep).put endLn endCol) sep
        = ⟨none, (maybeInsSep lines ln col space endLn endCol sep).lines⟩ := by
  have hle := startLeEnd_le hse
  have spec := trailSep_spec lines ln col endLn endCol sep .no hle hcol
  -- where the separator follows and no blank is wanted behind it, the query finds it and nothing more is put
  have fin : ∀ {L : List Line} {ec pl pc : Nat}, col ≤ (lineAt L ln).length → Target L ln col endLn ec sep pl pc →
      wantSpace L space endLn ec pl (pc + sep.length) = false →
      (trailSep L ln col endLn ec sep .no).pos = some (pl, pc) ∧ maybeInsSep L ln col space endLn ec sep = ⟨none, L⟩ :=
    fun k t hw => ⟨(trailSep_spec _ ln col endLn _ sep .no hle k _ _).mpr t, maybeInsSep_settled hle k t hw⟩
  rcases maybeInsSep_cases lines ln col space endLn endCol sep hle hcol with
    ⟨pl, pc, t, hw, h⟩ | ⟨pl, pc, t, hw, hl, hc2, hce, h⟩ | ⟨hno, l, c, sk, h⟩
  · rw [h]
    obtain ⟨f1, f2⟩ := fin hcol t hw
    exact ⟨pl, pc, f1, fun _ => f1, nofun, f2⟩
  · rw [h]
    obtain ⟨f1, f2⟩ := fin (le_lineAt_insLines hl _ _ hcol) (target_space_after t sne scode shd hl hcol hse)
      (by simpa [endAfter] using wantSpace_after_new (post := true) [] hl hc2 hce hw)
    refine ⟨pl, pc, f1, nofun, ?_, f2⟩
    rintro _ _ _ ⟨⟩
    exact ⟨rfl, Or.inl ⟨rfl, rfl, (spec pl pc).mpr t⟩⟩
  · rw [h]
    have hl : l < lines.length := Nat.lt_of_le_of_lt sk.hi hend
    have hpre := isSkip_of_all_space (sp := if sep != [','] then [' '] else []) (by split <;> rfl)
    generalize hpost : wantSpace lines space endLn endCol l c = post
    have ht := target_after_insert sk hl hcol hse (post := if post then [' '] else []) hpre sne scode shd
    have hw := wantSpace_after_new ((if sep != [','] then [' '] else []) ++ sep) hl sk.col_le (sk.col_le_end hse) hpost
    rw [List.length_append, ← Nat.add_assoc] at hw
    obtain ⟨f1, f2⟩ := fin (le_lineAt_insLines hl _ _ hcol) ht hw
    refine ⟨l, _, f1, nofun, ?_, f2⟩
    rintro _ _ _ ⟨⟩
    exact ⟨rfl, Or.inr ⟨(trailSep_none lines ln col endLn endCol sep .no hle hcol).mpr hno, by split <;> rfl, sk⟩⟩

/-- `_maybe_ins_sep` either changes nothing, or inserts at ONE position `(l, c)` one of: a
single blank; the separator; the separator followed by a blank — each with a blank in front when the separator is not a
comma.  The flat source is the old one with that text spliced in at the offset of `(l, c)`: nothing else moves. -/
theorem maybeInsSep_local (lines : List Line) (ln col : Nat) (space : Bool) (endLn endCol : Nat) (sep : Line)
    (hle : ln ≤ endLn) (hend : endLn < lines.length) (hcol : col ≤ (lineAt lines ln).length) :
    ((maybeInsSep lines ln col space endLn endCol sep).put = none ∧
      (maybeInsSep lines ln col space endLn endCol sep).lines = lines) ∨
    ∃ l c s, (maybeInsSep lines ln col space endLn endCol sep).put = some (l, c, s) ∧
      (s = [' '] ∨ s = newSepText sep false ∨ s = newSepText sep true) ∧
      (maybeInsSep lines ln col space endLn endCol sep).lines = Pfst.Text.putSrc lines [s] l c l c ∧
      Pfst.Text.flat (maybeInsSep lines ln col space endLn endCol sep).lines
        = (Pfst.Text.flat lines).take (Pfst.Text.off lines l c) ++ s ++ (Pfst.Text.flat lines).drop (Pfst.Text.off lines l c) := by
  rcases maybeInsSep_cases lines ln col space endLn endCol sep hle hcol with
    ⟨pl, pc, _, _, h⟩ | ⟨pl, pc, _, _, hl, hc2, _, h⟩ | ⟨_, l, c, sk, h⟩
  · rw [h]; exact Or.inl ⟨rfl, rfl⟩
  · rw [h]
    exact Or.inr ⟨pl, pc + sep.length, [' '], rfl, Or.inl rfl, by rw [putSrc_ins], insLines_flat _ _ _ _ hl hc2⟩
  · rw [h]
    have hl : l < lines.length := by have := sk.hi; omega
    have hc : c ≤ (lineAt lines l).length := sk.col_le
    refine Or.inr ⟨l, c, _, rfl, ?_, by rw [putSrc_ins], insLines_flat _ _ _ _ hl hc⟩
    cases wantSpace lines space endLn endCol l c
    · exact Or.inr (Or.inl rfl)
    · exact Or.inr (Or.inr rfl)

/-! ## `_maybe_add_singleton_comma` / `_fix_Tuple` -/

/-- The comma step, `_maybe_add_singleton_comma`; for a delimited tuple (`isDelim`) the bound stops one column before
the end of the tuple, in front of the closing delimiter.  A tuple whose number of elements is not 1 is left alone.  A 1-tuple that has its
comma (`_trail_sep` finds one between the element and the end of the tuple) is left alone.  A 1-tuple without comma gets
exactly `,` inserted at the point `(l, c)` reached from the end of the element over blanks, closing (grouping)
parentheses, comments and continuations — inside the delimiters — and afterwards `_trail_sep` finds the comma there. -/
theorem fixTuple_singleton (lines : List Line) (nElts : Nat) (f0End selfEnd : Nat × Nat) (isDelim : Bool)
    (hse : StartLeEnd f0End.1 f0End.2 selfEnd.1 (selfEnd.2 - (if isDelim then 1 else 0)))
    (hend : selfEnd.1 < lines.length) (hcol : f0End.2 ≤ (lineAt lines f0End.1).length) :
    (nElts ≠ 1 → maybeAddSingletonComma lines nElts f0End selfEnd isDelim = ⟨none, lines⟩) ∧
    (nElts = 1 →
      ((trailSep lines f0End.1 f0End.2 selfEnd.1 (selfEnd.2 - (if isDelim then 1 else 0)) [','] .no).pos ≠ none →
        maybeAddSingletonComma lines nElts f0End selfEnd isDelim = ⟨none, lines⟩) ∧
      ((trailSep lines f0End.1 f0End.2 selfEnd.1 (selfEnd.2 - (if isDelim then 1 else 0)) [','] .no).pos = none →
        ∃ l c, SkipTo lines f0End.1 f0End.2 selfEnd.1 (selfEnd.2 - (if isDelim then 1 else 0)) l c ∧
          maybeAddSingletonComma lines nElts f0End selfEnd isDelim
            = ⟨some (l, c, [',']), Pfst.Text.putSrc lines [[',']] l c l c⟩ ∧
          (trailSep (Pfst.Text.putSrc lines [[',']] l c l c) f0End.1 f0End.2 selfEnd.1
            (insEnd l [','] selfEnd.1 (selfEnd.2 - (if isDelim then 1 else 0))) [','] .no).pos = some (l, c))) := by
  have hle := startLeEnd_le hse
  refine ⟨fun hn => if_neg (by simpa using hn), ?_⟩
  rintro rfl
  have hun : maybeAddSingletonComma lines 1 f0End selfEnd isDelim
      = maybeInsSep lines f0End.1 f0End.2 false selfEnd.1 (selfEnd.2 - (if isDelim then 1 else 0)) [','] := rfl
  rw [hun]
  rcases maybeInsSep_cases lines f0End.1 f0End.2 false selfEnd.1 (selfEnd.2 - (if isDelim then 1 else 0)) [',']
    hle hcol with ⟨pl, pc, t, _, h⟩ | ⟨pl, pc, _, hw, _⟩ | ⟨hno, l, c, sk, h⟩
  · refine ⟨fun _ => h, fun hp => ?_⟩
    rw [(trailSep_spec lines _ _ _ _ [','] .no hle hcol pl pc).mpr t] at hp
    cases hp
  · -- with `space = False` no blank is ever wanted
    exact (Bool.false_ne_true hw).elim
  · refine ⟨fun hp => absurd ((trailSep_none lines _ _ _ _ [','] .no hle hcol).mpr hno) hp, fun _ => ?_⟩
    have hl : l < lines.length := Nat.lt_of_le_of_lt sk.hi hend
    have ht := target_after_insert sk hl hcol hse (sep := [',']) (pre := []) (post := []) nofun (by simp) (by decide)
      (by decide)
    refine ⟨l, c, sk, by rw [h, putSrc_ins]; rfl, ?_⟩
    rw [putSrc_ins]
    exact (trailSep_spec (insLines lines l c [',']) _ _ _ _ [','] .no hle (le_lineAt_insLines hl c [','] hcol) l c).mpr ht

/-- For a tuple that is delimited (parenthesised) `_fix_Tuple` is exactly the comma step: it reports "delimited" and its
lines are those of `_maybe_add_singleton_comma` with the bound stopping before the closing parenthesis (so by
`fixTuple_singleton`: `n ≠ 1` unchanged, comma present unchanged, `(a)` ↦ `(a,)`).  An empty tuple is not touched. -/
theorem fixTuple_delimited (lines : List Line) (a : TupIn) (hd : a.isDelim = some true) :
    fixTuple lines a = ⟨true, if a.nElts = 0 then lines else
      (maybeAddSingletonComma lines a.nElts (a.f0.endLn, a.f0.endCol) (a.self.endLn, a.self.endCol) true).lines⟩ := by
  unfold fixTuple
  simp only [hd, ↓reduceIte]
  by_cases h0 : a.nElts = 0
  · simp [h0]
  · have : (a.nElts != 0) = true := by simp [h0]
    simp [this, h0]

/-- A naked (unparenthesised) tuple with two or more elements that is not the root, spans
several lines and is not enclosed by its parents (or holds an unparenthesised walrus) gets parentheses when
`par_if_needed`: `_fix_Tuple` answers "delimited" and the flat source gains exactly `(` at the start of the tuple and `)`
at its end — the text before, between and after is untouched.  (Full statement wanted: also the root / `whole` variant,
where a trailing continuation is removed and a trailing comment pushes the `)` to a new line, and the not-needed branch
that trims the span to its elements; both are modelled — `delimitNode`, `fixUndelimTrim` — and tied by the
correspondence, not proved.) -/
theorem fixTuple_delimits_partial (lines : List Line) (a : TupIn) (hd : a.isDelim = some false) (hn : 2 ≤ a.nElts)
    (hpar : a.parIfNeeded = true) (hroot : a.isRoot = false)
    (hneed : (a.self.endLn ≠ a.self.ln ∧ a.enclosed = false) ∨ a.namedExpr = true)
    (hend : a.self.endLn < lines.length) (hord : Pfst.Text.le2 a.self.ln a.self.col a.self.endLn a.self.endCol)
    (hc : a.self.col ≤ (lineAt lines a.self.ln).length) (hec : a.self.endCol ≤ (lineAt lines a.self.endLn).length) :
    (fixTuple lines a).delimited = true ∧
    Pfst.Text.flat (fixTuple lines a).lines
      = (Pfst.Text.flat lines).take (Pfst.Text.off lines a.self.ln a.self.col) ++ ['(']
        ++ Pfst.Text.getFlat lines a.self.ln a.self.col a.self.endLn a.self.endCol ++ [')']
        ++ (Pfst.Text.flat lines).drop (Pfst.Text.off lines a.self.endLn a.self.endCol) := by
  have h1 : (a.nElts != 0) = true := by simp; omega
  have h2 : (a.nElts == 1) = false := by simp; omega
  have h3 : (a.nElts == 0) = false := by simp; omega
  have hcond : (a.parIfNeeded && (!(a.self.endLn == a.self.ln || a.enclosed) || a.namedExpr)) = true := by
    rw [hpar]
    rcases hneed with ⟨n1, n2⟩ | n3
    · have : (a.self.endLn == a.self.ln) = false := by simp [n1]
      simp [this, n2]
    · simp [n3]
  have hun : fixTuple lines a
      = ⟨true, delimitNode lines a.self false (some (a.fn.endLn, a.fn.endCol)) '(' ')'⟩ := by
    unfold fixTuple maybeAddSingletonComma
    simp only [hd, h1, h2, h3, ↓reduceIte, Bool.false_eq_true, hcond, hroot]
  rw [hun]
  refine ⟨rfl, ?_⟩
  exact delimitNode_flat lines a.self.ln a.self.col a.self.endLn a.self.endCol (some (a.fn.endLn, a.fn.endCol)) '(' ')'
    hend hord hc hec

/-- An empty naked tuple whose area holds no code and no comment is replaced, whole area, by
`()`: `_fix_Tuple` answers "delimited" and the new lines are one `_put_src(['()'], area)`. -/
theorem fixTuple_empty (lines : List Line) (a : TupIn) (hd : a.isDelim = some false) (hn : a.nElts = 0)
    (hblank : nextFrag lines a.self.ln a.self.col a.self.endLn a.self.endCol true .f = none) :
    fixTuple lines a
      = ⟨true, Pfst.Text.putSrc lines [['(', ')']] a.self.ln a.self.col a.self.endLn a.self.endCol⟩ := by
  unfold fixTuple fixUndelimEmpty
  simp [hd, hn, hblank]

/-! ## non-vacuity: concrete sources on which the hypotheses hold and the functions do something -/

private def src1 : List Line := ["[a, (b) , c]".toList]
private def src2 : List Line := ["f(a  # c".toList, "  )  \\".toList, "  , b)".toList]
private def src3 : List Line := ["[a, # c".toList, " b]".toList]

-- the comma after `(b)` is found behind the closing parenthesis and the blank
example : (trailSep src1 0 6 0 11 [','] .no).pos = some (0, 8) := by decide +kernel
example : Target src1 0 6 0 11 [','] 0 8 := (trailSep_spec src1 0 6 0 11 [','] .no (by decide +kernel) (by decide +kernel) 0 8).mp (by decide +kernel)
-- deleting it takes the blank in front along, nothing else
example : (trailSep src1 0 6 0 11 [','] .yes).del = some (0, 7, 9) := by decide +kernel
example : (trailSep src1 0 6 0 11 [','] .yes).lines = ["[a, (b) c]".toList] := by decide +kernel
-- over a comment, a closing parenthesis on the next line and a continuation
example : (trailSep src2 0 3 2 5 [','] .no).pos = some (2, 2) := by decide +kernel
-- the whitespace in front reaches the start of the line: only the separator goes
example : (trailSep src2 0 3 2 5 [','] .yes).lines = ["f(a  # c".toList, "  )  \\".toList, "   b)".toList] := by decide +kernel
-- `del_=None`: a separator followed by a comment is kept, `del_=True` removes it
example : (trailSep src3 0 2 1 2 [','] .aesth).lines = src3 := by decide +kernel
example : (trailSep src3 0 2 1 2 [','] .yes).lines = ["[a # c".toList, " b]".toList] := by decide +kernel
-- something else follows: no separator
example : (trailSep src1 0 2 0 11 [';'] .no).pos = none := by decide +kernel

-- `_maybe_ins_sep`: inserted behind the closing parenthesis; a blank added behind an existing comma; `;` gets a blank in front
example : (maybeInsSep ["[a, (b)]".toList] 0 6 false 0 7 [',']).lines = ["[a, (b),]".toList] := by decide +kernel
example : (maybeInsSep ["[a,b]".toList] 0 2 true 0 4 [',']).lines = ["[a, b]".toList] := by decide +kernel
example : (maybeInsSep ["a".toList] 0 1 true 0 1 [';']).lines = ["a ; ".toList] := by decide +kernel
example : StartLeEnd 0 6 0 7 := Or.inr ⟨rfl, by decide +kernel⟩

-- `_fix_Tuple`: `(a)` becomes `(a,)`, `((a) )` becomes `((a), )`, `(a,)` and `(a, b)` stay
private def tup1 : TupIn :=
  { self := ⟨0, 0, 0, 3⟩, nElts := 1, f0 := ⟨0, 1, 0, 2⟩, fn := ⟨0, 1, 0, 2⟩, p0 := (0, 1), pn := (0, 2),
    isDelim := none, parIfNeeded := true, isRoot := true, enclosed := true, namedExpr := false, extra := [] }
example : fixTuple ["(a)".toList] tup1 = ⟨true, ["(a,)".toList]⟩ := by decide +kernel
example : (maybeAddSingletonComma ["((a) )".toList] 1 (0, 3) (0, 6) true).lines = ["((a), )".toList] := by decide +kernel
example : (maybeAddSingletonComma ["(a,)".toList] 1 (0, 2) (0, 4) true).lines = ["(a,)".toList] := by decide +kernel
example : (maybeAddSingletonComma ["(a, b)".toList] 2 (0, 2) (0, 6) true).lines = ["(a, b)".toList] := by decide +kernel

-- a naked two-line tuple (an assignment value) gets its parentheses
private def src4 : List Line := ["x = a,".toList, "    b".toList]
private def tup4 : TupIn :=
  { self := ⟨0, 4, 1, 5⟩, nElts := 2, f0 := ⟨0, 4, 0, 5⟩, fn := ⟨1, 4, 1, 5⟩, p0 := (0, 4), pn := (1, 5),
    isDelim := some false, parIfNeeded := true, isRoot := false, enclosed := false, namedExpr := false, extra := [] }
example : fixTuple src4 tup4 = ⟨true, ["x = (a,".toList, "    b)".toList]⟩ := by decide +kernel
-- an empty naked tuple (what is left of `a,` after its element was cut) becomes `()`
private def tup5 : TupIn :=
  { self := ⟨0, 4, 0, 5⟩, nElts := 0, f0 := ⟨0, 0, 0, 0⟩, fn := ⟨0, 0, 0, 0⟩, p0 := (0, 0), pn := (0, 0),
    isDelim := some false, parIfNeeded := true, isRoot := false, enclosed := true, namedExpr := false, extra := [] }
example : fixTuple ["x =  ".toList] tup5 = ⟨true, ["x = ()".toList]⟩ := by decide +kernel

end Pfst.C01b
