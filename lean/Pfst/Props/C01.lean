import Pfst.EditLemmas

/-!
# C01 — after any successful edit the source text still parses to exactly the live tree

"Parses to the live tree" is split (DESIGN.md §1.3, §4 C01) into what Lean can carry and what only CPython can judge:

* **positional consistency** (this file): a single-node replacement — the shape of every `_put_one_*` handler: one text
  rectangle spliced, the sub-tree at a path replaced, later nodes moved, ancestors grown — keeps the document well formed
  (children inside parents, siblings ordered, no overlap) and keeps every other node on its text, for every tree, every
  path, every replacement, and every *sequence* of such edits (`steps_wf`);
* **grouping** of the printed replacement: `Pfst/Props/C09.lean`;
* **the 2-D text splice and byte/char columns**: `Pfst/Props/C04.lean`, `Pfst/Props/C11.lean`;
* **CPython agrees with the post-state** is an external parameter, checked per case by the sweep on the real code.
-/
namespace Pfst.C01
open Pfst.Edit

variable {α : Type}

/-- Text before the spliced rectangle is untouched: a node that ends at or before the rectangle denotes the same text at
the same coordinates. -/
theorem text_before (t : List α) (ed : Ed α) (sp : Span) (h1 : sp.e ≤ ed.s) (h2 : ed.s ≤ t.length) :
    textAt (applyText t ed) sp = textAt t sp := by
  -- `textAt` read as "take up to the end, then drop up to the start"
  unfold textAt
  rw [← List.drop_take, ← List.drop_take, take_applyText t ed h1 h2]

/-- A node that starts at or after the rectangle denotes the same text at the shifted coordinates. -/
theorem text_after (t : List α) (ed : Ed α) (sp : Span) (h1 : ed.e ≤ sp.s) (h0 : ed.s ≤ ed.e) (h2 : ed.e ≤ t.length) :
    textAt (applyText t ed) (shiftSpan ed sp) = textAt t sp := by
  simp only [textAt, shiftSpan]
  rw [drop_applyText t ed h1 (Nat.le_trans h0 h2), shiftPt_sub ed sp.e h1]

/-- The new node sits exactly on the text that was put. -/
theorem text_new (t : List α) (ed : Ed α) (h2 : ed.s ≤ t.length) :
    textAt (applyText t ed) ⟨ed.s, ed.s + ed.new.length⟩ = ed.new := by
  have hl : (t.take ed.s).length = ed.s := by rw [List.length_take]; exact Nat.min_eq_left h2
  simp only [textAt, applyText, Nat.add_sub_cancel_left]
  rw [List.append_assoc, List.drop_left' hl, List.take_left' rfl]

/-- One replacement keeps the tree well formed (children inside parents, siblings ordered and disjoint) — any tree, any
depth, any path, any replacement sub-tree that is itself well formed and spans the new text. -/
theorem replace_wf (ed : Ed α) (sub : T) (path : List Nat) (t : T)
    (hsub : wfT sub = true) (hsp : sub.sp = ⟨0, ed.new.length⟩) (h0 : ed.s ≤ ed.e)
    (hw : wfT t = true) (hp : pathOk ed path t = true) : wfT (replaceAt ed sub path t) = true :=
  (replaceAt_wf ed sub hsub hsp h0 path t hw hp).1

/-- An edit request: rectangle + new text, replacement sub-tree (relative to the new text), path of the target. -/
structure Step (α : Type) where
  ed : Ed α
  sub : T
  path : List Nat

/-- what the handler validates before it mutates anything -/
def applicable (st : Step α) (t : T) : Bool :=
  wfT st.sub && (st.sub.sp == ⟨0, st.ed.new.length⟩) && decide (st.ed.s ≤ st.ed.e) && pathOk st.ed st.path t

/-- a document: flat text + position tree -/
structure Doc (α : Type) where
  text : List α
  tree : T

/-- validate, then apply; an inapplicable request changes nothing -/
def step (d : Doc α) (st : Step α) : Doc α :=
  if applicable st d.tree then ⟨applyText d.text st.ed, replaceAt st.ed st.sub st.path d.tree⟩ else d

def run (d : Doc α) (steps : List (Step α)) : Doc α := steps.foldl step d

/-- **After each step of an arbitrarily long sequence of edits the document is well formed.** -/
theorem steps_wf (d : Doc α) (steps : List (Step α)) (hw : wfT d.tree = true) : wfT (run d steps).tree = true := by
  induction steps generalizing d with
  | nil => simpa [run] using hw
  | cons st rest ih =>
    simp only [run, List.foldl_cons]
    apply ih
    unfold step
    split
    · next ha =>
      simp only [applicable, Bool.and_eq_true, decide_eq_true_eq, beq_iff_eq] at ha
      exact replace_wf st.ed st.sub st.path d.tree ha.1.1.1 ha.1.1.2 ha.1.2 hw ha.2
    · exact hw

/-- A refused request is the identity (validate-before-mutate), any request. -/
theorem refused_identity (d : Doc α) (st : Step α) (h : applicable st d.tree = false) : step d st = d := by
  simp [step, h]

/-! ### non-vacuity -/

private def doc0 : Doc Char :=
  ⟨"x = a + b * c".toList, .mk 0 ⟨0, 13⟩ [.mk 1 ⟨0, 1⟩ [], .mk 2 ⟨4, 13⟩ [.mk 3 ⟨4, 5⟩ [], .mk 4 ⟨8, 13⟩ [.mk 5 ⟨8, 9⟩ [], .mk 6 ⟨12, 13⟩ []]]]⟩
/-- replace `a` (path [1, 0]) by `(p or q)` -/
private def st0 : Step Char := ⟨⟨4, 5, "(p or q)".toList⟩, .mk 7 ⟨0, 8⟩ [.mk 8 ⟨1, 2⟩ [], .mk 9 ⟨6, 7⟩ []], [1, 0]⟩

example : wfT doc0.tree = true := by decide +kernel
example : applicable st0 doc0.tree = true := by decide +kernel
example : String.ofList (step doc0 st0).text = "x = (p or q) + b * c" := by decide +kernel
example : flattenT (step doc0 st0).tree =
    [(0, ⟨0, 20⟩), (1, ⟨0, 1⟩), (2, ⟨4, 20⟩), (7, ⟨4, 12⟩), (8, ⟨5, 6⟩), (9, ⟨10, 11⟩), (4, ⟨15, 20⟩), (5, ⟨15, 16⟩), (6, ⟨19, 20⟩)] := by
  decide +kernel
example : textAt (step doc0 st0).text ⟨15, 20⟩ = textAt doc0.text ⟨8, 13⟩ := by decide +kernel

end Pfst.C01
