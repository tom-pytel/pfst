import Pfst.ReconcileCorrect
import Pfst.ReconcileKept
/-!
C13 — reconcile() returns a valid tree that equals the externally edited AST.

Theorems about the executable model `Pfst/Reconcile.lean` of `Reconcile.recurse_node / recurse_children / recurse_slice /
recurse_slice_dict` and the trace interpreter `applyOps` (container laws).  `result mark edited` is the structure obtained by
replaying the emitted operation trace on the structure of the marked copy.
-/
namespace Pfst.C13
open Pfst.Reconcile

/-! ### concrete trees used by the witnesses and non-vacuity examples -/

def v (n : Nat) : Val := ⟨n, n⟩
/-- `Name(id)` : kind 1, one primitive field -/
def name (o : Origin) (id : Nat) : T := .node o 1 [.prim (v id)]
/-- `Assign(target, value)` : kind 2 -/
def assign (o : Origin) (t val : T) : T := .node o 2 [t, val]
/-- `Module(body)` : kind 0, one slice-mode list field with compatibility class 0 -/
def modl (o : Origin) (body : List T) : T := .node o 0 [.many (some 0) 1 body]
def loc (pp : Path) (fi : Nat) (idx : Option Nat := none) : Origin := .tree (some ⟨pp, fi, idx⟩)

/-- marked tree `a = b ; c = d` with every node tagged in place -/
def m0 : T := modl (.tree none)
  [assign (loc [] 0 (some 0)) (name (loc [0, 0] 0) 10) (name (loc [0, 0] 1) 11),
   assign (loc [] 0 (some 1)) (name (loc [0, 1] 0) 12) (name (loc [0, 1] 1) 13)]

/-- edited: statements swapped, the value of the (old) first one replaced by a new `Name`, a new statement appended -/
def e0 : T := modl (.tree none)
  [assign (loc [] 0 (some 1)) (name (loc [0, 1] 0) 12) (name (loc [0, 1] 1) 13),
   assign (loc [] 0 (some 0)) (name (loc [0, 0] 0) 10) (name .new 99),
   assign .new (name .new 20) (name (loc [0, 0] 1) 11)]

/-! ### the trace interpreter -/

/-- Frame law of the interpreter: a trace whose operations all lie under child `i` only changes child `i`. -/
theorem frame (i : Nat) (ops : List Op) (t : T) : applyOps (preAll i ops) t = modKid i (applyOps ops) t :=
  applyOps_preAll i ops t

/-- The documented retry ("retries the operation at a higher level node"): whatever the operations emitted below a node did
before the failure, the final pure-AST put of the node leaves exactly that node's structure in the slot. -/
theorem fallback_overrides (ops : List Op) (n t : T) : applyOps (ops ++ [⟨[], .put .ast (erase n)⟩]) t = erase n :=
  applyOps_put_last ops .ast (erase n) t

/-- A verified node of another tree (`verify(reparse=False)` passed) is put wholesale, without recursion: the slot then
holds the structure of the edited node regardless of what was there. -/
theorem foreign_ok_correct (mark : T) (np : NP) (rel : Path) (outa : T) (tid : Nat) (l : Option Loc) (sig : Option Nat)
    (k : Nat) (cs : List T) :
    applyOps (recNode mark np rel outa (.node (.foreign true tid l sig) k cs)).ops outa
      = erase (.node (.foreign true tid l sig) k cs) := by
  simp [recNode, applyOps, applyOp, applyAt, applyAct, erase]

/-! ### a node in place whose fields are scalars -/

/-- `recurse_children` on scalar fields: after the emitted `setPrim`s the fields are the edited ones, provided that under a
pure-AST parent, where nothing is written, the slot already holds the edited values. -/
theorem fields_scalar_correct (mark : T) (np : NP) (o : Origin) (k : Nat) (cs : List T) :
    ∀ (oks pre : List T), (∀ c ∈ cs, scalar c = true) → oks.length = cs.length → (np = .ast → oks = cs) →
    (recFields mark np pre.length oks cs).fail = false ∧
    applyOps (recFields mark np pre.length oks cs).ops (.node o k (pre ++ oks)) = .node o k (pre ++ cs) := by
  induction cs with
  | nil =>
    intro oks pre _ hl _
    cases oks with
    | nil => simp [recFields, applyOps]
    | cons a b => simp at hl
  | cons c rest ih =>
    intro oks pre hs hl hast
    cases oks with
    | nil => simp at hl
    | cons ok oks' =>
      obtain ⟨ihf, iha⟩ := ih oks' (pre ++ [c]) (fun x hx' => hs x (by simp [hx'])) (by simpa using hl)
        (fun h => (List.cons.inj (hast h)).2)
      simp only [List.length_append, List.length_cons, List.length_nil, List.append_assoc, List.cons_append,
        List.nil_append, Nat.zero_add] at ihf iha
      rw [recFields_scalar_step mark np pre.length ok c oks' rest (hs c (by simp))]
      refine ⟨ihf, ?_⟩
      simp only [applyOps_append, applyOps_preAll, modKid_node_at]
      have hval := scalar_res_ok np ok c (.setPrim c) rfl
        ⟨fun h => (List.cons.inj (hast h)).1, fun _ h => pyNe_false_eq c ok (hs c (by simp)) h⟩
      rw [hval]; exact iha

/-- `trace_correct` at an in-tree node in place whose fields are all scalars (identifiers, constants, `None`), without `wfN`:
replaying the emitted trace on what the output tree holds at the slot (`.node .new k ocs`, the marked node) yields exactly
the edited node.  `hx` always holds (`pyNe_exact`). -/
theorem trace_correct_partial (mark : T) (np : NP) (rel : Path) (l : Option Loc) (k : Nat) (cs ocs : List T)
    (hin : inPlace np rel l = true) (hs : ∀ c ∈ cs, scalar c = true) (hl : ocs.length = cs.length)
    (hx : ∀ p ∈ cs.zip ocs, pyNe p.1 p.2 = false → p.1 = p.2) :
    applyOps (recNode mark np rel (.node .new k ocs) (.node (.tree l) k cs)).ops (.node .new k ocs) = .node .new k cs := by
  have h := fields_scalar_correct mark (.fst 0 (qOf l)) .new k cs ocs [] hs hl (by intro h; cases h)
  simp only [List.length_nil, List.nil_append] at h
  obtain ⟨hf, ha⟩ := h
  rw [recNode_inPlace _ _ _ _ _ _ _ _ _ hin]
  simpa only [hf, Bool.false_eq_true, if_false] using ha

/-- The repaired comparison `child != o or child.__class__ is not o.__class__` is exact: a scalar that does not differ from
what the output tree holds IS what the output tree holds.  (With the unrepaired `child != o` this fails for `1` / `True` /
`1.0`: finding C13-F1.) -/
theorem pyNe_exact (c ok : T) (hsc : scalar c = true) (h : pyNe c ok = false) : c = ok :=
  pyNe_false_eq c ok hsc h

theorem fields_scalar_silent (mark : T) (np : NP) (cs : List T) :
    ∀ fi, (∀ c ∈ cs, scalar c = true) → recFields mark np fi cs cs = ⟨[], false⟩ := by
  induction cs with
  | nil => intro fi _; simp [recFields]
  | cons c rest ih =>
    intro fi hs
    have hc : scalar c = true := hs c (by simp)
    rw [recFields_scalar_step mark np fi c c rest rest hc, ih (fi + 1) (fun x hx => hs x (by simp [hx]))]
    simp [pyNe_scalar_self c hc, preAll]

/-- `no_change` at one node: an in-tree node in place whose (scalar) fields are what the output tree already
holds emits NO operation and cannot fail; whole unchanged subtrees are `untouched_silent_full` and `no_change`, the absence
of covering operations in the ancestors is `untouched_kept`. -/
theorem untouched_silent (mark : T) (np : NP) (rel : Path) (l : Option Loc) (k : Nat) (cs : List T)
    (hin : inPlace np rel l = true) (hs : ∀ c ∈ cs, scalar c = true) :
    recNode mark np rel (.node .new k cs) (.node (.tree l) k cs) = ⟨[], false⟩ := by
  rw [recNode_inPlace _ _ _ _ _ _ _ _ _ hin, fields_scalar_silent mark (.fst 0 (qOf l)) cs 0 hs]
  rfl

/-- Rounds: the tree returned by one round is the marked copy of the next.  If every round replays to its edited structure
(the conclusion of `trace_correct` for that round) then after any number of mark / mutate / reconcile rounds the structure
is that of the last edited tree; with no round it is the initial structure. -/
def runRounds : T → List T → T
  | m, [] => erase m
  | m, e :: es => runRounds (result m e) es

/-- every round meets `ok` (the hypotheses of `trace_correct`) against the tree returned by the previous round -/
def roundsOK (ok : T → T → Prop) : T → List T → Prop
  | _, [] => True
  | m, e :: es => ok m e ∧ roundsOK ok (result m e) es

theorem rounds (ok : T → T → Prop) (hok : ∀ m e, ok m e → result m e = erase e) :
    ∀ (es : List T) (m : T), roundsOK ok m es → runRounds m es = erase (es.getLastD m) := by
  intro es
  induction es with
  | nil => intro m _; rfl
  | cons e rest ih =>
    intro m ⟨h0, hr⟩
    have h1 := ih (result m e) hr
    cases rest with
    | nil => simp [runRounds, hok m e h0, erase_erase]
    | cons e2 r2 => simpa [runRounds, List.getLastD] using h1

/-! ### all trees meeting the side conditions -/

/-- `recurse_node` at any slot, every origin case (in place / off path / verified node of another tree /
unverified node of another tree / pure AST, incl. the `except → put_node` fallback): if the node meets the side conditions
and the output tree holds at the slot either anything (when the node is put first) or what the parent recursion left there
(`slot`: the marked node under an in-tree parent, the edited node under a parent that was put as a pure AST), then replaying
the emitted operations on the slot content gives exactly the structure of the edited node, unless the exception propagates
(`fail`). -/
theorem node_correct (mark n : T) (np : NP) (rel : Path) (outa : T) (wf : wfN mark n = true)
    (hs : putsFirst np rel n = true ∨ slot mark np rel outa n) (h : (recNode mark np rel outa n).fail = false) :
    applyOps (recNode mark np rel outa n).ops outa = erase n :=
  recNode_ok mark n np rel outa wf hs h

/-- an in-tree node never lets the exception out (`except (NodeError, SyntaxError, ValueError, NotImplementedError)`) -/
theorem intree_never_fails (mark : T) (np : NP) (rel : Path) (outa : T) (l : Option Loc) (k : Nat) (cs : List T) :
    (recNode mark np rel outa (.node (.tree l) k cs)).fail = false := by
  rw [recNode_tree]
  simp only [apply_ite R.fail, ite_self]

/-- `recurse_children` over an arbitrary field list (fields `pre.length …` of a node whose earlier fields are
already done): scalar fields, node fields, slice fields, one-by-one list fields. -/
theorem children_correct (mark : T) (fs : List T) (np : NP) (oks pre : List T) (o : Origin) (k : Nat)
    (wf : wfFs mark fs = true) (hnn : np ≠ .none) (hs : fieldSlots mark np pre.length oks fs)
    (h : (recFields mark np pre.length oks fs).fail = false) :
    applyOps (recFields mark np pre.length oks fs).ops (.node o k (pre ++ oks)) = .node o k (pre ++ eraseL fs) :=
  fields_ok mark fs (fun d _ => recNode_ok mark d) np pre.length oks pre o k wf hnn rfl hs h

/-- `recurse_slice` on a list field of ANY length under an in-tree parent (`q` its path in the marked tree, `fi`
the field): first-element condition, contiguous-run detection (runs copied from the marked tree, verified runs of another
tree put as one slice, unverified runs element by element), insertion past the end, tail deletion.  The output list
initially holds the marked elements `mitems`; after the trace it holds the edited ones. -/
theorem slice_correct (mark : T) (q : Path) (fi : Nat) (s : Option Nat) (mitems items : List T)
    (hm : markAt mark (q ++ [fi]) = .many s 1 mitems) (wf : wfEs mark items = true)
    (h : (recSliceGo mark (.fst 0 q) fi s false 0 {} (eraseL mitems) items).fail = false) :
    applyOps (recSliceGo mark (.fst 0 q) fi s false 0 {} (eraseL mitems) items).ops (.many s 1 (eraseL mitems))
      = .many s 1 (eraseL items) := by
  have hsl := elemSlots_mark mark q fi items 0 wf
  rw [hm, List.drop_zero] at hsl
  exact slice_ok_start mark items (fun d _ => recNode_ok mark d) (.fst 0 q) fi s false 0 _ s 1 (by simpa using wf) (by simp) hsl
    (by simp) h

/-- `recurse_slice` under a parent that was put as a pure AST (or is an unverified node of another tree): the output list
already holds the edited elements; the operations emitted (formatting copies of in-tree and foreign runs) leave that
structure in place. -/
theorem slice_correct_ast (mark : T) (np : NP) (hb : np.base = none) (fi : Nat) (s ns : Option Nat) (items : List T)
    (wf : wfEs mark items = true) (h : (recSliceGo mark np fi ns false 0 {} (eraseL items) items).fail = false) :
    applyOps (recSliceGo mark np fi ns false 0 {} (eraseL items) items).ops (.many s 1 (eraseL items))
      = .many s 1 (eraseL items) := by
  have hnn : np ≠ .none := by intro e; subst e; simp [NP.base] at hb
  exact slice_ok_start mark items (fun d _ => recNode_ok mark d) np fi ns false 0 _ s 1 (by simpa using wf) hnn
    (elemSlots_self mark np fi false hb items 0) (by simp) h

/-- `recurse_slice_dict` on a `Dict` of ANY length under an in-tree parent: the elements are `pair [key, value]`
pseudo nodes of kind `pk` whose origin is consistent with key and value (`wfPs`), the marked `Dict` holds pairs of the same
kind (`allShaped`).  Same loop as `recurse_slice`; per pair `recurse_node` on the key (or `put(None)` of a removed key) and on
the value. -/
theorem dict_correct (mark : T) (q : Path) (fi : Nat) (s : Option Nat) (pk : Nat) (mitems items : List T)
    (hm : markAt mark (q ++ [fi]) = .many s 2 mitems) (hms : allShaped pk mitems = true) (wf : wfPs mark pk items = true)
    (h : (recSliceGo mark (.fst 0 q) fi s true 0 {} (eraseL mitems) items).fail = false) :
    applyOps (recSliceGo mark (.fst 0 q) fi s true 0 {} (eraseL mitems) items).ops (.many s 2 (eraseL mitems))
      = .many s 2 (eraseL items) := by
  have hsl := elemSlotsD_mark mark q fi pk items 0 wf
  rw [hm, List.drop_zero] at hsl
  exact slice_ok_start mark items (fun d _ => recNode_ok mark d) (.fst 0 q) fi s true pk _ s 2 (by simpa using wf) (by simp) hsl
    (fun _ _ => allE_eraseL pk mitems (allShaped_mem pk mitems hms)) h

/-- For every pair of trees meeting `wfN`, if the exception does not leave `reconcile()`, replaying the operation trace on
the structure of the marked copy yields exactly the structure of the edited tree.  For an in-tree root the `fail` hypothesis
always holds (`intree_never_fails`).

`wfN mark edited` is decidable (defined in `Pfst/Reconcile.lean`, evaluated by the driver on every case as `wf`): every
in-tree origin names a node of the marked tree of the same kind and field shapes, tree ids of other trees are `≠ 0`, list
elements are not lists, and the `pair` pseudo nodes of a `Dict` (mode 2) have one kind, a key that is a node or `None`, and
an origin consistent with key and value (`wfPs` / `pairCons`: what `recurse_slice_dict` reads off `values[i].f` and
`keys[i].f`).  It says nothing about primitive values: the model is that of the code after the repair of finding C13-F1
(`recurse_children` compares value AND type), its comparison is exact (`pyNe_exact`), and `1 -> True`, on which the
unrepaired comparison lost the change, is an instance of the theorem (`conflation_seen`). -/
theorem trace_correct (mark edited : T) (wf : wfN mark edited = true) (h : (reconcile mark edited).fail = false) :
    result mark edited = erase edited :=
  recNode_ok mark edited .none [] (erase mark) wf (Or.inr (by simp [slot, NP.base, markAt_nil])) h

/-- `rounds` instantiated with `trace_correct`: any number of mark / mutate / reconcile rounds each meeting the side
conditions ends in the structure of the last edited tree. -/
theorem rounds_correct (es : List T) (m : T)
    (h : roundsOK (fun m e => wfN m e = true ∧ (reconcile m e).fail = false) m es) :
    runRounds m es = erase (es.getLastD m) :=
  rounds _ (fun m e hme => trace_correct m e hme.1 hme.2) es m h

/-- `untouched_silent` for whole subtrees, at any slot: a subtree all of whose nodes are in place, whose scalars (fields,
and `None` / identifier elements of list fields) are the marked ones in value and type and whose list fields have the marked
lengths (`stillN`) emits NO operation and cannot fail, when the slot holds what the parent recursion left there. -/
theorem untouched_silent_full (mark n : T) (np : NP) (rel : Path) (outa : T) (hst : stillN mark np rel n = true)
    (hs : slot mark np rel outa n) : recNode mark np rel outa n = ⟨[], false⟩ :=
  recNode_quiet mark n np rel outa hst hs

/-- The edited tree is the marked tree with every node in place and primitives the marked ones in value and type (`stillN`,
decidable, defined in `Pfst/Reconcile.lean`; `Dict` pairs in place with key and value in place or `None` over `None`): the
trace is empty and nothing is raised, so the returned tree is the untouched copy of the marked tree.  The model is that of
the code after the repair of finding C13-F8 (`recurse_node` leaves an unchanged `None` / identifier list element alone), so
`stillN` covers list fields holding scalars too (`Global` / `Nonlocal` names, `arguments.kw_defaults`):
`no_change_scalar_elems`. -/
theorem no_change (mark edited : T) (h : stillN mark .none [] edited = true) : reconcile mark edited = ⟨[], false⟩ :=
  recNode_quiet mark edited .none [] (erase mark) h (by simp [slot, NP.base, markAt_nil])

theorem no_change_ops (mark edited : T) (h : stillN mark .none [] edited = true) : reconcileOps mark edited = [] := by
  simp [reconcileOps, no_change mark edited h]

/-- `p` is a path (field index, then element index for list fields) from the root to a subtree
that is unchanged (`stillN`), every node on the way is in place, no retry-at-parent fallback fires at it and no list on the
way is a `Dict` (`keptN`; a `Dict` may occur anywhere else, also inside the untouched subtree), and
the edited tree meets the side conditions.  Then every operation of the trace is disjoint from that subtree: no `put` /
`setPrim` at it, above it or inside it, no slice put whose replaced range contains the element on the path, no tail
deletion from at or before it (`touches`, region of an operation = the path prefix it rewrites). -/
theorem untouched_kept (mark edited : T) (p : Path) (wf : wfN mark edited = true)
    (hk : keptN mark p .none [] edited = true) : ∀ op ∈ reconcileOps mark edited, touches op p = false :=
  kept_node mark p edited .none [] (erase mark) wf hk (by simp [slot, NP.base, markAt_nil])

/-! ### non-vacuity -/

/-- the swap / replace / append script on `a = b ; c = d` replays to the edited structure -/
example : (reconcile m0 e0).fail = false ∧ beq (result m0 e0) (erase e0) = true := by decide +kernel

/-- its trace has eight operations: slice-put + re-put of each moved statement, the new value, the appended statement -/
example : (reconcileOps m0 e0).length = 8 := by decide +kernel

/-- the hypotheses of `trace_correct_partial` are met by a renamed identifier -/
example : applyOps (recNode m0 (.fst 0 [0, 0]) [0] (name .new 10) (name (loc [0, 0] 0) 77)).ops (name .new 10) = name .new 77 :=
  trace_correct_partial m0 (.fst 0 [0, 0]) [0] _ 1 [.prim (v 77)] [.prim (v 10)] (by rfl) (by simp [scalar]) rfl
    (by simp [pyNe, v])

example : reconcileOps m0 m0 = [] := by decide +kernel


/-! ### non-vacuity, all trees -/

/-- statement `i` of the three-statement marked body: `t_i = v_i`, every node tagged in place -/
def st (i : Nat) : T := assign (loc [] 0 (some i)) (name (loc [0, i] 0) (10 + 2 * i)) (name (loc [0, i] 1) (11 + 2 * i))
/-- marked tree `a = b ; c = d ; e = f` -/
def m3 : T := modl (.tree none) [st 0, st 1, st 2]
def newSt (n : Nat) : T := assign .new (name .new n) (name .new (n + 1))

/-- reorder + insert + delete: `e = f ; NEW ; a = b` (the second statement is deleted) -/
def e3 : T := modl (.tree none) [st 2, newSt 40, st 0]
example : wfN m3 e3 = true ∧ (reconcile m3 e3).fail = false ∧ (reconcileOps m3 e3).length = 5 := by decide +kernel
example : result m3 e3 = erase e3 := trace_correct m3 e3 (by decide +kernel) (by decide +kernel)

/-- insertion past the end and a contiguous run moved as one slice: `c = d ; e = f ; a = b ; NEW ; NEW` -/
def e3x : T := modl (.tree none) [st 1, st 2, st 0, newSt 40, newSt 50]
example : wfN m3 e3x = true ∧ (reconcileOps m3 e3x).length = 9 := by decide +kernel
example : result m3 e3x = erase e3x := trace_correct m3 e3x (by decide +kernel) (by decide +kernel)

/-- tail deletion after a moved statement: `c = d` alone -/
def e3d : T := modl (.tree none) [st 1]
example : wfN m3 e3d = true ∧ (reconcileOps m3 e3d).length = 3 := by decide +kernel
example : result m3 e3d = erase e3d := trace_correct m3 e3d (by decide +kernel) (by decide +kernel)

/-- a moved (duplicated) node: the value of the second statement is put as the value of the first -/
def eMv : T := modl (.tree none)
  [assign (loc [] 0 (some 0)) (name (loc [0, 0] 0) 10) (name (loc [0, 1] 1) 13), st 1, st 2]
example : wfN m3 eMv = true ∧ (reconcileOps m3 eMv).length = 1 := by decide +kernel
example : result m3 eMv = erase eMv := trace_correct m3 eMv (by decide +kernel) (by decide +kernel)

/-- nodes of another tree: a verified `Name` as the value of the second statement; the third statement replaced by an
unverified statement of tree 1 that contains a node of the marked tree and a renamed identifier -/
def eFo : T := modl (.tree none)
  [st 0,
   assign (loc [] 0 (some 1)) (name (loc [0, 1] 0) 12) (.node (.foreign true 1 (some ⟨[0, 0], 1, none⟩) none) 1 [.prim (v 50)]),
   .node (.foreign false 1 (some ⟨[], 0, some 0⟩) (some 0)) 2
     [.node (.foreign false 1 (some ⟨[0, 0], 0, none⟩) none) 1 [.prim (v 60)], name (loc [0, 0] 1) 11]]
example : wfN m3 eFo = true ∧ (reconcileOps m3 eFo).length = 4 := by decide +kernel
example : result m3 eFo = erase eFo := trace_correct m3 eFo (by decide +kernel) (by decide +kernel)

/-- the hypotheses of `slice_correct` on the body of `e3` -/
example : applyOps (recSliceGo m3 (.fst 0 []) 0 (some 0) false 0 {} (eraseL [st 0, st 1, st 2]) [st 2, newSt 40, st 0]).ops
      (.many (some 0) 1 (eraseL [st 0, st 1, st 2])) = .many (some 0) 1 (eraseL [st 2, newSt 40, st 0]) :=
  slice_correct m3 [] 0 (some 0) [st 0, st 1, st 2] [st 2, newSt 40, st 0] (by rfl) (by decide +kernel) (by decide +kernel)

/-- `1 -> True` (same `==` class, other type; finding C13-F1) is inside `wfN`: the change is seen (one `setPrim`) and the
trace replays to the edited tree -/
theorem conflation_seen :
    wfN (.node (.tree none) 1 [.prim ⟨0, 0⟩]) (.node (.tree none) 1 [.prim ⟨0, 1⟩]) = true ∧
    (reconcileOps (.node (.tree none) 1 [.prim ⟨0, 0⟩]) (.node (.tree none) 1 [.prim ⟨0, 1⟩])).length = 1 ∧
    result (.node (.tree none) 1 [.prim ⟨0, 0⟩]) (.node (.tree none) 1 [.prim ⟨0, 1⟩])
      = erase (.node (.tree none) 1 [.prim ⟨0, 1⟩]) :=
  ⟨by decide +kernel, by decide +kernel, trace_correct _ _ (by decide +kernel) (by decide +kernel)⟩

/-- `no_change`: the marked tree itself (tagged in place) -/
example : stillN m3 .none [] m3 = true := by decide +kernel
example : reconcile m3 m3 = ⟨[], false⟩ := no_change m3 m3 (by decide +kernel)
/-- a copy whose identifier is `==` but not identical is NOT unchanged: one `setPrim` -/
example : (reconcileOps m3 (modl (.tree none) [assign (loc [] 0 (some 0)) (name (loc [0, 0] 0) 10)
      (.node (loc [0, 0] 1) 1 [.prim ⟨11, 77⟩]), st 1, st 2])).length = 1 := by decide +kernel
/-- `global a` unchanged (a list field holding an identifier): covered by `stillN`, empty trace (the code before the repair
of finding C13-F8 re-put every such element) -/
theorem no_change_scalar_elems :
    reconcile (.node (.tree none) 5 [.many none 1 [.prim ⟨3, 3⟩]]) (.node (.tree none) 5 [.many none 1 [.prim ⟨3, 3⟩]])
      = ⟨[], false⟩ :=
  no_change _ _ (by decide +kernel)
/-- ... and `def f(*, a, b=1)`: `kw_defaults = [None, 1]` in a plain list field -/
example : reconcile (.node (.tree none) 6 [.many none 0 [.nil, name (loc [] 0 (some 1)) 4]])
    (.node (.tree none) 6 [.many none 0 [.nil, name (loc [] 0 (some 1)) 4]]) = ⟨[], false⟩ :=
  no_change _ _ (by decide +kernel)
/-- a renamed identifier in the list is put (and only it) -/
example : (reconcileOps (.node (.tree none) 5 [.many none 1 [.prim ⟨3, 3⟩, .prim ⟨4, 4⟩]])
    (.node (.tree none) 5 [.many none 1 [.prim ⟨3, 3⟩, .prim ⟨9, 9⟩]])).length = 1 := by decide +kernel

/-- `untouched_kept`: first statement untouched while a statement is inserted after it and the second one moved down
(path `[0, 0]`: field `body`, element 0); the trace is not empty and no operation touches the statement -/
def eK : T := modl (.tree none) [st 0, newSt 40, st 1]
example : wfN m3 eK = true ∧ keptN m3 [0, 0] .none [] eK = true ∧ (reconcileOps m3 eK).length = 3 := by decide +kernel
example : ∀ op ∈ reconcileOps m3 eK, touches op [0, 0] = false := untouched_kept m3 eK [0, 0] (by decide +kernel) (by decide +kernel)
/-- … whereas the moved statement is touched -/
example : (reconcileOps m3 eK).any (fun op => touches op [0, 2]) = true := by decide +kernel

/-- deeper: the value of the first statement is untouched while its target is replaced and the other statements swapped -/
def eK2 : T := modl (.tree none)
  [assign (loc [] 0 (some 0)) (name .new 99) (name (loc [0, 0] 1) 11), st 2, st 1]
example : wfN m3 eK2 = true ∧ keptN m3 [0, 0, 1] .none [] eK2 = true ∧ keptN m3 [0, 0] .none [] eK2 = false := by decide +kernel
example : ∀ op ∈ reconcileOps m3 eK2, touches op [0, 0, 1] = false := untouched_kept m3 eK2 [0, 0, 1] (by decide +kernel) (by decide +kernel)


/-! ### non-vacuity: `Dict` -/

def pr (o : Origin) (k v : T) : T := .node o 9 [k, v]
/-- pair `i` of the marked `Dict`, tagged in place -/
def dpair (i : Nat) : T := pr (loc [] 0 (some i)) (name (loc [0, i] 0) (20 + 2 * i)) (name (loc [0, i] 1) (21 + 2 * i))
def dict (o : Origin) (ps : List T) : T := .node o 7 [.many (some 3) 2 ps]
/-- marked `{a: b, c: d, e: f}` -/
def mD : T := dict (.tree none) [dpair 0, dpair 1, dpair 2]
/-- `{e: f, NEW: NEW, **b}`: third pair first, a new pair, the value of the first pair under a removed key; `c: d` deleted -/
def eD : T := dict (.tree none) [dpair 2, pr .new (name .new 50) (name .new 51), pr .new .nil (name (loc [0, 0] 1) 21)]
example : wfN mD eD = true ∧ (reconcileOps mD eD).length = 7 := by decide +kernel
example : result mD eD = erase eD := trace_correct mD eD (by decide +kernel) (by decide +kernel)
/-- a run of two pairs moved as one slice, insertion past the end -/
def eD2 : T := dict (.tree none) [dpair 1, dpair 2, dpair 0, pr .new (name .new 50) (name .new 51)]
example : wfN mD eD2 = true ∧ (reconcileOps mD eD2).length = 11 := by decide +kernel
example : result mD eD2 = erase eD2 := trace_correct mD eD2 (by decide +kernel) (by decide +kernel)
/-- tail deletion -/
def eD3 : T := dict (.tree none) [dpair 1]
example : result mD eD3 = erase eD3 := trace_correct mD eD3 (by decide +kernel) (by decide +kernel)
/-- the hypotheses of `dict_correct` -/
example : applyOps (recSliceGo mD (.fst 0 []) 0 (some 3) true 0 {} (eraseL [dpair 0, dpair 1, dpair 2])
      [dpair 2, pr .new (name .new 50) (name .new 51)]).ops (.many (some 3) 2 (eraseL [dpair 0, dpair 1, dpair 2]))
      = .many (some 3) 2 (eraseL [dpair 2, pr .new (name .new 50) (name .new 51)]) :=
  dict_correct mD [] 0 (some 3) 9 _ _ (by rfl) (by decide +kernel) (by decide +kernel) (by decide +kernel)
example : reconcile mD mD = ⟨[], false⟩ := no_change mD mD (by decide +kernel)
/-- an inconsistent pair origin (pair tagged as element 2, value of element 0) is excluded by `wfN` -/
example : wfN mD (dict (.tree none) [pr (loc [] 0 (some 2)) (name (loc [0, 2] 0) 24) (name (loc [0, 0] 1) 21)]) = false := by
  decide +kernel

end Pfst.C13
