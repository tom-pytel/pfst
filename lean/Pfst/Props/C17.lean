import Pfst.MatchLemmas
import Pfst.Gen.Leaf

/-!
# C17 — matching depends only on structure; quantifiers behave like regular expressions

Property theorems about the model in `Pfst/Match.lean` (list matcher as written, regular-expression spec, structural
matcher, search pre-filter).  Lemmas live in `Pfst/MatchLemmas.lean`; the kind tables in `Pfst/Gen/Leaf.lean` are
regenerated from `/repo` on every run and the table facts below are re-checked against them.

Purity (`match_pure` of the design): `matchNode`, `matchList` are Lean functions of (pattern, structure) — there is no
state to carry between calls in the model; that the implementation behaves like a function is what the
repeated/shuffled-call correspondence checks.
-/
namespace Pfst.C17
open Pfst.Match

/-! ## structure -/

/-- Every tree matches the pattern built from it, with no tags, whatever tags are already bound. -/
theorem match_self (K : Kinds) (t : Tree) (ctx : TEnv) : matchNode K (toPattern t) ctx t = some [] :=
  toPattern_of_same K t t ctx (matchTree_refl t)

/-- A tree that differs from `t` in exactly one leaf (`diff1`, node ids ignored) does not match the pattern built from
`t`. -/
theorem match_one_leaf (K : Kinds) (t t' : Tree) (ctx : TEnv) (h : diff1 t t' = true) :
    matchNode K (toPattern t) ctx t' = none :=
  toPattern_of_diff1 K t t' ctx h

/-- A tree with the same structure as `t` (other node ids, e.g. another layout of the same program) matches the pattern
built from `t`. -/
theorem match_same_structure (K : Kinds) (t t' : Tree) (ctx : TEnv) (h : matchTree t t' = true) :
    matchNode K (toPattern t) ctx t' = some [] :=
  toPattern_of_same K t t' ctx h

/-- **Purity.** In the model a pattern is a value and the tags of a match are a new value computed from (pattern, tags
in scope, target): whatever history of other matches was evaluated before — also matches of patterns that contain `p`
or that `p` contains — the result for `(p, ctx, t)` is the same. Trivial in a pure model; the tie to the
implementation, where patterns are mutable objects holding their `static_tags` dictionaries, is the harness: the
structural dump of every pattern object (and of the shared containers of `fst.match`) is compared before and after
every call, and a used pattern is compared with an equal fresh one (`harness/c17_pure.py`). -/
theorem match_pure (K : Kinds) (history : List (Pat × TEnv × Tree)) (p : Pat) (ctx : TEnv) (t : Tree) :
    (history.map (fun h => matchNode K h.1 h.2.1 h.2.2), matchNode K p ctx t).2 = matchNode K p ctx t := rfl

/-- Wrapping a pattern in `M(inner, **static)` / `M(tag=inner, **static)` extends the tags of the inner match by a new
binding list; the inner result itself is what `inner` gives on its own (the wrapper cannot change it). -/
theorem m_wrap_extends (K : Kinds) (p : Pat) (tag : Option Name) (st : List (Name × Nat)) (ctx : TEnv) (t : Tree) :
    matchNode K (.m p tag st) ctx t = (matchNode K p ctx t).map (fun e => e ++ tagEnv tag (.node t) ++ stEnv st) := by
  simp only [matchNode]
  cases matchNode K p ctx t <;> rfl

/-! ## the pre-filter of `search` -/

theorem getD_rel_of_zip {α : Type} {R : List α → List α → Prop} (h0 : R [] []) :
    ∀ (as bs : List (List α)), as.length = bs.length → (∀ p ∈ as.zip bs, R p.1 p.2) →
      ∀ k, R (as.getD k []) (bs.getD k [])
  | [], [], _, _, _ => by simpa using h0
  | a :: _, b :: _, _, h, 0 => h (a, b) (by simp)
  | _ :: as, _ :: bs, hl, h, k + 1 => by
    simpa using getD_rel_of_zip h0 as bs (by simpa using hl) (fun p hp => h p (by simp [hp])) k
  | [], _ :: _, hl, _, _ | _ :: _, [], hl, _, _ => by simp at hl

section
open Pfst.Gen.Leaf

theorem tables_agree (tk k : Nat) (hb : tk ∉ badTargets) : tk ∈ instTable.getD k [] ↔ tk ∈ leafTable.getD k [] := by
  -- one pass over the paired tables; looking both entries up by index for every pair `(tk, k)` costs the kernel
  -- several times as much
  have hchk : ((instTable.zip leafTable).all fun (ia, la) =>
      ia.all (fun x => badTargets.contains x || la.contains x) &&
        la.all (fun x => badTargets.contains x || ia.contains x)) = true := by decide +kernel
  refine getD_rel_of_zip (R := fun ia la => tk ∈ ia ↔ tk ∈ la) Iff.rfl instTable leafTable (by decide +kernel) (fun p hp => ?_) k
  have := List.all_eq_true.1 hchk p hp
  simp only [Bool.and_eq_true, List.all_eq_true] at this
  exact ⟨fun hi => by simpa [hb] using this.1 tk hi, fun hl => by simpa [hb] using this.2 tk hl⟩

end

/-- The extracted tables are what the pre-filter needs at every leaf kind except the listed `badTargets` (on CPython
3.12: `Interpolation` and `TemplateStr`, stand-in classes that `AST2ASTSLEAF[expr]` lists but that are not `expr`
subclasses and never occur in a tree): each leaf kind is in its own entry, and in the entry of a class exactly when it
is an instance of that class. Re-checked against `Pfst/Gen/Leaf.lean` on every run. -/
theorem leaf_table_ok (tk : Nat) (h : tk ∈ Pfst.Gen.Leaf.all) (hb : tk ∉ Pfst.Gen.Leaf.badTargets) :
    TargetOK Pfst.Gen.Leaf.kinds tk := by
  have hself : (Pfst.Gen.Leaf.all.all fun tk =>
      Pfst.Gen.Leaf.badTargets.contains tk || (Pfst.Gen.Leaf.leafTable.getD tk []).contains tk) = true := by
    decide +kernel
  have := List.all_eq_true.1 hself tk h
  exact ⟨h, by simpa [Pfst.Gen.Leaf.kinds, hb] using this,
    fun k => (tables_agree tk k hb).1, fun k => (tables_agree tk k hb).2⟩

/-- every leaf kind has a non-empty entry inside `ASTS_LEAF__ALL`, and so has every class -/
theorem leaf_table_nonempty :
    (Pfst.Gen.Leaf.leafTable.all fun la => !la.isEmpty && la.all fun x => Pfst.Gen.Leaf.all.contains x) = true := by
  decide +kernel

/-- **Pre-filter soundness** for every pattern (all combinators, `MNOT` included): a node that matches has a kind the
pre-filter keeps.  (`MNOT._leaf_asts` complements the inner leaf set only for type-only inner patterns — a class, `...`,
`MTYPES` without fields — for which that set is exact; before the repair this was false, finding C17-F1.  A `Load()` /
`Store()` / `Del()` instance, which matches every `expr_context`, has the leaf set of `expr_context`; finding C17-F6.) -/
theorem prefilter_sound (K : Kinds) (p : Pat) (ctx : TEnv) (t : Tree) (e : TEnv)
    (la : List Nat) (hk : TargetOK K t.kind) (hl : leafAsts K p = some la) (hm : matchNode K p ctx t = some e) :
    t.kind ∈ la :=
  sound_node K p ctx t e la hk hl hm

private def nameY : Tree := .node 0 Pfst.Gen.Leaf.kName [.node 1 1000 [], .node 2 Pfst.Gen.Leaf.kLoad []]
private def notNameX : Pat := .mnot (.node Pfst.Gen.Leaf.kName [.node 1001 [], .wild]) none []

-- the former counterexample C17-F6: `search(Store())` finds the `Load` node that `match(Store())` accepts
example : (search Pfst.Gen.Leaf.kinds .ctxInst nameY).map Tree.id = [2] := by decide +kernel

-- the former counterexample: `MNOT(MName('x'))` matches the node `y`, and `search` now finds it
example : (search Pfst.Gen.Leaf.kinds notNameX nameY).map Tree.id = [0, 2] ∧
    (search Pfst.Gen.Leaf.kinds (.mnot (.type Pfst.Gen.Leaf.kName) none []) nameY).map Tree.id = [2] := by
  decide +kernel

/-- Under pre-filter soundness on the walked nodes, `search` is the walk filtered by `match`, in walk order. -/
theorem search_eq_filter (K : Kinds) (p : Pat) (t : Tree)
    (hs : ∀ n ∈ walk K t, ∀ la, leafAsts K p = some la → (matchNode K p [] n).isSome = true → la.contains n.kind = true) :
    search K p t = (walk K t).filter (fun n => (matchNode K p [] n).isSome) := by
  unfold search
  split
  · rfl
  · next la hla =>
    split
    · rfl
    · rw [List.filter_filter]
      apply List.filter_congr
      intro n hn
      cases hm : (matchNode K p [] n).isSome with
      | false => rfl
      | true => simpa using hs n hn la hla hm

/-- ... hence for every pattern, on trees whose node kinds the tables cover (`leaf_table_ok`). -/
theorem search_eq_filter_all (K : Kinds) (p : Pat) (t : Tree) (hk : ∀ n ∈ walk K t, TargetOK K n.kind) :
    search K p t = (walk K t).filter (fun n => (matchNode K p [] n).isSome) := by
  apply search_eq_filter
  intro n hn la hla hm
  cases he : matchNode K p [] n with
  | none => simp [he] at hm
  | some e => simpa using sound_node K p [] n e la (hk n hn) hla he

/-- **`search` is `filter match ∘ walk events`, for every `on` mode**: the events `search(pat, on=...)` yields are
the walk events (`enter`: before the children, `leave`: after them, `both`: both) of exactly the nodes `match` accepts,
in walk order, and each event carries the verdict and the tags of ITS OWN node (`matchedEvents`) — whatever was
matched between the enter and the leave event of a node. Holds for every pattern on trees whose node kinds the tables
cover (`leaf_table_ok`). -/
theorem search_events (K : Kinds) (p : Pat) (on : On) (t : Tree) (hk : ∀ ev ∈ walkBoth K t, TargetOK K ev.1.kind) :
    searchEvents K p on t = matchedEvents K p on t := by
  unfold searchEvents walkEvents matchedEvents
  split
  · rfl
  · next la hla =>
    split
    · rfl
    · apply filterMap_filter_of_imp
      intro ev hev hsome
      have hmem : ev ∈ walkBoth K t := (List.mem_filter.1 hev).1
      cases he : matchNode K p [] ev.1 with
      | none => simp [he] at hsome
      | some e => simpa using sound_node K p [] ev.1 e la (hk ev hmem) hla he

/-- the `enter` events of the two-sided walk are the pre-order walk `search_eq_filter` speaks about -/
theorem enter_events_are_walk (K : Kinds) (t : Tree) :
    ((walkBoth K t).filter (fun ev => On.enter.keeps ev.2)).map (·.1) = walk K t :=
  walk_of_both K t

-- a node that matches although its last descendant does not, and the other way round: `[a, [1]]`-like shapes;
-- every event carries its own node's verdict (2 events for the outer list, none for the inner one)
private def listK : Nat := Pfst.Gen.Leaf.kList
private def evT : Tree :=
  .node 0 listK [.node 1 Pfst.Gen.Leaf.listKind
    [.node 2 Pfst.Gen.Leaf.kName [.node 3 1000 [], .node 4 Pfst.Gen.Leaf.kLoad []],
     .node 5 listK [.node 6 Pfst.Gen.Leaf.listKind [.node 7 Pfst.Gen.Leaf.kConstant [.node 8 1001 [], .node 9 Pfst.Gen.Leaf.noneKind []]],
                    .node 10 Pfst.Gen.Leaf.kLoad []]],
    .node 11 Pfst.Gen.Leaf.kLoad []]
private def evP : Pat :=
  .node listK [.node Pfst.Gen.Leaf.listKind [.m (.type Pfst.Gen.Leaf.kName) (some 0) [], .type listK], .wild]
example : (searchEvents Pfst.Gen.Leaf.kinds evP .both evT).map (fun ev => (ev.1.id, ev.2.1)) = [(0, false), (0, true)] ∧
    (searchEvents Pfst.Gen.Leaf.kinds evP .leave evT).map (fun ev => (ev.1.id, ev.2.1)) = [(0, true)] := by decide +kernel

/-! ## quantifiers -/

/-
`matchList ps xs = (allMatches ps xs).head?` does not hold for all pattern sequences: it is false when a quantified
sublist itself contains a quantifier (`list_regex_false_reentry`, finding C17-F3: the matcher has no way back into a
finished iteration).  It is proved for every other shape.
-/
/-- **Quantifiers are regular expressions** when no quantified sublist contains a quantifier: for every pattern
sequence of elements, wildcards, tagged elements, back-references and greedy / non-greedy `{min,max}` quantifiers
(`min ≤ max`; with or without pattern tag and static tags) over a single element pattern or over a non-empty sublist of
element patterns, and every element sequence, the matcher as written returns exactly the first match of the ordered
list-of-successes semantics — same accept/reject, same tags. -/
theorem list_regex_partial (ps : List LPat) (xs : List Nat) (h : ps.all simpleItem = true) :
    matchList ps xs = (allMatches ps xs).head? :=
  matchList_eq_spec ps xs h

private def star : QSpec := { mn := 0, mx := none, greedy := true }

/-- `[MQ(['a', MQSTAR('b')], 1, 2), 'b']` rejects `[a, b, b]` in the code as written; `(?:ab*){1,2}b` matches `abb`
(finding C17-F3: a choice point inside a finished sublist iteration is never re-entered). -/
theorem list_regex_false_reentry :
    matchList [.ql { mn := 1, mx := some 2, greedy := true } [.elem (.lit 0), .qs star (.lit 1)], .elem (.lit 1)] [0, 1, 1] = none ∧
    specMatch [.ql { mn := 1, mx := some 2, greedy := true } [.elem (.lit 0), .qs star (.lit 1)], .elem (.lit 1)] [0, 1, 1] = some [] := by
  decide +kernel

-- the former counterexamples C17-F2 (`(?:ab)*bc` on `abc`) and C17-F4 (static tags on a bounded greedy quantifier)
-- are inside the proved fragment; the repaired matcher rejects / reports the capture of the kept iteration
private def f2Ps : List LPat := [.ql star [.elem (.lit 0), .elem (.lit 1)], .elem (.lit 1), .elem (.lit 2)]
private def f4Ps : List LPat :=
  [.qs { mn := 0, mx := some 2, greedy := true, static := [(5, 1)] } (.cap 0 .any), .elem (.lit 1), .elem (.lit 2)]
example : f2Ps.all simpleItem = true ∧ f4Ps.all simpleItem = true := by decide
example : matchList f2Ps [0, 1, 2] = none ∧ (matchList f2Ps [0, 1, 0, 1, 1, 2]).isSome = true := by decide +kernel
example : (matchList f4Ps [0, 1, 2]).map (fun d => (lookup d 0, lookup d 5)) =
    some (some (.elem 0 0), some (.static 1)) := by decide +kernel

/-! ## non-vacuity -/

-- a pattern sequence in the proved fragment with a tag, a back-reference, a non-greedy and a bounded quantifier, that
-- matches with back-tracking: M(t0=...), MQSTAR.NG(...), MQ(MTAG('t0'), 1, 2), 'b'  on  [a, c, a, a, b]
private def exPs : List LPat :=
  [.elem (.cap 0 .any), .qs { mn := 0, mx := none, greedy := false } .any,
   .qs { mn := 1, mx := some 2, greedy := true, tag := some 1 } (.ref 0), .elem (.lit 1)]
-- a back-reference to a capture made inside a keyword member of MAND: `.*?(?P<k>(?P<v>.))(?P=v).*` on [b, a, a]
private def exAnd : List LPat :=
  [.qs { mn := 0, mx := none, greedy := false } .any, .elem (.and2 none .any (some 1) (.cap 0 .any)), .elem (.ref 0),
   .qs { mn := 0, mx := none, greedy := true } .any]
example : exAnd.all simpleItem = true ∧
    (matchList exAnd [1, 0, 0]).map (fun d => (lookup d 0, lookup d 1)) = some (some (.elem 1 0), some (.elem 1 0)) ∧
    matchList exAnd [0, 1, 0] = none := by decide +kernel
example : exPs.all simpleItem = true := by decide
example : (matchList exPs [0, 2, 0, 0, 1]).isSome = true ∧ matchList exPs [0, 2, 0, 2, 1] = none := by decide +kernel
example : (allMatches exPs [0, 0, 0, 0, 1]).length = 2 := by decide +kernel

private def exT : Tree := .node 0 Pfst.Gen.Leaf.kBinOp [.node 1 Pfst.Gen.Leaf.kName [.node 2 1000 [], .node 3 Pfst.Gen.Leaf.kLoad []],
  .node 4 Pfst.Gen.Leaf.kAdd [], .node 5 Pfst.Gen.Leaf.kConstant [.node 6 1001 [], .node 7 Pfst.Gen.Leaf.noneKind []]]
private def exT' : Tree := .node 9 Pfst.Gen.Leaf.kBinOp [.node 8 Pfst.Gen.Leaf.kName [.node 7 1000 [], .node 6 Pfst.Gen.Leaf.kLoad []],
  .node 5 Pfst.Gen.Leaf.kAdd [], .node 4 Pfst.Gen.Leaf.kConstant [.node 3 1002 [], .node 2 Pfst.Gen.Leaf.noneKind []]]
example : diff1 exT exT' = true := by decide
example : Pfst.Gen.Leaf.kName ∈ Pfst.Gen.Leaf.all ∧ Pfst.Gen.Leaf.kName ∉ Pfst.Gen.Leaf.badTargets := by decide
example : (walk Pfst.Gen.Leaf.kinds exT).length = 5 := by decide +kernel

end Pfst.C17
