import Pfst.RawLemmas
import Pfst.RawSeq
import Pfst.ModifyingLemmas
import Pfst.Offset

/-!
# C10 — raw source edits are equivalent to re-parsing the whole file, or change nothing

Property theorems about the model of the raw reparse (`Pfst/Raw.lean`).

FULL STATEMENT (properties.jsonl C10), for the model: for every parser, state, rectangle and text, `runRaw` raises and
leaves the state untouched, or the lines are the requested splice and `tree' = fullParse lines'`; it succeeds iff
`fullParse lines'` succeeds.

The model describes the REPAIRED code (fixes C10-F1, C10-F6, C10-F4, C10-F2): the incremental statement-level result is
used only when the wrapper parses, the node is found and the guard holds (exactly one node of the same kind at the same
place, nothing after it); in every other case nothing has been touched and the whole source is reparsed with the root's
own mode.  Proved in full: atomicity, the text part, "refused only if the new source is invalid" and "a valid new source
is accepted" (`raw_atomic`, `raw_src`, `raw_refuses_only_invalid`, `raw_valid_accepted`), whole-source fallback = full
parse (`raw_fallback_is_full_parse`), the geometry of the wrapper, the registry statements.  Still partial: "accepted
only if valid" and "tree = full parse" on the incremental path need that the guard implies locality of the parser
(`GuardSound`; at tree level `ParseLocal` + ancestor ends, `reparse_eq_full_partial`); the guard is shown to refuse the
incremental result on every recorded witness of the former findings (`guard_rejects_known_witnesses`), and the former
counterexamples are now positive statements (`reparse_eq_full_f6`, `f8_invalid_edit_refused`, `f9_valid_edit_accepted`).
Not covered: a statement that starts at (0,1)..(0,3) is still refused with NotImplementedError (`plan` = `.error
.degenerate`, finding C10-F7; `tests/test_fst.py::test_put_src_reparse_special` asserts it).
-/
namespace Pfst.C10
open Pfst.Raw

/-! ## geometry of the wrapper -/

/-- In every wrapper family built by `wrapIndented` (column-0 padding, `if _:` + blank lines + `pcol_indent`, `try:` +
spaces ... `finally: pass`) every line `i > pln` of the region sits at the same line number, unchanged, and line `pln` is
`pad ++ (rest of the line from pcol)` with `pad.length = pcol` (both `dpcol` branches), so character columns of the
region are the same in the copy and in the real source. -/
theorem wrapper_cols (lines : Lines) (f : Facts) (pendLn : Nat) (cl : Lines) (fl : Nat)
    (h : wrapIndented lines f pendLn = some (cl, fl)) (hp : f.pln ≤ pendLn) (hl : pendLn < lines.length) :
    (∀ i, f.pln < i → i ≤ pendLn → lineAt cl i = lineAt lines i) ∧
    (∃ pad, lineAt cl f.pln = pad ++ (lineAt lines f.pln).drop f.pcol ∧ pad.length = f.pcol) := by
  unfold wrapIndented at h
  split at h
  · -- column 0: blank lines, then the region
    next h0 =>
    cases h
    have hin i (hi : f.pln ≤ i) (hie : i ≤ pendLn) :=
      lineAt_prefix_slice (List.replicate f.pln []) lines f.pln (pendLn + 1) i List.length_replicate hi (by omega)
    exact ⟨fun i hi => hin i (by omega), [], by rw [hin f.pln (Nat.le_refl _) hp, eq_of_beq h0]; rfl,
      (eq_of_beq h0).symm⟩
  · split at h
    · -- `if _:`, blank lines, the re-indented first line, then the rest of the region
      next hpl =>
      cases h
      have hlen : ("if _:".toList :: List.replicate (f.pln - 1) ([] : Line)).length = f.pln := by
        have : f.pln ≠ 0 := by simpa using hpl
        rw [List.length_cons, List.length_replicate]; omega
      refine ⟨fun i hi hie => lineAt_prefix_slice _ lines (f.pln + 1) (pendLn + 1) i ?_ hi (by omega),
        pcolIndent f.indent f.pcol, ?_, pcolIndent_length _ _⟩
      · rw [List.length_append, hlen]; rfl
      · rw [lineAt_append_left _ _ _ (by rw [List.length_append, hlen]; exact Nat.lt_succ_self _)]
        exact lineAt_append_cons _ [] _ _ hlen
    · split at h
      · cases h
      · -- `try:` + padding on line 0 (so `pln = 0`, `pcol ≥ 4`), the rest of the region, `finally: pass`
        next hpl hlt =>
        cases h
        have hpl : f.pln = 0 := by simpa using hpl
        refine ⟨fun i hi hie => ?_, "try:".toList ++ spaces (f.pcol - 4), by rw [hpl]; rfl, ?_⟩
        · rw [lineAt_append_left _ _ _ (by rw [List.length_cons, slice_length _ _ _ hl]; omega)]
          exact lineAt_prefix_slice [_] lines 1 (pendLn + 1) i rfl (by omega) (by omega)
        · rw [List.length_append, spaces_length]
          have : "try:".toList.length = 4 := by decide
          omega

/-- On the first line of the region, the byte column of a character position in the copy plus `first_line_col_delta` is
its byte column in the real source, when the padding is one byte per character.  `k` characters into the region's first
line: copy prefix is `pad ++ rest.take k`, real prefix is `pre ++ rest.take k` with `pre = line.take pcol`,
`delta = utf8Len pre - pcol`. -/
theorem wrapper_bytes (line pad : Line) (pcol k : Nat) (hpad : pad.length = pcol) (hascii : Ascii pad)
    (_hpc : pcol ≤ line.length) :
    ((utf8Len ((pad ++ line.drop pcol).take (pcol + k)) : Nat) : Int) + ((utf8Len (line.take pcol) : Int) - pcol)
      = (utf8Len (line.take (pcol + k)) : Int) := by
  have h1 : (pad ++ line.drop pcol).take (pcol + k) = pad ++ (line.drop pcol).take k := by
    rw [List.take_append, hpad]; simp [List.take_of_length_le (by omega : pad.length ≤ pcol + k)]
  have h2 : line.take (pcol + k) = line.take pcol ++ (line.drop pcol).take k := by
    rw [List.take_add]
  rw [h1, h2, utf8Len_append, utf8Len_append, utf8Len_ascii pad hascii, hpad]
  omega

/-- The paddings the code builds are one byte per character (for an indentation string that is). -/
theorem wrapper_pads_ascii (indent : Line) (pcol : Nat) (h : Ascii indent) :
    Ascii (pcolIndent indent pcol) ∧ Ascii ("try:".toList ++ spaces (pcol - 4)) :=
  ⟨pcolIndent_ascii _ _ h, ascii_append _ _ (by intro c hc; revert c; decide) (ascii_spaces _)⟩

/-- What `wrapper_cols` and the truncation at `pend` rely on. -/
theorem rect_in_region_lines (f : Facts) (r : Rect) (h : rectInRegion f r = true) : f.pln ≤ r.ln ∧ r.endLn ≤ f.pendLn := by
  simp only [rectInRegion, Bool.and_eq_true, Bool.or_eq_true, decide_eq_true_eq, beq_iff_eq] at h
  omega

/-- If the parser rejects the copy, the real state is exactly as before (the copy was private). -/
theorem reparse_atomic {T W : Type} (parse : Lines → Option W) (fix : T → W → T) (st : St T) (copy new : Lines)
    (r : Rect) (h : parse (putSrc copy new r) = none) :
    (runBase parse fix st copy new r).self = st ∧ (runBase parse fix st copy new r).raised = true := by
  simp [runBase, h]

/-- If the parser accepts the copy, the real lines are the requested splice and the tree is the fix-up applied to the
old tree and the parse result. -/
theorem reparse_src {T W : Type} (parse : Lines → Option W) (fix : T → W → T) (st : St T) (copy new : Lines)
    (r : Rect) (w : W) (h : parse (putSrc copy new r) = some w) :
    (runBase parse fix st copy new r).self.lines = putSrc st.lines new r
    ∧ (runBase parse fix st copy new r).self.tree = fix st.tree w
    ∧ (runBase parse fix st copy new r).raised = false := by
  simp [runBase, h]

/-- The operation succeeds exactly when the text handed to the parser (the WRAPPER with the splice) parses — not when
the whole new source parses (that is the full statement). -/
theorem reparse_ok_iff_wrapper_parses {T W : Type} (parse : Lines → Option W) (fix : T → W → T) (st : St T)
    (p : Plan) (new : Lines) (r : Rect) :
    (runBase parse fix st p.copyLines new r).raised = false ↔ (parse (handed p new r)).isSome = true := by
  unfold handed runBase
  cases h : parse (putSrc p.copyLines new r) <;> simp [h]

/-! ## the repaired entry: incremental attempt, guard, whole-source fallback -/

section
variable {T W : Type} (parse : Lines → Option W) (guard : W → Bool) (fix : T → W → T)
  (parseFull : Lines → Option T) (st : St T) (copy new : Lines) (r : Rect)

theorem runBase_eq :
    runBase parse fix st copy new r =
      match parse (putSrc copy new r) with
      | none => { self := st, copy := putSrc copy new r, raised := true }
      | some w => { self := { lines := putSrc st.lines new r, tree := fix st.tree w }, copy := putSrc copy new r,
                    raised := false } := rfl

theorem runRaw_fallback (hno : ∀ w, parse (putSrc copy new r) = some w → guard w = false) :
    runRaw parse guard fix parseFull st copy new r = runBase parseFull (fun _ t => t) st st.lines new r := by
  unfold runRaw
  split
  · next w hp => rw [hno w hp]; rfl
  · rfl

theorem runRaw_cases :
    (∃ w, parse (putSrc copy new r) = some w ∧ guard w = true ∧
        runRaw parse guard fix parseFull st copy new r =
          { self := { lines := putSrc st.lines new r, tree := fix st.tree w }, copy := putSrc copy new r, raised := false })
    ∨ (∃ t, parseFull (putSrc st.lines new r) = some t ∧
        runRaw parse guard fix parseFull st copy new r =
          { self := { lines := putSrc st.lines new r, tree := t }, copy := putSrc st.lines new r, raised := false })
    ∨ (parseFull (putSrc st.lines new r) = none ∧
        runRaw parse guard fix parseFull st copy new r = { self := st, copy := putSrc st.lines new r, raised := true }) := by
  by_cases h : ∃ w, parse (putSrc copy new r) = some w ∧ guard w = true
  · obtain ⟨w, hp, hg⟩ := h
    exact .inl ⟨w, hp, hg, by simp only [runRaw, hp, hg, if_true, runBase_eq]⟩
  · rw [runRaw_fallback parse guard fix parseFull st copy new r fun w hp => Bool.eq_false_iff.2 fun hg => h ⟨w, hp, hg⟩,
      runBase_eq]
    cases parseFull (putSrc st.lines new r) <;> simp

/-- The operation raises only if the whole new source does not parse (false of the code before the repair: findings F4,
F5). -/
theorem raw_refuses_only_invalid (h : (runRaw parse guard fix parseFull st copy new r).raised = true) :
    parseFull (putSrc st.lines new r) = none := by
  rcases runRaw_cases parse guard fix parseFull st copy new r with ⟨w, _, _, e⟩ | ⟨t, _, e⟩ | ⟨_, e⟩ <;> simp_all

theorem raw_valid_accepted (h : (parseFull (putSrc st.lines new r)).isSome = true) :
    (runRaw parse guard fix parseFull st copy new r).raised = false := by
  refine Bool.eq_false_iff.2 fun hr => ?_
  rw [raw_refuses_only_invalid parse guard fix parseFull st copy new r hr] at h
  cases h

end

/-- If the operation raises, source and tree are exactly as before. -/
theorem raw_atomic {T W : Type} (parse : Lines → Option W) (guard : W → Bool) (fix : T → W → T)
    (parseFull : Lines → Option T) (st : St T) (copy new : Lines) (r : Rect)
    (h : (runRaw parse guard fix parseFull st copy new r).raised = true) :
    (runRaw parse guard fix parseFull st copy new r).self = st := by
  rcases runRaw_cases parse guard fix parseFull st copy new r with ⟨w, _, _, e⟩ | ⟨t, _, e⟩ | ⟨_, e⟩ <;> simp_all

/-- If it returns, the source is the requested splice. -/
theorem raw_src {T W : Type} (parse : Lines → Option W) (guard : W → Bool) (fix : T → W → T)
    (parseFull : Lines → Option T) (st : St T) (copy new : Lines) (r : Rect)
    (h : (runRaw parse guard fix parseFull st copy new r).raised = false) :
    (runRaw parse guard fix parseFull st copy new r).self.lines = putSrc st.lines new r := by
  rcases runRaw_cases parse guard fix parseFull st copy new r with ⟨w, _, _, e⟩ | ⟨t, _, e⟩ | ⟨_, e⟩ <;> simp_all

/-- Whenever the incremental result is not used (wrapper rejected, node not found, guard false) and the operation
returns, the tree IS the full parse of the new source. -/
theorem raw_fallback_is_full_parse {T W : Type} (parse : Lines → Option W) (guard : W → Bool) (fix : T → W → T)
    (parseFull : Lines → Option T) (st : St T) (copy new : Lines) (r : Rect)
    (hno : ∀ w, parse (putSrc copy new r) = some w → guard w = false)
    (h : (runRaw parse guard fix parseFull st copy new r).raised = false) :
    parseFull (putSrc st.lines new r) = some (runRaw parse guard fix parseFull st copy new r).self.tree := by
  rw [runRaw_fallback parse guard fix parseFull st copy new r hno, runBase_eq] at h ⊢
  split at h <;> simp_all

/-- What is still assumed of the external parser on the incremental path: if the wrapper parses to `w` and the guard
accepts `w`, then the whole new source parses to the tree the graft produces.  (At tree level this is
`reparse_eq_full_partial`.) -/
def GuardSound {T W : Type} (parse : Lines → Option W) (guard : W → Bool) (fix : T → W → T)
    (parseFull : Lines → Option T) (st : St T) (copy new : Lines) (r : Rect) : Prop :=
  ∀ w, parse (putSrc copy new r) = some w → guard w = true → parseFull (putSrc st.lines new r) = some (fix st.tree w)

/-- Under `GuardSound`, whenever the operation returns the tree is the full parse of the new source. -/
theorem raw_eq_full_partial {T W : Type} (parse : Lines → Option W) (guard : W → Bool) (fix : T → W → T)
    (parseFull : Lines → Option T) (st : St T) (copy new : Lines) (r : Rect)
    (gs : GuardSound parse guard fix parseFull st copy new r)
    (h : (runRaw parse guard fix parseFull st copy new r).raised = false) :
    parseFull (putSrc st.lines new r) = some (runRaw parse guard fix parseFull st copy new r).self.tree := by
  rcases runRaw_cases parse guard fix parseFull st copy new r with ⟨w, hp, hg, e⟩ | ⟨t, hf, e⟩ | ⟨_, e⟩
  · rw [e]; exact gs w hp hg
  all_goals simp_all

/-- Under `GuardSound` the operation succeeds exactly when the new whole source is valid.  (The direction "valid →
succeeds" needs no hypothesis: `raw_valid_accepted`.) -/
theorem raw_ok_iff_valid_partial {T W : Type} (parse : Lines → Option W) (guard : W → Bool) (fix : T → W → T)
    (parseFull : Lines → Option T) (st : St T) (copy new : Lines) (r : Rect)
    (gs : GuardSound parse guard fix parseFull st copy new r) :
    (runRaw parse guard fix parseFull st copy new r).raised = false ↔ (parseFull (putSrc st.lines new r)).isSome = true := by
  constructor
  · intro h; rw [raw_eq_full_partial parse guard fix parseFull st copy new r gs h]; rfl
  · exact raw_valid_accepted parse guard fix parseFull st copy new r

theorem movePt_eq (o : Off) (l c : Int) :
    movePt o l c = if l > o.lno ∨ (l = o.lno ∧ c ≥ o.colo) then (l + o.dln, if l = o.lno then c + o.dcol else c) else (l, c) := by
  unfold movePt; grind

/-- With `tail = head = True` the equal-column disjuncts of `endMoves` (and of `startMoves` below) hold whatever `fwd` and
`zero` are, so each test is "at or after the point", which is the test of `movePt`. -/
theorem endMoves_tt (o : Off) (p : Pfst.Offset.Pos) :
    Pfst.Offset.endMoves { lno := o.lno, colo := o.colo, dln := o.dln, dcol := o.dcol, tail := .t, head := .t } p
      = decide (p.elno > o.lno ∨ (p.elno = o.lno ∧ p.ecol ≥ o.colo)) := by
  unfold Pfst.Offset.endMoves; grind

theorem startMoves_tt (o : Off) (p : Pfst.Offset.Pos) :
    Pfst.Offset.startMoves { lno := o.lno, colo := o.colo, dln := o.dln, dcol := o.dcol, tail := .t, head := .t } p
      = decide (p.lno > o.lno ∨ (p.lno = o.lno ∧ p.col ≥ o.colo)) := by
  unfold Pfst.Offset.startMoves; grind

/-- `movePos` (everything at or after the point moves) is `_offset` with `tail = head = True` as modelled for C11
(`Pfst.Offset.offsetPos`). -/
theorem movePos_eq_offsetPos (o : Off) (a b c d : Int) :
    let q := Pfst.Offset.offsetPos { lno := o.lno, colo := o.colo, dln := o.dln, dcol := o.dcol, tail := .t, head := .t }
               ⟨a, b, c, d⟩
    let p := movePos o ⟨a, b, c, d⟩
    q.lno = p.lno ∧ q.col = p.col ∧ q.elno = p.elno ∧ q.ecol = p.ecol := by
  simp only [Pfst.Offset.offsetPos, endMoves_tt, startMoves_tt, movePos, movePt_eq]
  grind

/-- pointwise relation between two lists of equal length (core has no `Forall₂`) -/
inductive Forall2 {α β : Type} (R : α → β → Prop) : List α → List β → Prop where
  | nil : Forall2 R [] []
  | cons {a b l1 l2} : R a b → Forall2 R l1 l2 → Forall2 R (a :: l1) (b :: l2)

/-- the start of an ancestor is strictly before the offset point -/
def startsBefore (o : Off) (p : Pos) : Prop := p.lno < o.lno ∨ (p.lno = o.lno ∧ p.col < o.colo)

/-- Parser-side relation between an ancestor frame of the OLD tree and the corresponding frame of the full parse of the
NEW source: same kind; the siblings off the path are the old ones, moved as text moves; the ancestor starts where it did
(and that is before the edit). -/
def FrameLocal (o : Off) (f fR : Frame) : Prop :=
  fR.kind = f.kind ∧ fR.left = mapList (movePos o) f.left ∧ fR.right = mapList (movePos o) f.right ∧
  (match f.pos, fR.pos with
   | none, none => True
   | some p, some q => q.lno = p.lno ∧ q.col = p.col ∧ startsBefore o p
   | _, _ => False)

/-- The ancestor's end in the full parse is its old end moved as text moves. -/
def FrameEndStable (o : Off) (f fR : Frame) : Prop :=
  match f.pos, fR.pos with
  | some p, some q => (q.elno, q.ecol) = movePt o p.elno p.ecol
  | _, _ => True

/-- The external parser is compositional on the chosen region: the full parse of the new source is the old context (moved
as text moves) around the node that the wrapper parse produced (after the first-line byte delta). -/
def ParseLocal (o : Off) (m : TreeMode) (z : Zip) (sub full : Node) (ctxR : List Frame) : Prop :=
  full = plug ctxR (applyDelta m.firstLineno m.delta sub) ∧ Forall2 (FrameLocal o) z.ctx ctxR

/-- No ancestor's end is determined by the region's new end. -/
def AncestorEndsStable (o : Off) (z : Zip) (ctxR : List Frame) : Prop :=
  Forall2 (FrameEndStable o) z.ctx ctxR

theorem frame_eq (o : Off) (f fR : Frame) (h1 : FrameLocal o f fR) (h2 : FrameEndStable o f fR) :
    fR = mapFrame (movePos o) f := by
  obtain ⟨k, p, l, r⟩ := f
  obtain ⟨kR, pR, lR, rR⟩ := fR
  obtain ⟨hk, hl, hr, hp⟩ := h1
  simp only at hk hl hr hp
  subst hk hl hr
  simp only [mapFrame, Frame.mk.injEq, true_and, and_true]
  match p, pR, hp, h2 with
  | none, none, _, _ => rfl
  | some p, some q, ⟨h3, h4, h5⟩, h2 =>
    -- the start is before the offset point and stays; the end is what `FrameEndStable` says
    have hs : movePt o p.lno p.col = (p.lno, p.col) := by
      rw [movePt_eq, if_neg (by unfold startsBefore at h5; omega)]
    cases q
    subst h3 h4
    simp only [FrameEndStable] at h2
    simp only [Option.map_some, movePos, hs, ← h2]

theorem ctx_eq (o : Off) (ctx ctxR : List Frame) (h1 : Forall2 (FrameLocal o) ctx ctxR)
    (h2 : Forall2 (FrameEndStable o) ctx ctxR) : ctxR = ctx.map (mapFrame (movePos o)) := by
  induction h1 with
  | nil => rfl
  | cons hf _ ih =>
    cases h2 with
    | cons he ht =>
      rw [List.map_cons, frame_eq o _ _ hf he, ih ht]

/-- For a whole-statement graft, if the parser is local on the region (`ParseLocal`), no ancestor ends exactly with the
old node (`tailIdx = none`, so `_set_end_pos` is not called) and the ancestors' ends move as text moves
(`AncestorEndsStable`), the tree left by the operation IS the full parse of the new source — every kind, every position.
(The case where an ancestor does end with the node is `reparse_eq_full_f6`.) -/
theorem reparse_eq_full_partial (o : Off) (m : TreeMode) (z : Zip) (sub full : Node)
    (hm : m.setAst = true) (ht : tailIdx z.focus.endPtD z.ctx 0 = none)
    (ctxR : List Frame) (pl : ParseLocal o m z sub full ctxR) (aes : AncestorEndsStable o z ctxR) :
    (reparseTree o m z sub).tree = full := by
  rw [pl.1, ctx_eq o z.ctx ctxR pl.2 aes]
  simp [reparseTree, hm, ht, Zip.tree]

/-! ## the former counterexamples, now positive -/

/-- F6 instance (kinds: 0 Module, 1 If, 2 Name, 3 Expr).  Source `if a:\n    bc`, `put_src('#', 1, 5, 1, 5)` gives
`if a:\n    b#c`.  The region is the statement `bc`; the wrapper `if _:\n    b#c` parses to `Expr(Name b)` at
(2,4)-(2,5).  `_offset` moves the end of the enclosing `If` from (2,6) to (2,7); CPython's full parse has (2,5). -/
def f6Off : Off := paramsOffset 1 1 1 5 1 5
def f6Mode : TreeMode := { setAst := true, firstLineno := 2, delta := 0, nOldHead := 0, nNewHead := 0,
                           noEndCopy := false, follows := false }
def f6Zip : Zip :=
  { ctx := [{ kind := 1, pos := some ⟨1, 0, 2, 6⟩, left := [.mk 2 (some ⟨1, 3, 1, 4⟩) []], right := [] },
            { kind := 0, pos := none, left := [], right := [] }],
    focus := .mk 3 (some ⟨2, 4, 2, 6⟩) [.mk 2 (some ⟨2, 4, 2, 6⟩) []] }
def f6Sub : Node := .mk 3 (some ⟨2, 4, 2, 5⟩) [.mk 2 (some ⟨2, 4, 2, 5⟩) []]
def f6Full : Node :=
  .mk 0 none [.mk 1 (some ⟨1, 0, 2, 5⟩) [.mk 2 (some ⟨1, 3, 1, 4⟩) [], .mk 3 (some ⟨2, 4, 2, 5⟩) [.mk 2 (some ⟨2, 4, 2, 5⟩) []]]]
def f6CtxR : List Frame :=
  [{ kind := 1, pos := some ⟨1, 0, 2, 5⟩, left := [.mk 2 (some ⟨1, 3, 1, 4⟩) []], right := [] },
   { kind := 0, pos := none, left := [], right := [] }]

/-- On the F6 instance the parser is local on the region, the enclosing `If` ends with the region so its end does NOT
simply move with the text (`AncestorEndsStable` fails) — and the repaired operation, which re-propagates the end of the
new node to the ancestors that ended with the old one, leaves exactly the full parse.  The guard accepts the instance. -/
theorem reparse_eq_full_f6 :
    ParseLocal f6Off f6Mode f6Zip f6Sub f6Full f6CtxR
    ∧ ¬ AncestorEndsStable f6Off f6Zip f6CtxR
    ∧ tailIdx f6Zip.focus.endPtD f6Zip.ctx 0 = some 0
    ∧ guardOk f6Mode f6Zip.focus (applyDelta f6Mode.firstLineno f6Mode.delta f6Sub) = true
    ∧ (reparseTree f6Off f6Mode f6Zip f6Sub).tree = f6Full := by
  refine ⟨⟨by rfl, ?_⟩, ?_, by decide, by decide, by rfl⟩
  · refine .cons ?_ (.cons ?_ .nil)
    · refine ⟨rfl, rfl, rfl, ?_⟩
      simp only [startsBefore, f6Off, paramsOffset]
      decide
    · exact ⟨rfl, rfl, rfl, trivial⟩
  · intro h
    cases h with
    | cons h _ =>
      simp only [FrameEndStable, f6Off, paramsOffset, movePt] at h
      revert h; decide

/-- A trailing semicolon belongs to the enclosing compound statement but not to the simple statement: `def g():\n    z;`
has `z` end at (2,5) and the `FunctionDef` at (2,6).  `_tail_parent` then answers `None` and the ancestor keeps its
(offset) end: re-parsing `z` in place leaves the tree as it was. (kinds: 4 FunctionDef) -/
theorem tail_not_past_semicolon :
    tailIdx (some (2, 5)) [{ kind := 4, pos := some ⟨1, 0, 2, 6⟩, left := [], right := [] },
                           { kind := 0, pos := none, left := [], right := [] }] 0 = none := by decide

/-- On the recorded witnesses of the former findings the guard refuses the incremental result, so the whole source
decides (`raw_fallback_is_full_parse`).
F2 `x` <- `y\n` at (0,0): the wrapper `y\nx` has a second statement after the node (`follows`).
F3 `def f():\n  a\n  b` <- four spaces before `a`: the node starts at byte column 6 instead of 2.
F8 `m; ` <- `class K:` at (0,0): the node is a `ClassDef` (kind 5), the old one an `Expr` (kind 3). -/
theorem guard_rejects_known_witnesses :
    guardOk { f6Mode with firstLineno := 0, follows := true } (.mk 3 (some ⟨1, 0, 1, 1⟩) [.mk 2 (some ⟨1, 0, 1, 1⟩) []])
        (.mk 3 (some ⟨1, 0, 1, 1⟩) [.mk 2 (some ⟨1, 0, 1, 1⟩) []]) = false
    ∧ guardOk f6Mode (.mk 3 (some ⟨2, 2, 2, 3⟩) [.mk 2 (some ⟨2, 2, 2, 3⟩) []])
        (.mk 3 (some ⟨2, 6, 2, 7⟩) [.mk 2 (some ⟨2, 6, 2, 7⟩) []]) = false
    ∧ guardOk { f6Mode with firstLineno := 0 } (.mk 3 (some ⟨1, 0, 1, 1⟩) [.mk 2 (some ⟨1, 0, 1, 1⟩) []])
        (.mk 5 (some ⟨1, 0, 1, 9⟩) [.mk 3 (some ⟨1, 8, 1, 9⟩) [.mk 2 (some ⟨1, 8, 1, 9⟩) []]]) = false := by
  decide

/-- F8 / F9 instances (text level).  F8: `def f():\n  a\n  b`, `put_src('    ', 1, 2, 1, 2)` (four spaces inserted before
`a`): the region is the statement `a` and its wrapper `if _:\n      a` is valid, the whole new source
`def f():\n      a\n  b` is not (`unindent does not match`).  F9: `x = 1; y = 2`, `put_src('\n', 0, 9, 0, 11)`: the region
is `y = 2` inside a `try:` wrapper whose text `try:   y \n2\nfinally: pass` is invalid, the whole new source
`x = 1; y \n2` is valid. -/
def f8Lines : Lines := ["def f():".toList, "  a".toList, "  b".toList]
def f8Facts : Facts := { kind := .simple, isElif := false, selfIsElif := false, isRoot := false, pln := 1, pcol := 2,
                         pendLn := 1, pendCol := 3, blkheadEnd := (0, 0), indent := "  ".toList }
def f8Rect : Rect := ⟨1, 2, 1, 2⟩
def f8New : Lines := ["    ".toList]

def f9Lines : Lines := ["x = 1; y = 2".toList]
def f9Facts : Facts := { kind := .simple, isElif := false, selfIsElif := false, isRoot := false, pln := 0, pcol := 7,
                         pendLn := 0, pendCol := 12, blkheadEnd := (0, 0), indent := [] }
def f9Rect : Rect := ⟨0, 9, 0, 11⟩
def f9New : Lines := [[], []]

def f8Plan : Plan := match plan f8Lines f8Facts 1 2 with | .ok p => p | .error _ => default
def f9Plan : Plan := match plan f9Lines f9Facts 0 11 with | .ok p => p | .error _ => default

/-- In the F8 instance the wrapper text `if _:` / `      a` still parses, but the guard refuses the result (the statement
no longer starts where it did), the whole new source `def f():` / `      a` / `  b` is handed to the parser, and since
that is invalid the operation raises and nothing has changed. -/
theorem f8_invalid_edit_refused {T W : Type} (parse : Lines → Option W) (guard : W → Bool) (fix : T → W → T)
    (parseFull : Lines → Option T) (t : T) (w : W)
    (h1 : parse ["if _:".toList, "      a".toList] = some w) (hg : guard w = false)
    (h2 : parseFull ["def f():".toList, "      a".toList, "  b".toList] = none) :
    plan f8Lines f8Facts 1 2 = .ok f8Plan
    ∧ handed f8Plan f8New f8Rect = ["if _:".toList, "      a".toList]
    ∧ (runRaw parse guard fix parseFull ⟨f8Lines, t⟩ f8Plan.copyLines f8New f8Rect).raised = true
    ∧ (runRaw parse guard fix parseFull ⟨f8Lines, t⟩ f8Plan.copyLines f8New f8Rect).self = ⟨f8Lines, t⟩ := by
  have hh : putSrc f8Plan.copyLines f8New f8Rect = ["if _:".toList, "      a".toList] := by decide +kernel
  have hs : putSrc f8Lines f8New f8Rect = ["def f():".toList, "      a".toList, "  b".toList] := by decide +kernel
  refine ⟨by rfl, hh, ?_⟩
  rw [runRaw_fallback _ _ _ _ _ _ _ _ fun w' hp => by rw [hh, h1] at hp; cases hp; exact hg]
  simp only [runBase_eq, hs, h2, and_self]

/-- In the F9 instance the wrapper text `try:   y ` / `2` / `finally: pass` is rejected, the whole new source `x = 1; y `
/ `2` is handed to the parser, and the operation returns with exactly that parse and the spliced source. -/
theorem f9_valid_edit_accepted {T W : Type} (parse : Lines → Option W) (guard : W → Bool) (fix : T → W → T)
    (parseFull : Lines → Option T) (t tR : T)
    (h1 : parse ["try:   y ".toList, "2".toList, "finally: pass".toList] = none)
    (h2 : parseFull ["x = 1; y ".toList, "2".toList] = some tR) :
    plan f9Lines f9Facts 0 11 = .ok f9Plan
    ∧ handed f9Plan f9New f9Rect = ["try:   y ".toList, "2".toList, "finally: pass".toList]
    ∧ (runRaw parse guard fix parseFull ⟨f9Lines, t⟩ f9Plan.copyLines f9New f9Rect).raised = false
    ∧ (runRaw parse guard fix parseFull ⟨f9Lines, t⟩ f9Plan.copyLines f9New f9Rect).self
        = ⟨["x = 1; y ".toList, "2".toList], tR⟩ := by
  have hh : putSrc f9Plan.copyLines f9New f9Rect = ["try:   y ".toList, "2".toList, "finally: pass".toList] := by decide +kernel
  have hs : putSrc f9Lines f9New f9Rect = ["x = 1; y ".toList, "2".toList] := by decide +kernel
  refine ⟨by rfl, hh, ?_⟩
  rw [runRaw_fallback _ _ _ _ _ _ _ _ fun w' hp => by rw [hh, h1] at hp; cases hp]
  simp only [runBase_eq, hs, h2, and_self]

/-- `_set_end_pos(new, old)` does not stop at an ancestor that has no position (a `match_case` between an inner and an
outer `Match`): every located ancestor above it that ended at `old` and is a last child gets the new end too; an
ancestor with a following sibling ends the walk.  (kinds: 8 Match, 9 match_case, 4 FunctionDef, 0 Module) -/
theorem tail_through_match_case :
    (setEndPosFrom (6, 20) (6, 27)
      [{ kind := 8, pos := some ⟨5, 8, 6, 27⟩, left := [], right := [] },
       { kind := 9, pos := none, left := [], right := [] },
       { kind := 8, pos := some ⟨2, 4, 6, 27⟩, left := [], right := [] },
       { kind := 4, pos := some ⟨1, 0, 6, 27⟩, left := [], right := [] },
       { kind := 0, pos := none, left := [], right := [.mk 3 (some ⟨8, 0, 8, 1⟩) []] }]).map (fun f => f.pos.map (fun p => (p.elno, p.ecol)))
    = [some (6, 20), none, some (6, 20), some (6, 20), none] := by
  rfl

/-! ## header-only reparse: the old blocks on the new header -/

theorem keepOld_some {α : Type} {a b : Option α} {l : α} (h : a = some l) : keepOld a b = some l := by rw [h]; rfl

theorem keepOld_none {α : Type} {a b : Option α} (h : a = none) : keepOld a b = b := by rw [h]; rfl

/-- After a header-only reparse every block field the old node has — EMPTY lists included — is the block field of the
result; only a field the old node does not have keeps what the wrapper parse put there. -/
theorem header_graft_keeps_old_blocks (old new : Blocks) :
    (∀ l, old.body = some l → (graftBlocks old new).body = some l)
    ∧ (∀ l, old.handlers = some l → (graftBlocks old new).handlers = some l)
    ∧ (∀ l, old.orelse = some l → (graftBlocks old new).orelse = some l)
    ∧ (∀ l, old.finalbody = some l → (graftBlocks old new).finalbody = some l)
    ∧ (∀ l, old.cases = some l → (graftBlocks old new).cases = some l)
    ∧ (old.body = none → (graftBlocks old new).body = new.body)
    ∧ (old.handlers = none → (graftBlocks old new).handlers = new.handlers)
    ∧ (old.orelse = none → (graftBlocks old new).orelse = new.orelse)
    ∧ (old.finalbody = none → (graftBlocks old new).finalbody = new.finalbody)
    ∧ (old.cases = none → (graftBlocks old new).cases = new.cases) :=
  ⟨fun _ => keepOld_some, fun _ => keepOld_some, fun _ => keepOld_some, fun _ => keepOld_some, fun _ => keepOld_some,
    keepOld_none, keepOld_none, keepOld_none, keepOld_none, keepOld_none⟩

theorem keepOld_eq_old {α : Type} (a b : Option α) (h : a.isSome = b.isSome) : keepOld a b = a := by
  cases a with
  | some _ => rfl
  | none => cases b with
    | none => rfl
    | some _ => cases h

/-- When the parsed header is a node of the same class (same set of block fields — the guard requires it), the blocks of
the result are exactly the old blocks, all five, whatever the synthetic wrapper contained. -/
theorem header_graft_same_class (old new : Blocks)
    (h1 : old.body.isSome = new.body.isSome) (h2 : old.handlers.isSome = new.handlers.isSome)
    (h3 : old.orelse.isSome = new.orelse.isSome) (h4 : old.finalbody.isSome = new.finalbody.isSome)
    (h5 : old.cases.isSome = new.cases.isSome) : graftBlocks old new = old := by
  simp only [graftBlocks, keepOld_eq_old _ _ h1, keepOld_eq_old _ _ h2, keepOld_eq_old _ _ h3, keepOld_eq_old _ _ h4,
    keepOld_eq_old _ _ h5]

/-- `try: ... finally: ...` without handlers: the wrapper parse of the header has the synthetic `except: pass` handler
(kind 6 here), the old node has `handlers == []`; the result has no handler.  With a truthiness test instead of
`is not None` (seeded change C10-seed2A, not the code) the synthetic handler would stay. -/
theorem try_finally_no_phantom_handler :
    let old : Blocks := { body := some [.mk 3 none []], handlers := some [], orelse := some [], finalbody := some [.mk 3 none []] }
    let new : Blocks := { body := some [.mk 7 none []], handlers := some [.mk 6 none []], orelse := some [], finalbody := some [] }
    (graftBlocks old new).handlers = some [] ∧ (graftBlocks old new).flat.length = 2 := by
  exact ⟨rfl, rfl⟩

/-! ## `clip_src_loc` and the returned end -/

theorem lenAt_nonneg (lines : Lines) (i : Int) : 0 ≤ lenAt lines i := Int.natCast_nonneg _

theorem clipCol_range (len : Int) (c : Coord) (h : 0 ≤ len) : 0 ≤ clipCol len c ∧ clipCol len c ≤ len := by
  cases c with
  | endc => exact ⟨h, Int.le_refl _⟩
  | idx i => simp only [clipCol]; split <;> omega

/-- Whatever integers or `'end'` are passed, a returned rectangle lies inside the source and its end does not precede its
start. -/
theorem clip_in_range (lines : Lines) (a b c d : Coord) (ln col eln ecol : Int) (hne : lines ≠ [])
    (h : clipSrcLoc lines a b c d = some (ln, col, eln, ecol)) :
    0 ≤ ln ∧ ln ≤ eln ∧ eln < lines.length ∧ 0 ≤ col ∧ col ≤ lenAt lines ln ∧ 0 ≤ ecol ∧ ecol ≤ lenAt lines eln
    ∧ (ln = eln → col ≤ ecol) := by
  have hlen : 0 < (lines.length : Int) := by
    have := List.length_pos_iff.2 hne; omega
  unfold clipSrcLoc at h
  simp only at h
  generalize normLn (lines.length : Int) a = x at h
  generalize normLn (lines.length : Int) c = y at h
  split at h
  · cases h
  · split at h
    · cases h
    · next hle hcol =>
      simp only [Option.some.injEq, Prod.mk.injEq] at h
      obtain ⟨rfl, rfl, rfl, rfl⟩ := h
      have r1 := clipCol_range _ b (lenAt_nonneg lines (max 0 (min (↑lines.length - 1) x)))
      have r2 := clipCol_range _ d (lenAt_nonneg lines (max 0 (min (↑lines.length - 1) y)))
      simp only [Bool.and_eq_true, beq_iff_eq, decide_eq_true_eq, not_and] at hcol
      exact ⟨by omega, by omega, by omega, r1.1, r1.2, r2.1, r2.2, fun he => by have := hcol he.symm; omega⟩

/-- In the spliced source, everything after the returned `(end_ln, end_col)` is exactly the old text after the replaced
rectangle ("all source after this was not modified"). -/
theorem ret_end_is_end_of_new_text (lines new : Lines) (r : Rect) (hln : r.ln < lines.length)
    (hcol : r.col ≤ (lineAt lines r.ln).length) (hnew : new ≠ []) :
    (lineAt (putSrc lines new r) (retEnd new r).1).drop (retEnd new r).2 = (lineAt lines r.endLn).drop r.endCol
    ∧ (putSrc lines new r).drop ((retEnd new r).1 + 1) = lines.drop (r.endLn + 1) := by
  obtain ⟨init, last, hs, he⟩ := putSrc_shape lines new r hcol hnew
  have hlen : (lines.take r.ln ++ init).length = r.ln + init.length := by
    rw [List.length_append, List.length_take]; omega
  rw [hs, he]
  constructor
  · rw [lineAt_append_cons _ _ _ _ hlen]; exact List.drop_left
  · rw [List.drop_append, hlen, List.drop_of_length_le (by omega)]
    simp

/-- non-vacuity of `clip_in_range` / `ret_end_is_end_of_new_text`: negative and `'end'` coordinates on a 2-line source -/
example : clipSrcLoc ["ab".toList, "cde".toList] (.idx (-2)) (.idx 1) .endc (.idx (-1)) = some (0, 1, 1, 2) := by decide +kernel
example : retEnd ["x".toList, "yz".toList] ⟨0, 1, 1, 2⟩ = (1, 2)
    ∧ putSrc ["ab".toList, "cde".toList] ["x".toList, "yz".toList] ⟨0, 1, 1, 2⟩ = ["ax".toList, "yze".toList] := by decide +kernel

/-- `wrapper_cols` hypotheses are met by a real shape: an indented statement on line 2 of 3. -/
example : ∃ cl fl, wrapIndented ["if a:".toList, "    é = 1".toList, "    y".toList]
    { kind := .simple, isElif := false, selfIsElif := false, isRoot := false, pln := 1, pcol := 4, pendLn := 1,
      pendCol := 9, blkheadEnd := (0, 0), indent := "    ".toList } 1 = some (cl, fl)
    ∧ cl = ["if _:".toList, "    é = 1".toList] ∧ fl = 2 := ⟨_, _, rfl, by decide +kernel, rfl⟩

/-- the negative `dpcol` branch: statement on a block header line, before where the block indent would put it -/
example : pcolIndent "    ".toList 2 = "  ".toList := by decide +kernel

/-- `reparse_eq_full_partial` hypotheses are met by a concrete non-trivial state: `if a:\n    bc\n    d`, replacing
`bc` by `xyz`: the enclosing `If` ends with the LATER statement `d`, so its end is stable. -/
def okOff : Off := paramsOffset 1 1 1 6 3 4
def okZip : Zip :=
  { ctx := [{ kind := 1, pos := some ⟨1, 0, 3, 5⟩, left := [.mk 2 (some ⟨1, 3, 1, 4⟩) []],
              right := [.mk 3 (some ⟨3, 4, 3, 5⟩) [.mk 2 (some ⟨3, 4, 3, 5⟩) []]] },
            { kind := 0, pos := none, left := [], right := [] }],
    focus := .mk 3 (some ⟨2, 4, 2, 6⟩) [.mk 2 (some ⟨2, 4, 2, 6⟩) []] }
def okSub : Node := .mk 3 (some ⟨2, 4, 2, 7⟩) [.mk 2 (some ⟨2, 4, 2, 7⟩) []]
def okFull : Node :=
  .mk 0 none [.mk 1 (some ⟨1, 0, 3, 5⟩) [.mk 2 (some ⟨1, 3, 1, 4⟩) [], .mk 3 (some ⟨2, 4, 2, 7⟩) [.mk 2 (some ⟨2, 4, 2, 7⟩) []],
                                          .mk 3 (some ⟨3, 4, 3, 5⟩) [.mk 2 (some ⟨3, 4, 3, 5⟩) []]]]

example : (reparseTree okOff f6Mode okZip okSub).tree = okFull := by
  have pl : ParseLocal okOff f6Mode okZip okSub okFull okZip.ctx :=
    ⟨by rfl, .cons ⟨rfl, by rfl, by rfl, by simp only [startsBefore, okOff, paramsOffset]; decide⟩
                  (.cons ⟨rfl, rfl, rfl, trivial⟩ .nil)⟩
  refine reparse_eq_full_partial okOff f6Mode okZip okSub okFull rfl (by decide) _ pl ?_
  refine .cons ?_ (.cons (by simp only [FrameEndStable]) .nil)
  simp only [FrameEndStable, okOff, paramsOffset, movePt]; decide

/-- `reparse_atomic` / `reparse_src` with a parser that rejects one text and accepts another. -/
example : (runBase (fun ls => if ls = [['x']] then some 1 else none) (fun (_ : Nat) w => w) ⟨[['a']], 0⟩ [['a']] [['(']] ⟨0, 0, 0, 1⟩).self
    = ⟨[['a']], 0⟩ := by rfl
example : (runBase (fun ls => if ls = [['x']] then some 1 else none) (fun (_ : Nat) w => w) ⟨[['a']], 0⟩ [['a']] [['x']] ⟨0, 0, 0, 1⟩).self
    = ⟨[['x']], 1⟩ := by rfl

/-! ## histories: the modification registry -/
open Pfst.Modifying

section
variable {T W : Type} (parse : Lines → Option W) (guard : W → Bool) (fix : T → W → T) (parseFull : Lines → Option T)

/-- On a well-formed registry a raw put is the `enter` check followed by `_reparse_raw` on the tree state alone: the
registry comes back as it was and contributes nothing to the outcome. -/
theorem rawPut_eq (w : World T) (e : Edit) (hwf : w.reg.wf = true) :
    rawPut parse guard fix parseFull w e =
      match enter e.node true false w.reg with
      | .error x => (w, some x)
      | .ok _ =>
        let m := runRaw parse guard fix parseFull w.st (e.copyOf w.st.lines) e.new e.rect
        (⟨m.self, w.reg⟩, if m.raised then some (Exc.user true) else none) := by
  unfold rawPut
  cases he : enter e.node true false w.reg with
  | error x => rfl
  | ok reg1 => simp only [(enter_then_exit e.node true false w.reg reg1 hwf he).2]

/-- One raw put restores the registry exactly, whether it returns, the parser refuses, or `enter()` itself refuses. -/
theorem raw_put_registry_restored (w : World T) (e : Edit) (hwf : w.reg.wf = true) :
    (rawPut parse guard fix parseFull w e).1.reg = w.reg := by
  rw [rawPut_eq _ _ _ _ w e hwf]
  split <;> rfl

/-- From the empty registry `enter` cannot refuse. -/
theorem rawPut_empty (st : St T) (e : Edit) :
    rawPut parse guard fix parseFull ⟨st, []⟩ e =
      (⟨(runRaw parse guard fix parseFull st (e.copyOf st.lines) e.new e.rect).self, []⟩,
       if (runRaw parse guard fix parseFull st (e.copyOf st.lines) e.new e.rect).raised then some (Exc.user true) else none) :=
  rawPut_eq parse guard fix parseFull ⟨st, []⟩ e rfl

/-- From an empty registry a raw put fails only with the parser's exception, exactly when `_reparse_raw` raises (that is,
by `raw_refuses_only_invalid`, only when the whole new source is invalid) — never with the registry's
`RuntimeError('nested modification ...')`. -/
theorem raw_put_outcome (st : St T) (e : Edit) :
    (rawPut parse guard fix parseFull ⟨st, []⟩ e).2 =
      if (runRaw parse guard fix parseFull st (e.copyOf st.lines) e.new e.rect).raised then some (Exc.user true) else none :=
  congrArg Prod.snd (rawPut_empty parse guard fix parseFull st e)

/-- Any history of raw puts (accepted and refused, on any nodes, any texts) leaves a well-formed registry exactly as it
found it. -/
theorem raw_seq_registry_restored (w : World T) (es : List Edit) (hwf : w.reg.wf = true) :
    (runSeq parse guard fix parseFull w es).1.reg = w.reg := by
  induction es generalizing w with
  | nil => rfl
  | cons e es ih =>
    have h := raw_put_registry_restored parse guard fix parseFull w e hwf
    rw [runSeq, ih _ (h ▸ hwf), h]

end

/-- In particular a history that starts with an empty registry ends with an empty registry. -/
theorem raw_seq_registry_empty {T W : Type} (parse : Lines → Option W) (guard : W → Bool) (fix : T → W → T)
    (parseFull : Lines → Option T) (st : St T) (es : List Edit) :
    (runSeq parse guard fix parseFull ⟨st, []⟩ es).1.reg = [] :=
  raw_seq_registry_restored parse guard fix parseFull ⟨st, []⟩ es rfl

/-- In such a history no step ever fails because of an earlier step: every outcome is "returned" or the parser's own
refusal. -/
theorem raw_seq_no_registry_error {T W : Type} (parse : Lines → Option W) (guard : W → Bool) (fix : T → W → T)
    (parseFull : Lines → Option T) (st : St T) (es : List Edit) :
    ∀ o ∈ (runSeq parse guard fix parseFull ⟨st, []⟩ es).2, o = none ∨ o = some (Exc.user true) := by
  induction es generalizing st with
  | nil => intro o ho; simp [runSeq] at ho
  | cons e es ih =>
    simp only [runSeq, rawPut_empty, List.mem_cons]
    rintro o (rfl | ho)
    · split <;> simp
    · exact ih _ o ho

/-- With the manual `enter() ... success()` protocol that forgets `fail()` (not the code; seeded mutation C10-seedB) a
refused put leaves its entry behind, and the next put — valid, on another node — is refused with the registry's `nested`
error.  Parser: rejects `(`, accepts everything else. -/
theorem leaky_seq_false :
    let parse : Lines → Option Nat := fun ls => if ls = [['(']] then none else some 0
    let e1 : Edit := ⟨⟨0, 1⟩, id, [['(']], ⟨0, 0, 0, 1⟩⟩
    let e2 : Edit := ⟨⟨0, 2⟩, id, [['b']], ⟨0, 0, 0, 1⟩⟩
    let r := runSeqLeaky parse (fun _ => true) (fun (_ : Nat) w => w) parse ⟨⟨[['a']], 0⟩, []⟩ [e1, e2]
    r.2 = [some (Exc.user true), some Exc.nested] ∧ r.1.reg ≠ [] ∧ r.1.st.lines = [['a']]
    ∧ (runSeq parse (fun _ => true) (fun (_ : Nat) w => w) parse ⟨⟨[['a']], 0⟩, []⟩ [e1, e2]).2
        = [some (Exc.user true), none] := by
  decide

end Pfst.C10
