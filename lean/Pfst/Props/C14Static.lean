import Pfst.TableCheckLemmas
import Pfst.Gen.SyntaxOrder
/-! C14, tables: static field orders. -/
namespace Pfst.C14
open Pfst

theorem static_field_order_A :
    Gen.SyntaxOrder.shapesEncA.all (TableCheck.staticOk Gen.SyntaxOrder.fieldOrder) = true :=
  TableCheck.all_imp (TableCheck.staticOk_of _) (by decide +kernel)

/-- The classes without a fixed field order are exactly the six position/index-interleaved ones (plus the two node
types that do not exist in the running Python and are not tabulated). -/
theorem non_static_classes :
    TableCheck.nonStatic Gen.SyntaxOrder.classes Gen.SyntaxOrder.fieldOrder
      = ["ClassDef", "Dict", "Compare", "Call", "Interpolation", "TemplateStr", "arguments", "MatchMapping"] := by
  rw [TableCheck.nonStatic_eq]
  decide +kernel

/-- The fixed field orders that differ from the field numbering (the AST-field order of `fst.astutil.FIELDS`), pinned:
a change of any class's child order is a broken proof obligation, not just different data. -/
theorem field_order_pinned :
    (TableCheck.namedOrder Gen.SyntaxOrder.classes Gen.SyntaxOrder.fieldOrder).filter
        (fun nf => nf.2 != List.range nf.2.length) = [] := by
  decide +kernel

end Pfst.C14
