import Pfst.CopyLemmas

/-!
# C07 — copying never disturbs the tree; extraction is faithful and loses nothing

Property theorems about the model of `_make_fst_and_dedent` (`Pfst/Copy.lean`), the one function through which `copy()`,
`cut()`, `get()` and `get_slice()` build the tree they return.  Lines are character lists, AST positions are byte
columns; `c2b` links the two.  Not covered here (judged per case by CPython in the harness): `copy_ast`, `_fix_copy`,
the trivia / separator span computations of the slice modules.
-/
namespace Pfst.C07
open Pfst.Offset Pfst.Copy

/-- the source document a copy hands back is exactly the one it was given — lines and tree. (The model
function has no way to write to it; the correspondence harness compares the real lines after every real call.) -/
theorem copy_pure (d : Doc) (sub : Node) (a : CopyArgs) : (copyNode d sub a).1 = d := rfl

/-- a cut returns the tree the copy returns and leaves the source that `_put_src(put_lines, *put_loc,
tail=True)` leaves; the new tree is built from the lines *before* the put. -/
theorem cut_eq (d : Doc) (sub : Node) (a : CopyArgs) (pl : Loc) (put : Option Lines) :
    cutNode d sub a pl put = (putSrcTail d pl put, (copyNode d sub a).2) := rfl

/-- on a geometrically ordered subtree the rebase walk (with the early exits of `_offset`) moves every
node, i.e. equals the naive map of `offsetPos` (C11's WARNING invariant, instantiated at the rebase parameters). -/
theorem rebase_tree (L : Lines) (ln col : Nat) (pfx : Option Lines) (sub : Node) (h : geo sub = true) :
    offsetTree (rebaseParams L ln col pfx) sub = naiveNode (rebaseParams L ln col pfx) sub :=
  goNode_eq_naive _ sub h

/-- every position of the copied subtree (starts at or after the copy start, ends strictly after it) is
moved by `(prefix_extra_lns - ln)` lines, and on the first copied line by `prefix_col_offset - c2b(col)` bytes; columns
on later lines are untouched. -/
theorem rebase_pos (L : Lines) (ln col : Nat) (pfx : Option Lines) (p : Pos)
    (hcol : col ≤ (lineAt L ln).length)
    (hs : (ln : Int) + 1 < p.lno ∨ (p.lno = (ln : Int) + 1 ∧ ((c2b (lineAt L ln) col : Nat) : Int) ≤ p.col))
    (he : (ln : Int) + 1 < p.elno ∨ (p.elno = (ln : Int) + 1 ∧ ((c2b (lineAt L ln) col : Nat) : Int) < p.ecol)) :
    offsetPos (rebaseParams L ln col pfx) p =
      ⟨p.lno + (((prefixExtra pfx).1 : Int) - ln),
       if p.lno = (ln : Int) + 1 then p.col + (((prefixExtra pfx).2 : Int) - (c2b (lineAt L ln) col : Nat)) else p.col,
       p.elno + (((prefixExtra pfx).1 : Int) - ln),
       if p.elno = (ln : Int) + 1 then p.ecol + (((prefixExtra pfx).2 : Int) - (c2b (lineAt L ln) col : Nat)) else p.ecol⟩ := by
  have hmin : min col (lineAt L ln).length = col := by omega
  have := offsetPos_rebase (rebaseParams L ln col pfx) p rfl rfl
    (by simp only [rebaseParams, hmin]; exact hs) (by simp only [rebaseParams, hmin]; exact he)
  simpa only [rebaseParams, hmin] using this

/-- Bytes vs characters: on the first line of the new root — `prefix[-1] ++ line[col:]` — the character
column `k` of the source (`col ≤ k`) sits at character `len(prefix[-1]) + k - col`, and its byte column is the source
byte column minus `c2b(col)` plus the prefix bytes: the byte rebase of `rebase_pos` is the image of the character
rebase. -/
theorem c2b_rebase (P l : Line) (col k : Nat) (h : col ≤ k) :
    c2b (P ++ l.drop col) (P.length + (k - col)) + c2b l col = blen P + c2b l k := by
  obtain ⟨d, rfl⟩ := Nat.exists_eq_add_of_le h
  unfold c2b
  rw [Nat.add_sub_cancel_left, List.take_length_add_append, blen_append, List.take_add, blen_append]
  omega

/-- the crop has one line per source line of the span. -/
theorem copy_lines_length (L : Lines) (ln col eln ecol : Nat) (h1 : ln ≤ eln) (h2 : eln < L.length) :
    (getSrc L ln col eln ecol).length = eln - ln + 1 := by
  by_cases h : eln = ln
  · rw [getSrc, if_pos (by simpa using h), h, Nat.sub_self]
    rfl
  · rw [getSrc_multi L ln col eln ecol h, List.length_cons, List.length_append,
      length_drop_take L _ eln (Nat.le_of_lt h2)]
    simp only [List.length_cons, List.length_nil]
    omega

/-- the first line of the crop is the first source line from `col` on (cut at `end_col` for a
one-line span). -/
theorem copy_text_first (L : Lines) (ln col eln ecol : Nat) :
    lineAt (getSrc L ln col eln ecol) 0 =
      if eln = ln then slice (lineAt L ln) col ecol else (lineAt L ln).drop col := by
  by_cases h : eln = ln
  · rw [if_pos h, getSrc, if_pos (by simpa using h)]
    rfl
  · rw [if_neg h, getSrc_multi L ln col eln ecol h]
    rfl

/-- inner lines of the crop are the source lines, unchanged. -/
theorem copy_text_mid (L : Lines) (ln col eln ecol i : Nat) (h2 : eln ≤ L.length) (hi0 : 0 < i)
    (hi : i < eln - ln) : lineAt (getSrc L ln col eln ecol) i = lineAt L (ln + i) := by
  obtain ⟨j, rfl⟩ : ∃ j, i = j + 1 := ⟨i - 1, by omega⟩
  have hj : j < ((L.take eln).drop (ln + 1)).length := by rw [length_drop_take L _ eln h2]; omega
  rw [getSrc_multi L ln col eln ecol (by omega), lineAt, List.getD_cons_succ]
  simp only [lineAt, List.getD_eq_getElem?_getD]
  rw [List.getElem?_append_left hj, List.getElem?_drop, List.getElem?_take_of_lt (by omega), Nat.add_assoc,
    Nat.add_comm 1 j]

/-- the last line of a multi-line crop is the last source line up to `end_col`. -/
theorem copy_text_last (L : Lines) (ln col eln ecol : Nat) (h1 : ln < eln) (h2 : eln ≤ L.length) :
    lineAt (getSrc L ln col eln ecol) (eln - ln) = (lineAt L eln).take ecol := by
  have hlen : eln - ln = ((L.take eln).drop (ln + 1)).length + 1 := by rw [length_drop_take L _ eln h2]; omega
  rw [getSrc_multi L ln col eln ecol (by omega), hlen, lineAt, List.getD_cons_succ, List.getD_eq_getElem?_getD,
    List.getElem?_append_right (Nat.le_refl _), Nat.sub_self]
  rfl

/-- the text of a node (segment `[a, b)` of one line, character columns) read in the crop at the
rebased columns is the text read in the source: on the first copied line columns move by `-col`, on later lines they
do not move, and the cut at `end_col` does not touch anything that ends at or before it. -/
theorem copy_text_line (l : Line) (col ecol a b : Nat) (h1 : col ≤ a) (h2 : b ≤ ecol) :
    slice (l.drop col) (a - col) (b - col) = slice l a b ∧
    slice (l.take ecol) a b = slice l a b ∧
    slice (slice l col ecol) (a - col) (b - col) = slice l a b := by
  refine ⟨slice_drop l col a b h1, slice_take l ecol a b h2, ?_⟩
  have : slice l col ecol = (l.take ecol).drop col := rfl
  rw [this, slice_drop _ col a b h1, slice_take l ecol a b h2]

/-- `_dedent_lns` removes from a line exactly the `r` leading characters it reports as the
column delta `-r` (`r ≤ len(dedent)`), so a segment that starts at or after `r` reads the same text at columns
shifted by `-r`: the copy's text equals the original's modulo the removed indentation of non-first lines. -/
theorem dedent_text_line (d l : Line) (a b : Nat) :
    ∃ r : Nat, (dedentLine d l).2 = -(r : Int) ∧ r ≤ d.length ∧ (dedentLine d l).1 = l.drop r ∧
      (r ≤ a → slice (dedentLine d l).1 (a - r) (b - r) = slice l a b) := by
  obtain ⟨r, h1, h2, h3⟩ := dedentLine_drop d l
  exact ⟨r, h1, h3, h2, fun h => by rw [h2]; exact slice_drop l r a b h⟩

/-- a column at or after the removed indentation stays non-negative. (The hypothesis fails for
the `_match_cases` / `_ExceptHandlers` container when the copied span starts with a leading comment line: its column
lies *inside* the removed indentation. That was finding C07-F2; the repaired `get_slice_stmtlike` therefore re-seats the
container over the whole new source after `_make_fst_and_dedent` instead of relying on the dedent.) -/
theorem dedent_pos_nonneg (d l : Line) (c : Int) (h : -(dedentLine d l).2 ≤ c) : 0 ≤ c + (dedentLine d l).2 := by
  omega

/-- a well-formed position of the copied subtree stays well-formed (start ≤ end) through rebase and
dedent, and its lines lie inside the new root: below the prefix lines and, if it ended inside the copied span, not
after the last line. -/
theorem copy_wf (L : Lines) (ln col eln : Nat) (pfx : Option Lines) (d : List Int) (p : Pos) (hw : p.wf = true)
    (hcol : col ≤ (lineAt L ln).length)
    (hs : (ln : Int) + 1 < p.lno ∨ (p.lno = (ln : Int) + 1 ∧ ((c2b (lineAt L ln) col : Nat) : Int) ≤ p.col))
    (he : (ln : Int) + 1 < p.elno ∨ (p.elno = (ln : Int) + 1 ∧ ((c2b (lineAt L ln) col : Nat) : Int) < p.ecol))
    (hend : p.elno ≤ (eln : Int) + 1) (hle : ln ≤ eln) :
    let q := offsetLnsPos d (offsetPos (rebaseParams L ln col pfx) p)
    q.wf = true ∧ ((prefixExtra pfx).1 : Int) + 1 ≤ q.lno ∧ q.elno ≤ ((prefixExtra pfx).1 : Int) + (eln - ln + 1 : Nat)
      ∧ (p.lno = (ln : Int) + 1 → ((prefixExtra pfx).2 : Int) ≤ (offsetPos (rebaseParams L ln col pfx) p).col) := by
  rw [Pos.wf_iff] at hw
  simp only [rebase_pos L ln col pfx p hcol hs he]
  refine ⟨offsetLnsPos_wf d _ ?_, by dsimp only [offsetLnsPos]; omega, by dsimp only [offsetLnsPos]; omega,
    fun h => by rw [if_pos h]; omega⟩
  rw [Pos.wf_iff]
  dsimp only
  rcases hw with h | ⟨h1, h2⟩
  · exact Or.inl (by omega)
  · refine Or.inr ⟨by omega, ?_⟩
    rw [h1]
    split <;> omega

/-- Flat text: with the lines written as `A ++ [p ++ m0] ++ M ++ [mk ++ q] ++ B` and the span from
`(|A|, |p|)` to `(|A| + |M| + 1, |mk|)`: the extracted lines are `m0 :: M ++ [mk]`; the original text is
`pre ++ extracted ++ post`; after the put of a cut the remainder is `pre ++ put ++ post` (`pre ++ post` for a delete),
with the same `pre`, `post`. Nothing else of the source is touched. -/
theorem conservation (A M B : Lines) (p m0 mk q x : Line) :
    let L := A ++ (p ++ m0) :: (M ++ (mk ++ q) :: B)
    let loc : Loc := ⟨A.length, p.length, A.length + M.length + 1, mk.length⟩
    getSrc L loc.ln loc.col loc.endLn loc.endCol = m0 :: (M ++ [mk]) ∧
    flat L = flat (A ++ [p]) ++ flat (m0 :: (M ++ [mk])) ++ flat (q :: B) ∧
    flat (putSrcLines L loc (some [x])) = flat (A ++ [p]) ++ flat [x] ++ flat (q :: B) ∧
    flat (putSrcLines L loc none) = flat (A ++ [p]) ++ flat (q :: B) := by
  intro L loc
  refine ⟨?_, ?_, ?_, ?_⟩
  · show getSrc (A ++ (p ++ m0) :: (M ++ (mk ++ q) :: B)) A.length p.length (A.length + M.length + 1) mk.length = _
    rw [getSrc_multi _ _ _ _ _ (by omega), lineAt_append_right, lineAt_mid, take_canon, drop_canon]
    simp
  · show flat (A ++ (p ++ m0) :: (M ++ (mk ++ q) :: B)) = _
    rw [flat_split, ← List.cons_append, flat_split]
    simp
  · show flat (putSrcLines _ ⟨A.length, p.length, A.length + M.length + 1, mk.length⟩ (some [x])) = _
    rw [put_across, List.append_assoc p, flat_split, flat_head, List.append_assoc]
    rfl
  · show flat (putSrcLines _ ⟨A.length, p.length, A.length + M.length + 1, mk.length⟩ none) = _
    rw [putSrcLines_none _ _ (by simp [L]), put_across, List.append_nil, flat_split]

/-- dedenting by the string that was just prepended gives the line back; empty lines are
touched by neither. -/
theorem dedent_indent_line (ind l : Line) :
    (dedentLine ind (indentLine ind l).1).1 = l := by
  unfold indentLine
  by_cases h : l.isEmpty = true
  · simp only [h, if_true]
    unfold dedentLine
    simp [h]
  · have h' : l.isEmpty = false := by simpa using h
    simp only [h', Bool.false_eq_true, if_false]
    unfold dedentLine
    have hne : (ind ++ l).isEmpty = false := by
      cases ind <;> simp_all
    simp [hne, startsWith_append]

/-- `_dedent_lns(ind)` after `_indent_lns(ind)` over the same set of indentable lines restores
every line. -/
theorem dedent_indent (ind : Line) (sel : Nat → Bool) (L : Lines) (i : Nat) :
    (editLns (dedentLine ind) sel i (editLns (indentLine ind) sel i L).1).1 = L := by
  induction L generalizing i with
  | nil => rfl
  | cons l rest ih =>
    simp only [editLns]
    by_cases hs : sel i = true
    · simp only [hs, if_true, editLns]
      rw [ih (i + 1), dedent_indent_line]
    · have hs' : sel i = false := by simpa using hs
      simp only [hs', Bool.false_eq_true, if_false, editLns]
      rw [ih (i + 1)]

/-- restore ∘ insert = id on the lines, one point. -/
theorem restore_insert (A B : Lines) (p q x : Line) :
    putSrcLines (putSrcLines (A ++ (p ++ q) :: B) ⟨A.length, p.length, A.length, p.length⟩ (some [x]))
      ⟨A.length, p.length, A.length, p.length + x.length⟩ none = A ++ (p ++ q) :: B := by
  rw [insert_at, delete_inserted]

/-- the temporaries a read-only slice get puts around a multi-line span (closing text `y` at the
end point on a later line first, then opening text `x` at the start point — `_restore_solo_call_arg_genexp` and its
counterpart) are removed again in the order end, start, each at the line it was put on: the document is the original. -/
theorem restore_insert_span (A M B : Lines) (p q r s x y : Line) :
    let L := A ++ (p ++ q) :: (M ++ (r ++ s) :: B)
    let e := A.length + M.length + 1
    let L1 := putSrcLines L ⟨e, r.length, e, r.length⟩ (some [y])
    let L2 := putSrcLines L1 ⟨A.length, p.length, A.length, p.length⟩ (some [x])
    let L3 := putSrcLines L2 ⟨e, r.length, e, r.length + y.length⟩ none
    putSrcLines L3 ⟨A.length, p.length, A.length, p.length + x.length⟩ none = L := by
  intro L e L1 L2 L3
  have hA : ∀ u : Line, (A ++ u :: M).length = e := fun u => canon_len A M u
  have h1 : L1 = A ++ (p ++ q) :: (M ++ (r ++ y ++ s) :: B) := by
    show putSrcLines (A ++ (p ++ q) :: (M ++ (r ++ s) :: B)) _ _ = _
    rw [canon_assoc A M B (p ++ q) (r ++ s), ← hA (p ++ q), insert_at, ← canon_assoc]
  have h2 : L2 = A ++ (p ++ x ++ q) :: (M ++ (r ++ y ++ s) :: B) := by
    show putSrcLines L1 _ _ = _
    rw [h1, insert_at]
  have h3 : L3 = A ++ (p ++ x ++ q) :: (M ++ (r ++ s) :: B) := by
    show putSrcLines L2 _ _ = _
    rw [h2, canon_assoc A M B (p ++ x ++ q) (r ++ y ++ s), ← hA (p ++ x ++ q), delete_inserted, ← canon_assoc]
  rw [h3, delete_inserted]

/-! ### non-vacuity: concrete, non-trivial states meet the hypotheses -/

example : putSrcLines (putSrcLines ["total = sum(x * x".toList, "            for x in data)".toList]
    ⟨1, 25, 1, 25⟩ (some [")".toList])) ⟨1, 25, 1, 26⟩ none
    = ["total = sum(x * x".toList, "            for x in data)".toList] := by decide +kernel

private def srcL : Lines := ["class C:".toList, "    x = [a,".toList, "         é + b]".toList, "    y = 1".toList]
/-- subtree of `x = [a,\n é + b]` : Assign, Name x, List, Name a, BinOp, Name é, Name b (byte columns: é is 2 bytes) -/
private def sub0 : Node :=
  .mk 0 (some ⟨2, 4, 3, 16⟩) none [ .mk 1 (some ⟨2, 4, 2, 5⟩) none [],
    .mk 2 (some ⟨2, 8, 3, 16⟩) none [ .mk 3 (some ⟨2, 9, 2, 10⟩) none [],
      .mk 4 (some ⟨3, 9, 3, 15⟩) none [ .mk 5 (some ⟨3, 9, 3, 11⟩) none [], .mk 6 (some ⟨3, 14, 3, 15⟩) none [] ] ] ]
private def args0 : CopyArgs := { indent := "    ".toList, loc := ⟨1, 4, 2, 15⟩ }

example : geo sub0 = true := by decide +kernel
example : (copyNode ⟨srcL, sub0⟩ sub0 args0).2.lines = ["x = [a,".toList, "     é + b]".toList] := by decide +kernel
example : flatten (copyNode ⟨srcL, sub0⟩ sub0 args0).2.tree =
    [(0, some ⟨1, 0, 2, 12⟩), (1, some ⟨1, 0, 1, 1⟩), (2, some ⟨1, 4, 2, 12⟩), (3, some ⟨1, 5, 1, 6⟩),
     (4, some ⟨2, 5, 2, 11⟩), (5, some ⟨2, 5, 2, 7⟩), (6, some ⟨2, 10, 2, 11⟩)] := by decide +kernel
example : (⟨2, 8, 3, 16⟩ : Pos).wf = true ∧ ((1 : Nat) : Int) + 1 < (3 : Int) := by decide +kernel
example : c2b (lineAt srcL 2) 10 = 11 := by decide +kernel     -- `é` makes bytes and characters differ
example : (dedentLine "    ".toList "  2)".toList) = ("2)".toList, -2) := by decide +kernel   -- the "inconsistent" branch
example : (cutNode ⟨srcL, .mk 9 none none []⟩ sub0 args0 ⟨1, 0, 3, 0⟩ none).1.lines =
    ["class C:".toList, "    y = 1".toList] := by decide +kernel

end Pfst.C07
