import Pfst.ReconcileCorrect
/-!
C13 — runs of nodes taken from ANOTHER FST tree (`recurse_slice` / `recurse_slice_dict`, the `childf.root is not work_root`
branch).  The flag `ok` of `Origin.foreign` is the verdict of `Reconcile.verify_other` on the node (links of the subtree, the
node still sits at the position its `FST` records in its own tree) and of the reparse of the copy; it is decided by the
harness independently (`c13_lib.foreign_ok`).  `verify_other` is a CHECKED PRECONDITION of the positional fetch
`child_parent.get_slice(child_idx, ...)`: the theorems say the model fetches a run by position only when EVERY node of the
run passed, and otherwise does nothing at the run head and hands every element to `recurse_node`, whose unverified branch
puts the pure AST.
-/
namespace Pfst.C13
open Pfst.Reconcile

/-- A run of another tree (`tid ≠ 0`) is fetched by position (a `putSlice` from that tree, the elements then skipped) ONLY IF
every node of the run is verified. -/
theorem foreign_run_needs_verified (mark : T) (np : NP) (fi : Nat) (ns : Option Nat) (i : Nat) (cur : List T) (x : T)
    (rest : List T) (tid : Nat) (pp : Path) (cfi ci : Nat)
    (h : sliceHead mark np fi ns i x.origin = some (tid, pp, cfi, ci)) (ht : tid ≠ 0)
    (hops : (detect mark np fi ns i cur x rest).1 ≠ []) :
    allOk ((x :: rest).take (1 + runLen tid pp cfi (ci + 1) rest)) = true := by
  rw [detect_some mark np fi ns i cur x rest tid pp cfi ci h] at hops
  have ht' : (tid == 0) = false := by simpa using ht
  simp only [ht', Bool.false_eq_true, if_false] at hops
  by_cases hok : allOk ((x :: rest).take (1 + runLen tid pp cfi (ci + 1) rest)) = true
  · exact hok
  · simp [hok] at hops

/-- If some node of the run is NOT verified (moved in its own tree, broken links, stale source) nothing is fetched by
position: no operation at the run head, the output list is untouched and all `n` elements are processed one by one. -/
theorem foreign_run_unverified_falls_back (mark : T) (np : NP) (fi : Nat) (ns : Option Nat) (i : Nat) (cur : List T) (x : T)
    (rest : List T) (tid : Nat) (pp : Path) (cfi ci : Nat)
    (h : sliceHead mark np fi ns i x.origin = some (tid, pp, cfi, ci)) (ht : tid ≠ 0)
    (hbad : allOk ((x :: rest).take (1 + runLen tid pp cfi (ci + 1) rest)) = false) :
    detect mark np fi ns i cur x rest
      = ([], cur, { proc := 1 + runLen tid pp cfi (ci + 1) rest, lenRead := cur.length }) := by
  rw [detect_some mark np fi ns i cur x rest tid pp cfi ci h]
  have ht' : (tid == 0) = false := by simpa using ht
  simp [ht', hbad]

/-- ... and an unverified node of another tree, processed on its own under an in-tree parent, is first put as a pure AST
(then recursed): `recurse_node` never copies it from the other tree. -/
theorem foreign_unverified_is_ast_put (mark : T) (q : Path) (t : Nat) (rel : Path) (outa : T) (tid : Nat) (l : Option Loc)
    (sg : Option Nat) (k : Nat) (cs : List T) :
    ∃ tail, (recNode mark (.fst t q) rel outa (.node (.foreign false tid l sg) k cs)).ops
      = ⟨[], .put .ast (.node .new k (eraseL cs))⟩ :: tail := by
  rw [recNode_foreign_bad]
  simp only [astPath, bne_iff_ne, ne_eq, reduceCtorEq, not_false_eq_true, if_true, T.isNode, Bool.not_true,
    Bool.false_eq_true, if_false]
  exact ⟨_, rfl⟩

/-- non-vacuity: two elements of another tree's list, the second one moved in its own tree (`ok = false`) -/
def fe (ok : Bool) (i : Nat) : T := .node (.foreign ok 1 (some ⟨[0], 0, some i⟩) (some 0)) 1 [.prim ⟨i, i⟩]
example : (detect (.node (.tree none) 0 [.many (some 0) 1 []]) (.fst 0 []) 0 (some 0) 0 [] (fe true 2) [fe false 3]).1 = [] := by
  decide +kernel
example : (detect (.node (.tree none) 0 [.many (some 0) 1 []]) (.fst 0 []) 0 (some 0) 0 [] (fe true 2) [fe true 3]).1.length = 1 := by
  decide +kernel

end Pfst.C13
