import Pfst.TextLemmas
import Pfst.TriviaLemmas

/-!
# C04 — formatting and comments outside the edited element are preserved byte for byte

Part 1 (text layer, `Pfst/Text.lean`): every structured edit changes the source only through `_put_src`; the theorems
below say exactly which characters a `_put_src` call can change (those strictly inside the splice rectangle) and how the
coordinates of everything after it move.  The lemmas behind them (`Pfst/TextLemmas.lean`) also serve the separator
primitives (`Pfst/SepLemmas.lean`, C01b).

Part 2 (trivia, `Pfst/Trivia.lean`): which comment / blank lines `leading_trivia` selects for an element when
`comments` is not `'all'`: the selected range lies between the neighbour bound and the element and contains nothing but
blank, comment and line-continuation lines.  For `trailing_trivia` only its two scanning loops are covered
(`trail_scan_partial`).  `get_trivia_params` is total on what `_check_opt_trivia` accepts (`triviaParams_total`); the
last theorems are about the option resolution in front of it (`effective`).

All theorems are about the executable models, which are compared with the real functions on every run.
-/
namespace Pfst.C04
open Pfst.Text

/-! ## Part 1: `_put_src` -/

/-- **Text outside the splice rectangle is byte-identical**: the new flat source is the old text before the start
point, the put text, the old text after the end point.  All five code paths of `_put_src`. -/
theorem putSrc_flat (L put : List Line) (ln col endLn endCol : Nat) (h : ValidSpan L ln col endLn endCol)
    (hp : put ≠ []) :
    flat (putSrc L put ln col endLn endCol)
      = (flat L).take (off L ln col) ++ flat put ++ (flat L).drop (off L endLn endCol) :=
  Pfst.Text.putSrc_flat L put ln col endLn endCol h hp

/-- Deleting (`src` is `None` / `''`) is the same as putting one empty line. -/
theorem putSrc_delete (L : List Line) (ln col endLn endCol : Nat) (h : ValidSpan L ln col endLn endCol) :
    putSrc L [] ln col endLn endCol = putSrc L [[]] ln col endLn endCol :=
  putSrc_nil L ln col endLn endCol h

/-- Uniform normal form of the five cases: untouched lines before, the put lines with the remains of the first and last
touched line attached, untouched lines after. -/
theorem putSrc_normal (L put : List Line) (ln col endLn endCol : Nat) (h : ValidSpan L ln col endLn endCol) :
    putSrc L put ln col endLn endCol = L.take ln ++ spliceMiddle L put ln col endLn endCol ++ L.drop (endLn + 1) :=
  Pfst.Text.putSrc_normal L put ln col endLn endCol h

/-- **Untouched lines are the same lines**: every line before `ln` keeps its index, every line after `endLn` moves by
`put.length - 1 - (endLn - ln)`, and the number of lines changes by exactly that amount. -/
theorem putSrc_lines_same (L put : List Line) (ln col endLn endCol : Nat) (h : ValidSpan L ln col endLn endCol)
    (hp : put ≠ []) :
    (∀ i, i < ln → (putSrc L put ln col endLn endCol)[i]? = L[i]?) ∧
    (∀ i, endLn < i → (putSrc L put ln col endLn endCol)[shiftLn put ln endLn i]? = L[i]?) ∧
    ((putSrc L put ln col endLn endCol).length : Int) = L.length + dln put ln endLn ∧
    (∀ i, ((shiftLn put ln endLn i : Nat) : Int) = if endLn ≤ i then (i : Int) + dln put ln endLn else ln + put.length - 1) := by
  refine ⟨fun i hi => putSrc_line_before L put ln col endLn endCol h i hi,
    fun i hi => putSrc_line_after L put ln col endLn endCol h hp i hi, ?_, ?_⟩
  · have := putSrc_length L put ln col endLn endCol h
    have hpl : 0 < put.length := List.length_pos_iff.mpr hp
    have := h.hle
    unfold dln; omega
  · intro i
    have hpl : 0 < put.length := List.length_pos_iff.mpr hp
    have := h.hle
    unfold shiftLn dln; split <;> omega

/-- The character shift is the character version of `_params_offset`: `c + dcol` on the last replaced line. -/
theorem shiftCol_eq (put : List Line) (col endLn endCol l c : Nat) (hc : l = endLn → endCol ≤ c) :
    ((shiftCol put col endLn endCol l c : Nat) : Int) = if l = endLn then (c : Int) + dcol put col endCol else c := by
  unfold shiftCol dcol
  by_cases h : l = endLn
  · have := hc h
    simp only [h, if_true]
    split <;> omega
  · simp [h]

theorem shift_le2 (put : List Line) (ln col endLn endCol l1 c1 l2 c2 : Nat)
    (h1 : le2 endLn endCol l1 c1) (h12 : le2 l1 c1 l2 c2) :
    le2 (shiftLn put ln endLn l1) (shiftCol put col endLn endCol l1 c1)
      (shiftLn put ln endLn l2) (shiftCol put col endLn endCol l2 c2) := by
  have hl := le2_line h1
  rcases h12 with h | ⟨rfl, hc⟩
  · exact Or.inl (by unfold shiftLn; omega)
  · refine Or.inr ⟨rfl, ?_⟩
    unfold shiftCol
    split
    · have : endCol ≤ c1 := by rcases h1 with h | ⟨_, h⟩ <;> omega
      omega
    · exact hc

theorem le2_shift (put : List Line) (ln col endLn endCol l c : Nat) (hp : put ≠ [])
    (h : le2 endLn endCol l c) : le2 ln col (shiftLn put ln endLn l) (shiftCol put col endLn endCol l c) := by
  have hpl : 0 < put.length := List.length_pos_iff.mpr hp
  have hl := le2_line h
  -- the point lands on a later line, unless a single line is put and the point is on the end line
  by_cases h1 : put.length = 1 ∧ l = endLn
  · right; unfold shiftLn shiftCol; rw [if_pos h1.2, if_pos h1.1]; omega
  · left; unfold shiftLn; omega

/-- **A span that ends at or before the splice start keeps its text at the same coordinates.** -/
theorem getSrc_before (L put : List Line) (ln col endLn endCol : Nat) (h : ValidSpan L ln col endLn endCol)
    (hp : put ≠ []) (l1 c1 l2 c2 : Nat) (h12 : le2 l1 c1 l2 c2) (h2 : le2 l2 c2 ln col) :
    flat (getSrc (putSrc L put ln col endLn endCol) l1 c1 l2 c2) = flat (getSrc L l1 c1 l2 c2) := by
  have hle := h.hle; have hend := h.hend
  have hl2 := le2_line h2
  have hlen := putSrc_length L put ln col endLn endCol h
  rw [getSrc_flat _ _ _ _ _ h12 (by omega), getSrc_flat _ _ _ _ _ h12 (by omega)]
  exact getFlat_before L put ln col endLn endCol h hp l1 c1 l2 c2 h12 h2

/-- **A span that starts at or after the splice end has the same text at the shifted coordinates**
`(l + dln, if l = endLn then c + dcol else c)`. -/
theorem getSrc_after (L put : List Line) (ln col endLn endCol : Nat) (h : ValidSpan L ln col endLn endCol)
    (hp : put ≠ []) (l1 c1 l2 c2 : Nat) (h1 : le2 endLn endCol l1 c1) (h12 : le2 l1 c1 l2 c2)
    (hl2 : l2 < L.length) (hc1 : c1 ≤ (lineAt L l1).length) (hc2 : c2 ≤ (lineAt L l2).length) :
    flat (getSrc (putSrc L put ln col endLn endCol) (shiftLn put ln endLn l1) (shiftCol put col endLn endCol l1 c1)
        (shiftLn put ln endLn l2) (shiftCol put col endLn endCol l2 c2))
      = flat (getSrc L l1 c1 l2 c2) := by
  have hle := h.hle; have hend := h.hend
  have hpl : 0 < put.length := List.length_pos_iff.mpr hp
  have hlen := putSrc_length L put ln col endLn endCol h
  have hl1 := le2_line h1; have hl12 := le2_line h12
  rw [getSrc_flat _ _ _ _ _ (shift_le2 put ln col endLn endCol l1 c1 l2 c2 h1 h12) (by unfold shiftLn; omega),
    getSrc_flat _ _ _ _ _ h12 hl2]
  exact getFlat_after L put ln col endLn endCol h hp l1 c1 l2 c2 h1 h12 hl2 hc1 hc2

/-- **A span that contains the splice has text = its old text before the splice ++ the put text ++ its old text after
the splice** (start fixed, end shifted): containers grow or shrink by exactly the change. -/
theorem getSrc_container (L put : List Line) (ln col endLn endCol : Nat) (h : ValidSpan L ln col endLn endCol)
    (hp : put ≠ []) (l1 c1 l2 c2 : Nat) (h1 : le2 l1 c1 ln col) (h2 : le2 endLn endCol l2 c2)
    (hl2 : l2 < L.length) (hc2 : c2 ≤ (lineAt L l2).length) :
    flat (getSrc (putSrc L put ln col endLn endCol) l1 c1
        (shiftLn put ln endLn l2) (shiftCol put col endLn endCol l2 c2))
      = flat (getSrc L l1 c1 ln col) ++ flat put ++ flat (getSrc L endLn endCol l2 c2) := by
  have hle := h.hle; have hend := h.hend
  have hpl : 0 < put.length := List.length_pos_iff.mpr hp
  have hlen := putSrc_length L put ln col endLn endCol h
  have hl1 := le2_line h1; have hl12 := le2_line h2
  have hsh := le2_trans h1 (le2_shift put ln col endLn endCol l2 c2 hp h2)
  rw [getSrc_flat _ _ _ _ _ hsh (by unfold shiftLn; omega), getSrc_flat _ _ _ _ _ h1 (by omega),
    getSrc_flat _ _ _ _ _ h2 hl2]
  exact getFlat_container L put ln col endLn endCol h hp l1 c1 l2 c2 h1 h2 hl2 hc2

/-- Arithmetic characterisation of the linear offset: the lengths (+1 for the newline) of the earlier lines plus the
column. -/
theorem off_arith (L : List Line) (l c : Nat) (hc : c ≤ (lineAt L l).length) :
    off L l c = ((L.take l).map (fun x => x.length + 1)).sum + c := by
  rw [off_eq, Nat.min_eq_left hc]; rfl

/-- Character/byte bridge: additivity and monotonicity of `c2b`, `b2c` inverts it on character boundaries. -/
theorem c2b_bridge (a b : Line) (k c d : Nat) :
    c2b (a ++ b) (a.length + k) = c2b a a.length + c2b b k ∧
    (c ≤ d → c2b a c ≤ c2b a d) ∧
    (c ≤ a.length → c ≤ c2b a c ∧ b2c a (c2b a c) = c) :=
  ⟨c2b_append a b k, c2b_mono a c d, fun h => ⟨c2b_ge a c h, b2c_c2b a c h⟩⟩

/-- **`_params_offset` in bytes agrees with the character shift**: the byte column of a character at or after the end
of the replaced span, in the new last line, is its old byte column plus the byte `dcol_offset` of `_params_offset`
(`Pfst.Offset.paramsOffset` on the three byte lengths), and its new character column is `shiftCol`. -/
theorem dcol_bytes (L put : List Line) (ln col endLn endCol : Nat) (h : ValidSpan L ln col endLn endCol)
    (hp : put ≠ []) (c : Nat) (hc1 : endCol ≤ c) :
    (c2b (lineAt (putSrc L put ln col endLn endCol) (shiftLn put ln endLn endLn))
        (shiftCol put col endLn endCol endLn c) : Int)
      = (c2b (lineAt L endLn) c : Int)
        + (Pfst.Offset.paramsOffset put.length ln endLn (c2b (lineAt L endLn) endCol) (utf8Len (lastLine put))
            (c2b (lineAt L ln) col)).2.2.2 := by
  have := Pfst.Text.dcol_bytes L put ln col endLn endCol h hp c hc1
  rw [paramsOffsetBytes_eq] at this
  exact this

/-- **Placement of a freshly parsed fragment** (`_make_exprlike_fst`: parse at the origin, offset by `(ln, lines[ln].c2b(col))`,
splice the lines): every span `(l1,c1)-(l2,c2)` of the fragment denotes, at the placed coordinates `(ln + l, col + c on the
first line, c on the others)` of the new document, exactly the text it denoted in the fragment, so the next edit addressed
to a new node or one of its children touches only that node's text. -/
theorem placed_text (L put : List Line) (ln col endLn endCol : Nat) (h : ValidSpan L ln col endLn endCol)
    (hp : put ≠ []) (l1 c1 l2 c2 : Nat) (hl1 : l1 < put.length) (hl2 : l2 < put.length)
    (hc1 : c1 ≤ (lineAt put l1).length) (hc2 : c2 ≤ (lineAt put l2).length) :
    getFlat (putSrc L put ln col endLn endCol) (placeLn ln l1) (placeCol col l1 c1) (placeLn ln l2) (placeCol col l2 c2)
      = getFlat put l1 c1 l2 c2 := by
  have hln : ln < L.length := by have := h.hle; have := h.hend; omega
  unfold getFlat
  rw [off_putSrc_placed L put ln col endLn endCol h l1 c1 hl1 hc1,
    off_putSrc_placed L put ln col endLn endCol h l2 c2 hl2 hc2, putSrc_flat L put ln col endLn endCol h hp,
    Nat.add_sub_add_left]
  have := take_drop_append_mid ((flat L).take (off L ln col)) (flat put) ((flat L).drop (off L endLn endCol)) (off put l1 c1)
    (off put l2 c2) (off_le_length put l2 c2 hl2)
  rwa [List.length_take_of_le (off_le_length L ln col hln)] at this

/-- **Placement in bytes**: the byte column of a fragment point on the first put line is its byte column in the fragment plus
the BYTE length of the text kept before the put position (`lines[ln].c2b(col)`). -/
theorem placed_bytes (L put : List Line) (ln col endLn endCol : Nat) (h : ValidSpan L ln col endLn endCol)
    (hp : put ≠ []) (c : Nat) (hc : c ≤ (lineAt put 0).length) :
    c2b (lineAt (putSrc L put ln col endLn endCol) (placeLn ln 0)) (placeCol col 0 c)
      = placeColBytes L ln col 0 (c2b (lineAt put 0) c) := by
  have hpre : ((lineAt L ln).take col).length = col := List.length_take_of_le h.hcol
  -- the first line of the new document that receives put text is `old[:col] ++ put[0] ++ …`
  obtain ⟨rest, hr⟩ := lineAt_putSrc_first L put ln col endLn endCol h
  have := c2b_append ((lineAt L ln).take col) (lineAt put 0 ++ rest) c
  rw [hpre] at this
  simp only [placeLn, placeCol, placeColBytes, if_true, Nat.add_zero]
  rw [hr, this, c2b_append_left _ _ _ hc]
  simp [c2b, List.take_take]

/-- Offsetting by the CHARACTER column instead is wrong as soon as multi-byte text precedes the put position on its line. -/
theorem placed_chars_false :
    ¬ (∀ (L : List Line) (ln col b : Nat), placeColBytes L ln col 0 b = col + b) := by
  intro h
  have := h ["g = \"é\"; t = f(a)".toList] 0 13 2
  revert this; decide

/-! ### non-vacuity (text layer) -/

private def L0 : List Line := ["x = [1,  # one".toList, "     2,  # twö".toList, "     3]".toList, "y = 2  # tail".toList]
private def P0 : List Line := ["22,".toList, "     # new".toList, "     33".toList]

example : ValidSpan L0 1 5 2 6 := ⟨by decide +kernel, by decide +kernel, by decide +kernel, by decide +kernel, by decide +kernel⟩
example : P0 ≠ [] := by decide +kernel
example : putSrc L0 P0 1 5 2 6 ≠ L0 := by decide +kernel
example : (putSrc L0 P0 1 5 2 6).map String.ofList
    = ["x = [1,  # one", "     22,", "     # new", "     33]", "y = 2  # tail"] := by decide +kernel
-- a span after the splice (`]` on the last replaced line, and the whole next line) and one before it
example : le2 2 6 2 6 ∧ le2 2 6 3 13 ∧ 3 < L0.length := by decide +kernel
example : le2 0 0 1 5 := by decide +kernel
example : shiftLn P0 1 2 3 = 4 ∧ shiftCol P0 5 2 6 2 6 = 7 := by decide +kernel
-- placement: the fragment `nf(p1,⏎   p2)` put over `[1, ...]`'s first element: its second line / child `p2`
example : getFlat (putSrc L0 ["nf(p1,".toList, "       p2)".toList] 0 5 0 6) (placeLn 0 1) (placeCol 5 1 7) (placeLn 0 1) (placeCol 5 1 9)
    = "p2".toList := by decide +kernel
-- multi-byte: `ö` before the end column makes byte and character deltas differ
example : c2b (lineAt L0 1) 14 = 15 := by decide +kernel

/-! ## Part 2: trivia selection -/
section trivia
open Pfst.Trivia

/-- For comments none / block / line number (the `'all'` mode shares the loop lemma `scanUp_spec` but its
tail is not proved — full statement: the same for every `comments` value).  The range `leading_trivia` hands back lies
between the topmost admissible line (bound line, +1 if the bound is inside its line) and the element: the text position is
the element itself or column 0 of a line `≤ ln`, a space position is at column 0 between the top and the text line and, for
a finite `space = k`, at most `k` lines above it. -/
theorem lead_in_bounds_partial (lines : List Line) (bln bcol ln col : Nat) (c : LComments) (s : Space) (hb : bln ≤ ln)
    (hc : c ≠ .all) :
    let r := leadingTrivia lines bln bcol ln col c s
    (r.text = (ln, col) ∨ (r.text.2 = 0 ∧ r.text.1 < ln ∧ topLnOf bln bcol ≤ r.text.1)) ∧
    (∀ p, r.space = some p → p.2 = 0 ∧ topLnOf bln bcol ≤ p.1 ∧ p.1 ≤ r.text.1 ∧ (∀ k, s = .n k → r.text.1 ≤ p.1 + k)) := by
  rcases lead_modes lines bln bcol ln col c s hb hc with heq | ⟨cl, h1, h2, _, _, _, heq⟩
  · rw [heq]
    exact ⟨Or.inl rfl, fun p hp => by cases hp⟩
  · simp only [heq]
    have ht := leadFinish_text lines (topLnOf bln bcol) ln col cl s ((lineAt lines ln).take col)
    refine ⟨?_, ?_⟩
    · rw [ht]
      by_cases hcl : cl = ln
      · left; simp [hcl]
      · right; simp [hcl]; omega
    · intro p hp
      have := leadFinish_space lines (topLnOf bln bcol) ln col cl s _ h1 p hp
      rw [leadFinish_text_fst]
      exact ⟨this.1, this.2.1, this.2.2.1, this.2.2.2.2⟩

/-- For comments none / block / line number: every line from the start of the returned range up to the
element line is blank, a pure comment line or a lone line continuation; the lines of the space part are blank or a
continuation. Nothing else can be deleted or copied as leading trivia. -/
theorem lead_only_trivia_partial (lines : List Line) (bln bcol ln col : Nat) (c : LComments) (s : Space) (hb : bln ≤ ln)
    (hc : c ≠ .all) :
    let r := leadingTrivia lines bln bcol ln col c s
    (∀ i, r.text.1 ≤ i → i < ln → isTriviaLine (lineAt lines i) = true) ∧
    (∀ p, r.space = some p → ∀ i, p.1 ≤ i → i < r.text.1 → reEmptyLineOrCont (lineAt lines i) = true) := by
  rcases lead_modes lines bln bcol ln col c s hb hc with heq | ⟨cl, h1, h2, h3, _, _, heq⟩ <;> simp only [heq]
  · exact ⟨fun i a b => by omega, fun p hp => by cases hp⟩
  · rw [leadFinish_text_fst]
    exact ⟨h3, fun p hp => (leadFinish_space lines (topLnOf bln bcol) ln col cl s _ h1 p hp).2.2.2.1⟩

/-- **comments = 'none' selects no comment**: the text position is always the element itself. -/
theorem lead_none_spec (lines : List Line) (bln bcol ln col : Nat) (s : Space) (hb : bln ≤ ln) :
    (leadingTrivia lines bln bcol ln col .none s).text = (ln, col) := by
  rcases lead_modes lines bln bcol ln col .none s hb (by decide) with heq | ⟨cl, _, _, _, h4, _, heq⟩ <;> rw [heq]
  rw [leadFinish_text, h4 rfl]; simp

/-- **comments = 'block' selects only a contiguous run of comment lines directly above the element** (no blank line, no
continuation inside the run). -/
theorem lead_block_spec (lines : List Line) (bln bcol ln col : Nat) (s : Space) (hb : bln ≤ ln) :
    ∀ i, (leadingTrivia lines bln bcol ln col .block s).text.1 ≤ i → i < ln →
      reCommentLineStart (lineAt lines i) = true := by
  rcases lead_modes lines bln bcol ln col .block s hb (by decide) with heq | ⟨cl, _, _, _, _, h5, heq⟩ <;> rw [heq]
  · intro i (a : ln ≤ i) b; omega
  · rw [leadFinish_text_fst]; exact h5 rfl

/-- **trailing loops** (the part of `trailing_trivia` where a wrong bound would take the next element's comment): the
downward comment scan never passes `stop_ln` (derived from the bound), passes only matching lines, and the recorded end
of comments is just below a comment line; the space scan passes only blank / continuation lines and never passes its
limit.  (Full `trail_in_bounds` / `trail_only_trivia` for the assembled result: not proved, checked by correspondence.) -/
theorem trail_scan_partial (pat : Line → Option Bool) (lines : List Line) (stop hi fuel cur cl : Nat) :
    (let r := scanDown pat lines stop fuel cur cl;
      cur ≤ r.1 ∧ (r.1 ≤ stop ∨ r.1 = cur) ∧ (∀ i, cur ≤ i → i < r.1 → (pat (lineAt lines i)).isSome)
      ∧ (r.2 = cl ∨ (cur < r.2 ∧ r.2 ≤ r.1 ∧ pat (lineAt lines (r.2 - 1)) = some true))) ∧
    (let b := spaceDown lines hi fuel cur;
      cur ≤ b ∧ (b ≤ hi ∨ b = cur) ∧ (∀ i, cur ≤ i → i < b → reEmptyLineOrCont (lineAt lines i) = true)) :=
  ⟨scanDown_spec pat lines stop fuel cur cl, spaceDown_spec lines hi fuel cur⟩

/-- Every value accepted by `_check_opt_trivia` (booleans, integers, the words
`all|block|none|(line)` with an optional `+`/`-` and digits, the bare `+…`/`-…` shorthand; single or in a 0/1/2-tuple) is
mapped by `get_trivia_params`, for either value of `neg`, to `comments` values that `leading_trivia` /
`trailing_trivia` handle (`none|all|block|int`, trailing also `line`).  Holds since option strings must be non-empty
(before that repair `''` was accepted and mapped to `comments = ''`). -/
theorem triviaParams_total (t : TrivOpt) (neg : Bool) (h : checkOptTrivia t = true) :
    ∃ p, getTriviaParams t neg = some p ∧ legalLead p.leadC = true ∧ legalTrail p.trailC = true :=
  getTriviaParams_total t neg h

example : checkOptTrivia (.single (.str "all+3".toList)) = true ∧ checkOptTrivia (.tuple [.str "-".toList, .str "line+".toList]) = true
    ∧ checkOptTrivia (.single (.str [])) = false ∧ checkOptTrivia (.tuple [.str []]) = false
    ∧ checkOptTrivia (.single (.str "line".toList)) = false := by decide +kernel
example : getTriviaParams (.single (.str "all+3".toList)) false
    = some ⟨.str "all".toList, .int 3, false, .str "line".toList, .bool false, false⟩ := by decide +kernel

/-! ### option resolution in front of `get_trivia_params` -/

/-- a value passed to the call wins over every default -/
theorem effective_call {α : Type} (v : α) (s : OptState α) : effective (some v) s = v := rfl

/-- inside `with FST.options(opt=v)` a call without the option sees `v`; leaving the block restores the state exactly,
whatever `set_options` did to this option inside -/
theorem options_block {α : Type} (v : α) (s : OptState α) :
    effective none (s.step (.enter v)) = v ∧ (s.step (.enter v)).step .exit = s
    ∧ ∀ w, ((s.step (.enter v)).step (.set w)).step .exit = s := ⟨rfl, rfl, fun _ => rfl⟩

/-- `set_options` changes what calls without the option see, and nothing else -/
theorem set_options_effective {α : Type} (v : α) (s : OptState α) (c : Option α) :
    effective c (s.step (.set v)) = c.getD v := by cases c <;> rfl

/-- **The selected trivia depends only on the effective option value**: whatever the channel (per call, `FST.options()`,
`FST.set_options()`), equal effective values give equal `get_trivia_params` results and therefore equal leading / trailing
trivia spans (anything computed from the parameters). -/
theorem trivia_depends_on_effective {β : Type} (c1 c2 : Option TrivOpt) (s1 s2 : OptState TrivOpt) (neg : Bool)
    (h : effective c1 s1 = effective c2 s2) (F : Option TParams → β) :
    F (getTriviaParams (effective c1 s1) neg) = F (getTriviaParams (effective c2 s2) neg) := by rw [h]

example : effective none ((⟨TrivOpt.single (.bool true), []⟩ : OptState TrivOpt).step (.enter (.tuple [.bool false, .bool false])))
    = effective (some (.tuple [.bool false, .bool false])) ⟨.single (.bool true), []⟩ := rfl

/-! ### non-vacuity (trivia) -/

private def B0 : List Line := ["a = 1".toList, "".toList, "# lead 1".toList, "".toList, "    # lead 2".toList,
  "    b = 2  # tb".toList, "    # trail".toList, "".toList, "c = 3".toList]

example : leadEarly B0 0 5 5 4 = false := by decide +kernel
example : leadingTrivia B0 0 5 5 4 .block (.n 1) = ⟨(4, 0), some (3, 0), some "    ".toList⟩ := by decide +kernel
example : leadingTrivia B0 0 5 5 4 .all .all = ⟨(2, 0), some (1, 0), some "    ".toList⟩ := by decide +kernel
example : leadingTrivia B0 0 5 5 4 .none (.n 0) = ⟨(5, 4), some (5, 0), some "    ".toList⟩ := by decide +kernel
example : trailingTrivia B0 8 0 5 9 .line (.n 0) = ⟨(6, 0), none, true⟩ := by decide +kernel
example : trailingTrivia B0 8 0 5 9 .block .all = ⟨(7, 0), some (8, 0), true⟩ := by decide +kernel
example : trailingTrivia B0 8 0 5 9 .none (.n 0) = ⟨(5, 9), some (5, 11), false⟩ := by decide +kernel

end trivia

end Pfst.C04
