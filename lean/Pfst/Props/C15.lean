import Pfst.WalkMutLemmas

/-!
# C15 — walking stays sound while the tree is being modified

Theorems about the `on='enter'` machine of `Pfst/WalkMut.lean` (`Enter.step`, mirroring fst_traverse.py:1353-1446 with
the `yield from` nesting of `send(True)`), for every interleaving of walk steps, `send`s and store changes that meet the
consumer contract `Mut` (replace / remove of whole subtrees: dead stays dead, nodes never move, an FST changes its AST
only to a fresh one in the same place).  Of the `leave` / `both` machines (`LB.step`) it is proved that every yield is of
a live node and what a `send(True)` at a leaving yield walks again; for the rest they are tied to the code by the
correspondence harness and the per-yield oracle only.
-/
namespace Pfst.C15
open Pfst.WalkMut Pfst.WalkMut.Enter

/-- the initial state satisfies the invariant on every well-formed store -/
theorem init_inv {σ : Store} (wf : WF σ) (root : FstId) (selfFlag recurse back : Bool) :
    Inv σ (init root selfFlag recurse back) :=
  ⟨Core.init wf 0, by simp [CtlInv, init]⟩

/-- Every step of the walk generator preserves the invariant. -/
theorem step_inv {σ : Store} {s : St} (h : Inv σ s) : Inv σ (step σ s).1 := by
  obtain ⟨hc, hctl⟩ := h
  have wf := hc.wf
  obtain ⟨root, selfFlag, recurse, back, ctl, frames, P, E, En, d0⟩ := s
  unfold step
  cases ctl with
  | done => exact ⟨hc, hctl⟩
  | start =>
    obtain ⟨rfl, rfl, rfl, rfl⟩ := hctl
    dsimp only
    split
    · exact ⟨hc, trivial⟩
    · next x hx =>
      have hl := wf.live_of_a hx
      have c0 := Core.init wf (σ.depth x)
      split
      · refine ⟨{ c0 with ent_nodup := List.pairwise_singleton _ x, ent_src := fun y hy => .inr fun _ => ?_,
                          ent_lt := fun y hy => ?_ },
          rfl, rfl, rfl, wf.fst_lt _ _ hx, fun x' hx' => by cases hx.symm.trans hx'; rfl⟩
        · cases List.mem_singleton.mp hy; rfl
        · cases List.mem_singleton.mp hy; exact wf.live_lt _ hl
      · exact ⟨c0.expand back hl (by simp) (.inr rfl) (Nat.le_refl _), trivial⟩
  | rootYield r =>
    obtain ⟨rfl, rfl, rfl, hrb, hd⟩ := hctl
    dsimp only
    split
    · exact ⟨hc, trivial⟩
    · split
      · exact ⟨hc, trivial⟩
      · next x hx =>
        exact ⟨hc.expand back (wf.live_of_a hx) (by simp) (.inr (hd x hx)) (Nat.le_of_eq (hd x hx).symm), trivial⟩
  | running =>
    dsimp only
    split
    · exact ⟨hc, trivial⟩
    · next fr rest =>
      obtain ⟨stack, rec⟩ := fr
      dsimp only
      split
      · exact ⟨hc, trivial⟩
      · next x stk =>
        have hc : Core σ (x :: (stk ++ rest.flatMap (·.stack))) P E En d0 := hc
        split
        · exact ⟨hc.pop, trivial⟩
        · next φ hφ =>
          have hl : σ.f x ≠ none := by rw [hφ]; exact Option.some_ne_none _
          have hx := List.mem_cons_self (a := x) (l := stk ++ rest.flatMap (·.stack))
          split
          · refine ⟨hc.enter hl, List.cons_ne_nil _ _, wf.fst_lt _ _ (wf.fa _ _ hφ), ?_⟩
            intro x' hx'
            rw [wf.fa _ _ hφ] at hx'; cases hx'
            exact ⟨(List.nodup_cons.mp (List.nodup_append.mp hc.nodup).1).1, hc.stack_not_src hc.exp_src hx hl, hc.deep _ hx hl,
              fun p hp hk => hc.pushed_parent p _ hp hk (List.mem_append_left _ hx)⟩
          · split
            · exact ⟨hc.pop, trivial⟩
            · refine ⟨?_, trivial⟩
              have := hc.pop.expand back hl (hc.stack_not_src hc.exp_src hx hl) (.inl List.mem_cons_self)
                (Nat.le_of_lt (hc.deep _ hx hl))
              rwa [← List.append_assoc] at this
  | yielded φ r =>
    obtain ⟨hfne, hφb, hcur⟩ := hctl
    dsimp only
    split
    · exact ⟨hc, trivial⟩
    · next fr rest =>
      split
      · exact ⟨hc, trivial⟩
      · split
        · exact ⟨hc, trivial⟩
        · next x hx =>
          have hl := wf.live_of_a hx
          obtain ⟨hxS, hxE, hxd, hxp⟩ := hcur x hx
          have hin : x ∈ (if P.contains x then P else x :: P) := by split <;> simp_all
          have c2 := (hc.addPopped hl hxS hxp).expand back hl hxE (.inl hin) (Nat.le_of_lt hxd)
          split
          · exact ⟨c2, trivial⟩
          · refine ⟨?_, trivial⟩
            rwa [show stackAll _ = fr.stack ++ rest.flatMap (·.stack) from rfl, ← List.append_assoc] at c2
/-- `gen.send(b)` preserves the invariant. -/
theorem send_inv {σ : Store} {s : St} (b : Bool) (h : Inv σ s) : Inv σ (send b s) := by
  -- `send` changes only the `recurse_` stored in `ctl`, which the invariant does not mention
  obtain ⟨root, selfFlag, recurse, back, ctl, frames, P, E, En, d0⟩ := s
  cases ctl <;> exact ⟨h.core, h.ctl⟩

/-- Every store change that meets the consumer contract preserves the invariant, in whatever state the
generator is suspended. -/
theorem mut_inv {σ σ' : Store} {s : St} (h : Inv σ s) (m : Mut σ σ') (wf' : WF σ') : Inv σ' s := by
  obtain ⟨hc, hctl⟩ := h
  refine ⟨hc.mutate m wf', ?_⟩
  obtain ⟨root, selfFlag, recurse, back, ctl, frames, P, E, En, d0⟩ := s
  cases ctl with
  | start | running | done => exact hctl
  | rootYield r =>
    obtain ⟨hf, hp, he, hrb, hd⟩ := hctl
    refine ⟨hf, hp, he, Nat.lt_of_lt_of_le hrb m.bound_le, fun x' hx' => ?_⟩
    cases hx : σ.a root with
    | none => rw [m.a_dead _ hrb hx] at hx'; cases hx'
    | some x =>
      rcases m.a_change _ x x' hx hx' with rfl | ⟨_, hdep, _⟩
      · rw [m.depth_old _ (hc.wf.live_lt _ (hc.wf.live_of_a hx)) (wf'.live_of_a hx')]
        exact hd _ hx
      · rw [hdep]; exact hd x hx
  | yielded φ r =>
    obtain ⟨hfne, hφb, hcur⟩ := hctl
    refine ⟨hfne, Nat.lt_of_lt_of_le hφb m.bound_le, fun x' hx' => ?_⟩
    cases hx : σ.a φ with
    | none => rw [m.a_dead _ hφb hx] at hx'; cases hx'
    | some x =>
      obtain ⟨hxS, hxE, hxd, hxp⟩ := hcur x hx
      have hl := hc.wf.live_of_a hx
      rcases m.a_change _ x x' hx hx' with rfl | ⟨hfresh, hdep, hpar⟩
      · have hb := hc.wf.live_lt _ hl
        refine ⟨hxS, hxE, by rw [m.depth_old _ hb (wf'.live_of_a hx')]; exact hxd, fun p hp hk => ?_⟩
        obtain ⟨hpl, hk'⟩ := m.parent_old hb hp hk
        exact hxp p hpl hk'
      · -- a fresh AST is on no list the walk holds, and hangs where the old one hung
        exact ⟨fun hm => absurd (hc.lt _ (List.mem_append_left _ hm)) (Nat.not_lt.mpr hfresh),
          fun hm => absurd (hc.exp_lt _ hm) (Nat.not_lt.mpr hfresh), by rw [hdep]; exact hxd,
          fun p hp hk => hxp p (hpar p hp hk).1 (hpar p hp hk).2⟩

/-- The moves of an interleaving: a step of the generator, a `send`, a store change by the consumer. -/
inductive Move where
  | step
  | send (b : Bool)
  | store (σ' : Store)

/-- A move is legal if a store change meets the consumer contract and leaves a well-formed store. -/
def Legal (σ : Store) : Move → Prop
  | .store σ' => Mut σ σ' ∧ WF σ'
  | _ => True

def apply (c : Store × St) : Move → Store × St
  | .step => (c.1, (step c.1 c.2).1)
  | .send b => (c.1, send b c.2)
  | .store σ' => (σ', c.2)

/-- legality of every move of a history, each judged in the store it is applied to -/
def LegalRun : Store × St → List Move → Prop
  | _, [] => True
  | c, m :: ms => Legal c.1 m ∧ LegalRun (apply c m) ms

def run (c : Store × St) (ms : List Move) : Store × St := ms.foldl apply c

/-- For EVERY interleaving of walk steps, sends and legal store changes, from any state satisfying the
invariant (in particular the initial one, `init_inv`), the invariant holds at the end. -/
theorem run_inv (ms : List Move) (c : Store × St) (h : Inv c.1 c.2) (hl : LegalRun c ms) :
    Inv (run c ms).1 (run c ms).2 := by
  induction ms generalizing c with
  | nil => exact h
  | cons m ms ih =>
    obtain ⟨hm, hrest⟩ := hl
    refine ih (apply c m) ?_ hrest
    cases m with
    | step => exact step_inv h
    | send b => exact send_inv b h
    | store σ' => exact mut_inv h hm.1 hm.2

/-- What a step records as entered: nothing if it does not yield; if it yields `φ`, the AST it found linked with `φ`
(read through `fst.a` for the walk root, through `ast.f` for a popped node). -/
def Entered (σ : Store) (s : St) : St × Option FstId → Prop
  | (s', none) => s'.entered = s.entered
  | (s', some φ) => ∃ x, (σ.a φ = some x ∨ σ.f x = some φ) ∧ s'.entered = x :: s.entered

theorem step_entered (σ : Store) (s : St) : Entered σ s (step σ s) := by
  unfold step
  repeat' split
  -- no yield, the yield of the walk root, the yield of a popped node
  all_goals first
    | exact rfl
    | exact ⟨_, .inl ‹_›, rfl⟩
    | exact ⟨_, .inr ‹_›, rfl⟩

/-- Whenever a step yields an FST, that FST is alive (`a = some x`), linked both ways with its AST,
the AST hangs in the tree (reachable from the tree root through live nodes), and `x` is what the history records as
entered. -/
theorem yield_alive {σ : Store} {s s' : St} {φ : FstId} (h : Inv σ s) (hs : step σ s = (s', some φ)) :
    ∃ x, σ.a φ = some x ∧ σ.f x = some φ ∧ Reach σ x ∧ s'.entered = x :: s.entered := by
  have wf := h.core.wf
  obtain ⟨x, hx, he⟩ : Entered σ s (s', some φ) := hs ▸ step_entered σ s
  have hl : σ.a φ = some x ∧ σ.f x = some φ := hx.elim (fun h => ⟨h, wf.af _ _ h⟩) (fun h => ⟨wf.fa _ _ h, h⟩)
  exact ⟨x, hl.1, hl.2, wf.reach _ (by rw [hl.2]; simp), he⟩

theorem step_silent {σ : Store} {s s' : St} (hs : step σ s = (s', none)) : s'.entered = s.entered :=
  (hs ▸ step_entered σ s : Entered σ s (s', none))

/-- In every state reachable by any interleaving, the AST ids yielded on entry so far are pairwise
different: no node is yielded twice. -/
theorem no_double (ms : List Move) (c : Store × St) (h : Inv c.1 c.2) (hl : LegalRun c ms) :
    (run c ms).2.entered.Nodup :=
  (run_inv ms c h hl).core.ent_nodup

theorem nodup_bounded_length (n : Nat) (l : List Nat) (hn : l.Nodup) (hb : ∀ x ∈ l, x < n) : l.length ≤ n := by
  have := hn.length_le_of_subset (l₂ := List.range n) fun x hx => List.mem_range.mpr (hb x hx)
  rwa [List.length_range] at this

/-- In every state reachable by any interleaving, the number of yields so far and the number of pops so
far are at most the number of ids ever allocated (`bound` = initial nodes + nodes of all introduced subtrees, see
`alloc_bound`): the walk cannot go on forever without the consumer feeding it new nodes.  Measure: every pop consumes
one id that can never be pushed again (`Core.nodup`, `pushed_parent`). -/
theorem terminates (ms : List Move) (c : Store × St) (h : Inv c.1 c.2) (hl : LegalRun c ms) :
    (run c ms).2.entered.length ≤ (run c ms).1.bound ∧
    (stackAll (run c ms).2 ++ (run c ms).2.popped).length ≤ (run c ms).1.bound := by
  have hi := run_inv ms c h hl
  exact ⟨nodup_bounded_length _ _ hi.core.ent_nodup hi.core.ent_lt,
         nodup_bounded_length _ _ hi.core.nodup hi.core.lt⟩

/-- the allocation counter grows by exactly the size of an introduced subtree -/
theorem alloc_bound : ∀ (sh : Shape) (n : Nat), (alloc sh n).2 = n + (Tree.aids (alloc sh n).1).length := by
  intro sh
  induction sh using Shape.rec (motive_2 := fun ss => ∀ n, (allocL ss n).2 = n + (Tree.aidsL (allocL ss n).1).length) with
  | mk l v ks ih =>
    intro n
    simp only [alloc, Tree.aids, List.length_cons]
    rw [ih (n + 1)]; omega
  | nil => simp [allocL, Tree.aidsL]
  | cons s ss ih1 ih2 =>
    simp only [allocL, Tree.aidsL, List.length_append]
    rw [ih2, ih1]; omega

/-- the bound of `terminates` on the concrete store: a replace raises the counter by at most the size of the
introduced subtree, a remove leaves it unchanged; so `bound` ≤ initial nodes + Σ sizes of introduced subtrees -/
theorem apply_bound (c : CStore) (x : AstId) (sh : Shape) :
    (c.apply (.replace x sh)).next ≤ c.next + (Tree.aids (alloc sh c.next).1).length ∧
    (c.apply (.remove x)).next = c.next := by
  constructor
  · simp only [CStore.apply]
    split
    · omega
    · simp only [CStore.withTree]
      rw [alloc_bound]; omega
  · simp only [CStore.apply]
    split <;> rfl

/-- If the consumer replaced the node just yielded (so the yielded FST now carries the
AST `x`) and did not `send(False)`, resuming pushes exactly the children of the new AST on top of the untouched stack
(or starts the nested unconditional walk on them); `replaced_children_next'` says what is yielded next. -/
theorem replaced_children_next {σ : Store} {s : St} {φ : FstId} {r : Rec} {fr : Frame} {rest : List Frame} {x : AstId}
    (hs : s.ctl = .yielded φ r) (hf : s.frames = fr :: rest) (hr : r ≠ .no) (hx : σ.a φ = some x) :
    (step σ s).2 = none ∧ (step σ s).1.ctl = .running ∧
    stackAll (step σ s).1 = order s.back (σ.kids x) ++ stackAll s := by
  unfold step
  simp only [hs, hf, hx]
  have : (r == Rec.no) = false := by cases r <;> simp_all
  simp only [this]
  by_cases hcond : (r == Rec.one && !fr.recurse) = true <;>
    simp [hcond, newFrame, pushKids, notePopped, stackAll, hf, List.append_assoc]

/-- A running walk whose top of stack `c` is alive (`σ.f c = some ψ`) and passes `all` yields `ψ` in the next step.  After
`replaced_children_next` the top of stack is the first new child; a dead one is popped silently (`dead_skipped`). -/
theorem replaced_children_next' {σ : Store} {s : St} {fr : Frame} {rest : List Frame} {c : AstId} {cs : List AstId}
    {ψ : FstId} (hs : s.ctl = .running) (hf : s.frames = fr :: rest) (hst : fr.stack = c :: cs)
    (hc : σ.f c = some ψ) (hv : σ.checkAll ψ = true) : (step σ s).2 = some ψ := by
  unfold step
  simp [hs, hf, hst, hc, hv]

/-- If the node just yielded was removed (or an ancestor was replaced or removed: the yielded
FST is dead), resuming does not touch the stack: the walk continues with what followed, exactly as after
`send(False)`; whatever of it died is skipped when popped (`dead_skipped`). -/
theorem removed_continues {σ : Store} {s : St} {φ : FstId} {r : Rec} {fr : Frame} {rest : List Frame}
    (hs : s.ctl = .yielded φ r) (hf : s.frames = fr :: rest) (hx : σ.a φ = none) :
    step σ s = ({ s with ctl := .running }, none) := by
  unfold step
  simp only [hs, hf, hx]
  split <;> rfl

/-- a dead AST on the stack is popped without a yield and without pushing anything -/
theorem dead_skipped {σ : Store} {s : St} {fr : Frame} {rest : List Frame} {x : AstId} {stk : List AstId}
    (hs : s.ctl = .running) (hf : s.frames = fr :: rest) (hst : fr.stack = x :: stk) (hx : σ.f x = none) :
    (step σ s).2 = none ∧ stackAll (step σ s).1 = stk ++ rest.flatMap (·.stack) := by
  unfold step
  simp [hs, hf, hst, hx, stackAll]

theorem send_yielded {s : St} {φ : FstId} {r : Rec} (hs : s.ctl = .yielded φ r) (b : Bool) :
    send b s = { s with ctl := .yielded φ (if b then .one else .no) } := by
  simp only [send, hs]

/-- After `send(False)` resuming pushes nothing; after `send(True)` on a live node its children are
pushed whatever the `recurse` setting of the generator (on a nested unconditional generator if `recurse` was off): the
frame on top then recurses, `fr.recurse || true` being `true`. -/
theorem send_honoured {σ : Store} {s : St} {φ : FstId} {r : Rec} {fr : Frame} {rest : List Frame}
    (hs : s.ctl = .yielded φ r) (hf : s.frames = fr :: rest) :
    step σ (send false s) = ({ s with ctl := .running }, none) ∧
    ∀ x, σ.a φ = some x →
      stackAll (step σ (send true s)).1 = order s.back (σ.kids x) ++ stackAll s ∧
      (step σ (send true s)).1.frames.head?.map (·.recurse) = some (fr.recurse || true) := by
  have ht := send_yielded hs true
  refine ⟨by simp [send, hs, step, hf], fun x hx => ?_⟩
  rw [ht]
  refine ⟨(replaced_children_next (s := { s with ctl := .yielded φ .one }) rfl hf (by simp) hx).2.2, ?_⟩
  unfold step
  simp only [hf, hx]
  cases hrec : fr.recurse <;> simp [newFrame, pushKids, hrec]

/-- The two executable checks the driver evaluates on every run (`wfB` on the initial store, `mutB` on
every store change, of the model's own `replaceAt` / `removeAt` and of the trees observed after real `replace()` /
`remove()` calls) are sound for the hypotheses of the theorems above: a store change that passes is a legal move. -/
theorem checks_sound {c c' : CStore} (h : c.mutB c' = true) : Legal c.store (.store c'.store) :=
  CStore.mutB_sound h

/-- the walk of any checked concrete store starts in the invariant -/
theorem concrete_init_inv {c : CStore} (h : c.wfB = true) (root : FstId) (selfFlag recurse back : Bool) :
    Inv c.store (init root selfFlag recurse back) :=
  init_inv (CStore.wfB_sound h) root selfFlag recurse back

/-! ## `on='leave'` and `on='both'`: every yield is guarded by a liveness check -/

theorem checkAll_alive {σ : Store} {φ : FstId} (h : σ.checkAll φ = true) : ∃ x, σ.a φ = some x := by
  unfold Store.checkAll at h
  cases hx : σ.a φ with
  | none => rw [hx] at h; cases h
  | some x => exact ⟨x, rfl⟩

/-- an event, if any, is about an FST that is alive -/
def EvAlive (σ : Store) : Option LB.Ev → Prop
  | some (φ, _) => ∃ x, σ.a φ = some x
  | none => True

theorem stepLeave_alive (σ : Store) (back : Bool) (g : LB.Gen) : EvAlive σ (LB.stepLeave σ back g).2 := by
  unfold LB.stepLeave
  repeat' split
  -- no event, or an FST just read as alive, or one that passed `check_all_param`
  all_goals first
    | exact trivial
    | exact ⟨_, ‹_›⟩
    | exact checkAll_alive (by have h := ‹¬ _›; simpa using h)

theorem bothEnterPart_alive (σ : Store) (g : LB.Gen) (ψ : FstId) (x : AstId) (back : Bool) :
    EvAlive σ (LB.bothEnterPart σ g ψ x back).ev := by
  unfold LB.bothEnterPart
  split
  · exact checkAll_alive ‹_›
  · split <;> exact trivial

theorem stepBoth_alive (σ : Store) (back : Bool) (g : LB.Gen) : EvAlive σ (LB.stepBoth σ back g).ev := by
  unfold LB.stepBoth
  repeat' split
  all_goals first
    | exact trivial
    | exact ⟨_, ‹_›⟩
    | exact bothEnterPart_alive _ _ _ _ _

theorem step_alive (σ : Store) (s : LB.St) : EvAlive σ (LB.step σ s).2 := by
  unfold LB.step
  split
  · exact trivial
  · split
    · exact trivial
    · split
      · exact stepLeave_alive _ _ _
      · have := stepBoth_alive σ s.back ‹LB.Gen›
        dsimp only
        split <;> exact this

/-- In the `leave` and `both` machines every yield, entering or leaving, is of an FST that is
alive at that moment, linked with its AST, and hanging in the tree — whatever the consumer did before (no invariant is
needed: every `yield` of these loops sits directly behind a `fst_.a` / `ast.f` / `check_all_param` test). -/
theorem yield_alive_leave_both {σ : Store} (wf : WF σ) {s s' : LB.St} {φ : FstId} {lv : Bool}
    (h : LB.step σ s = (s', some (φ, lv))) : ∃ x, σ.a φ = some x ∧ σ.f x = some φ ∧ Reach σ x := by
  obtain ⟨x, hx⟩ : EvAlive σ (some (φ, lv)) := by
    have := step_alive σ s
    rwa [h] at this
  exact ⟨x, hx, wf.af _ _ hx, wf.reach _ (wf.live_of_a hx)⟩

/-- `replaced_children_next` for `on='leave'` under `send(True)`: when a node's leaving
yield is answered with `send(True)`, resuming re-reads `fst_.a`: the children pushed for the repeat walk are those of
the AST the FST carries NOW (the new children if the consumer replaced the node in that step), on top of a leaving
entry for the node itself, on top of the untouched stack. -/
theorem leave_rewalk_children {σ : Store} {back : Bool} {g : LB.Gen} {φ : FstId} {x : AstId}
    (hs : g.ctl = .yLeave φ true) (hx : σ.a φ = some x) :
    LB.stepLeave σ back g =
      ({ g with ctl := .running, stack := LB.items back (σ.kids x) ++ .fst φ :: g.stack }, none) := by
  simp [LB.stepLeave, hs, hx]

/-- the same for `on='both'` (generator with `recurse` on): the node is entered again, on its current AST -/
theorem both_rewalk_reenters {σ : Store} {back : Bool} {g : LB.Gen} {φ : FstId} {x : AstId}
    (hs : g.ctl = .yLeave φ true) (hx : σ.a φ = some x) (hr : g.recurse = true) (hv : σ.vis x = true) :
    (LB.stepBoth σ back g).ev = some (φ, false) := by
  have hc : σ.checkAll φ = true := by simp [Store.checkAll, hx, hv]
  simp [LB.stepBoth, hs, hx, hr, LB.bothEnterPart, hc]

/-- a removed node answered with `send(True)` is not walked again -/
theorem leave_rewalk_removed {σ : Store} {back : Bool} {g : LB.Gen} {φ : FstId}
    (hs : g.ctl = .yLeave φ true) (hx : σ.a φ = none) :
    LB.stepLeave σ back g = ({ g with ctl := .running }, none) := by
  simp [LB.stepLeave, hs, hx]

/-- `replaced_children_next` for the walk root of `on='leave'` under `send(True)`: the
restart pushes the children of the AST the root FST carries NOW. -/
theorem root_rewalk_children {σ : Store} {back : Bool} {g : LB.Gen} {x0 x : AstId}
    (hs : g.ctl = .rootLeave x0 true) (hx : σ.a g.root = some x) (hk : LB.items back (σ.kids x) ≠ []) :
    LB.stepLeave σ back g = ({ g with stack := LB.items back (σ.kids x), ctl := .running }, none) := by
  unfold LB.stepLeave
  rw [hs]
  simp only [if_true, hx]

/-- the same for `on='both'`: the root is queued for entry again on its current AST, unconditionally recursing -/
theorem root_rewalk_both {σ : Store} {back : Bool} {g : LB.Gen} {x0 x : AstId}
    (hs : g.ctl = .rootLeave x0 true) (hx : σ.a g.root = some x) :
    (LB.stepBoth σ back g).g = { g with stack := [.ast x], selfFlag := false, recurse := true, ctl := .running } := by
  simp [LB.stepBoth, hs, hx]

/-! ## `search()` as a consumer-side wrapper: the consumer's `send` wins over the automatic one -/

/-- Whatever `nested` is, if the consumer sent anything for a match, exactly the
consumer's values reach the walk generator, in order; `search` adds its own `send(False)` only when the consumer sent
nothing and `nested=False`. -/
theorem search_consumer_send_wins (nested : Bool) (sends : List Bool) (h : sends ≠ []) :
    Search.forwarded nested sends = sends := by
  cases sends with
  | nil => exact absurd rfl h
  | cons b bs => rfl

theorem search_auto_send (nested : Bool) :
    Search.forwarded nested [] = if nested then [] else [false] := rfl

/-- the last value sent is the one in effect (`Can send multiple times, last value sent takes effect`) -/
theorem send_last {s : St} {φ : FstId} {r : Rec} (hs : s.ctl = .yielded φ r) (bs : List Bool) (b : Bool) :
    (bs ++ [b]).foldl (fun s b => send b s) s = { s with ctl := .yielded φ (if b then .one else .no) } := by
  induction bs generalizing s r with
  | nil => exact send_yielded hs b
  | cons c cs ih =>
    rw [List.cons_append, List.foldl_cons, ih (s := send c s) (by rw [send_yielded hs]), send_yielded hs]

/-- Through `search(pat, nested)` — for either value of `nested` — a consumer that
answers a match with `send(True)` (last) gets the children of the matched node's current AST pushed, exactly as with
`walk` itself; in particular `nested=False` does not override it. -/
theorem search_send_true_honoured {σ : Store} {s : St} {φ : FstId} {r : Rec} {fr : Frame} {rest : List Frame} {x : AstId}
    (nested : Bool) (bs : List Bool) (hs : s.ctl = .yielded φ r) (hf : s.frames = fr :: rest) (hx : σ.a φ = some x) :
    let s' := (Search.forwarded nested (bs ++ [true])).foldl (fun s b => send b s) s
    (step σ s').2 = none ∧ stackAll (step σ s').1 = order s.back (σ.kids x) ++ stackAll s := by
  intro s'
  have hs' : s' = { s with ctl := .yielded φ .one } := by
    simp only [s', search_consumer_send_wins nested _ (List.append_ne_nil_of_right_ne_nil _ (List.cons_ne_nil _ _))]
    exact send_last hs bs true
  rw [hs']
  have := replaced_children_next (s := { s with ctl := .yielded φ .one }) rfl hf (by simp) hx
  exact ⟨this.1, this.2.2⟩

/-! ## Non-vacuity: a concrete tree, the walk of `[[a, b], c]` with the consumer replacing `[a, b]` by `[x, y]` when it
is yielded, then removing `c`'s predecessor… run through the executable machine. -/

/-- `[[a, b], c]`: ids 0 = outer list, 1 = inner list, 2 = a, 3 = b, 4 = c -/
def ex0 : CStore :=
  { tree := .mk 0 0 1 true [.mk 1 1 1 true [.mk 2 2 2 true [], .mk 3 3 2 true []], .mk 4 4 2 true []], next := 5 }

/-- after two `next()` the walk is suspended at the inner list (FST 1) -/
def exS2 : St := ((next ex0.store 10 ((next ex0.store 10 (init 0 true true false)).1)).1)

example : (next ex0.store 10 (next ex0.store 10 (init 0 true true false)).1).2 = some 1 := by decide +kernel

/-- the consumer replaces the inner list by a fresh `[x, y]` (ids 5, 6, 7; FST 1 is kept) -/
def ex1 : CStore := ex0.apply (.replace 1 (.mk 1 true [.mk 2 true [], .mk 2 true []]))

example : ex1.store.a 1 = some 5 ∧ ex1.store.f 1 = none ∧ ex1.store.kids 5 = [6, 7] ∧ ex1.next = 8 := by decide +kernel
example : ex0.mutB ex1 = true := by decide +kernel

/-- the new children are yielded next, then `c`; every AST id once -/
example : ((next ex1.store 10 exS2).2 = some 6) := by decide +kernel
example : (next ex1.store 10 (next ex1.store 10 (next ex1.store 10 exS2).1).1).2 = some 4 := by decide +kernel
example : (next ex1.store 10 (next ex1.store 10 (next ex1.store 10 exS2).1).1).1.entered = [4, 7, 6, 1, 0] := by decide +kernel

/-- the hypotheses of the theorems hold here: the store is well-formed, the replacement is a legal move, and the
invariant holds after the interleaving step, step, replace, step, step (by `run_inv`) -/
example : WF ex0.store := CStore.wfB_sound (by decide +kernel)
example : Mut ex0.store ex1.store ∧ WF ex1.store := CStore.mutB_sound (by decide +kernel)
def exMoves : List Move := [.step, .step, .step, .store ex1.store, .step, .step]
example : Inv (run (ex0.store, init 0 true true false) exMoves).1 (run (ex0.store, init 0 true true false) exMoves).2 := by
  refine run_inv exMoves (ex0.store, init 0 true true false)
    (concrete_init_inv (c := ex0) (by decide +kernel) 0 true true false) ?_
  simp only [exMoves, LegalRun, Legal, apply, and_true, true_and]
  exact CStore.mutB_sound (by decide +kernel)
example : (run (ex0.store, init 0 true true false)
    [.step, .step, .step, .store ex1.store, .step, .step]).2.entered = [6, 1, 0] := by decide +kernel

/-- removing the current node instead: the walk continues with `c` -/
def ex2 : CStore := ex0.apply (.remove 1)
example : (next ex2.store 10 exS2).2 = some 4 := by decide +kernel
example : ex0.mutB ex2 = true := by decide +kernel

/-- `send(False)` at the inner list skips `a`, `b` -/
example : (next ex0.store 10 (send false exS2)).2 = some 4 := by decide +kernel

/-- with `recurse=False` the inner list is not recursed into, unless `send(True)` -/
def exR : St := ((next ex0.store 10 ((next ex0.store 10 (init 0 true false false)).1)).1)
example : (next ex0.store 10 exR).2 = some 4 := by decide +kernel
example : (next ex0.store 10 (send true exR)).2 = some 2 := by decide +kernel

/-! ### The walk root (finding C15-F1, fixed): its restart after `send(True)` rereads `self.a` like every other node.
Witness of the former failure: `[a]` (ids 0 = list, 1 = a) walked with `on='leave'`; at the root's yield the consumer
replaces it by `[x, y]` (fresh ids 2, 3, 4; FST 0 kept) and sends `True`. -/

def rw0 : CStore := { tree := .mk 0 0 1 true [.mk 1 1 2 true []], next := 2 }
def rw1 : CStore := rw0.apply (.replace 0 (.mk 1 true [.mk 2 true [], .mk 2 true []]))
/-- suspended at the root's leaving yield (after the yield of `a`) -/
def rwS : LB.St := (LB.next rw0.store 20 (LB.next rw0.store 20 (LB.init true 0 true true false)).1).1

example : (LB.next rw0.store 20 (LB.next rw0.store 20 (LB.init true 0 true true false)).1).2 = some (0, true) := by decide +kernel
example : rw1.store.kids 2 = [3, 4] ∧ rw1.store.a 0 = some 2 := by decide +kernel

/-- the next `n` yields of a leave/both walk on a fixed store -/
def collect (σ : Store) (fuel : Nat) : Nat → LB.St → List LB.Ev
  | 0, _ => []
  | n + 1, s =>
    match LB.next σ fuel s with
    | (s', some e) => e :: collect σ fuel n s'
    | (_, none) => []

/-- On the witness the new children 3, 4 are yielded next, then the root again, then the
walk is over. -/
theorem root_rewalk_new_children :
    collect rw1.store 8 5 (LB.send true rwS) = [(3, true), (4, true), (0, true)] := by decide +kernel

end Pfst.C15
