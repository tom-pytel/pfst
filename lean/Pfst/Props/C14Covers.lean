import Pfst.TableCheckLemmas
import Pfst.Gen.SyntaxOrder
/-! C14, tables: every AST child exactly once. -/
namespace Pfst.C14
open Pfst

theorem order_covers_A : Gen.SyntaxOrder.shapesEncA.all TableCheck.coversOk = true := by
  refine TableCheck.all_imp TableCheck.coversOk_of ?_
  decide +kernel

theorem order_covers_B : Gen.SyntaxOrder.shapesEncB.all TableCheck.coversOk = true := by
  refine TableCheck.all_imp TableCheck.coversOk_of ?_
  decide +kernel

end Pfst.C14
