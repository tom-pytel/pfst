import Pfst.OptionsLemmas
/-!
# C20 — options and edits are isolated per call, per block and per thread

Property text: *An option passed to a call affects only that call; options set through the options() context manager
are restored exactly on exit, also when the block raises; unknown options or invalid values are rejected before anything
is changed; option defaults set in one thread are never visible in another.  Threads that edit different trees
concurrently obtain exactly the results they would obtain running alone.*

All theorems are about the executable model `Pfst/Options.lean` of `src/fst/fst_options.py`; they hold for EVERY table
`c : Cfg` (so they do not depend on which values the `_check_opt_*` functions accept); the `real_*` theorems
instantiate them with the table extracted from the imported module (`Pfst/Gen/Options.lean`, regenerated on every run).
The atomic step is one API call; preemption inside a call is outside the model.
-/
namespace Pfst.C20
open Pfst.Options

/-! ## rejected before anything is changed -/

/-- `set_options` whose validation fails returns the store itself (not merely an equal dict for the calling thread),
    with that validation error. -/
theorem set_invalid_identity (c : Cfg) (σ : Store) (t : Thread) (kvs : Kvs) (e : Err)
    (h : checkOptions c false kvs = some e) : setOptions c σ t kvs = (σ, .error e) := by
  simp [setOptions, setOptionsD, h]

/-- Whatever the reason `set_options` raises for (validation, or the `KeyError` branch of the snapshot), the store is
    returned untouched. -/
theorem set_error_identity (c : Cfg) (σ : Store) (t : Thread) (kvs : Kvs) (e : Err)
    (h : (setOptions c σ t kvs).2 = .error e) : (setOptions c σ t kvs).1 = σ := by
  unfold setOptions at h ⊢
  cases hs : setOptionsD c (getT c t σ) kvs with
  | error e' => simp
  | ok r => rw [hs] at h; obtain ⟨m', old⟩ := r; simp at h

/-- `check_options({n: v}, all)` accepts -/
def accepts (c : Cfg) (all : Bool) (n : Name) (v : Val) : Bool :=
  match alook n (if all then c.acceptAll else c.acceptGlobal) with
  | some (acc, cr) => !cr.contains v && acc.contains v
  | none => false

theorem checkLoop_rejects (tbl : List (Name × List Val × List Val)) (n : Name) (v : Val)
    (hbad : (match alook n tbl with | some (acc, cr) => !cr.contains v && acc.contains v | none => false) = false)
    (kvs : Kvs) (h : (n, v) ∈ kvs) : checkLoop tbl kvs ≠ none := by
  fun_induction checkLoop tbl kvs <;> simp_all
  next hl hc ha ih =>
    -- the item the loop has just accepted is not `(n, v)`, so that one is further on
    rcases h with ⟨rfl, rfl⟩ | h
    · simp [hl, hc, ha] at hbad
    · exact ih h

/-- One unacceptable item ANYWHERE in the keyword arguments (unknown name, a value its check function rejects or
    crashes on, the internal marker key) makes `set_options` raise and leave the store untouched.
    Hypothesis `hm`: the marker key is no key of the thread's dict (true of every reachable store, `real_tables_wf`). -/
theorem set_invalid_any_position (c : Cfg) (σ : Store) (t : Thread) (kvs : Kvs) (n : Name) (v : Val)
    (hin : (n, v) ∈ kvs) (hbad : accepts c false n v = false)
    (hm : ∀ mk, c.marker = some mk → mk ∉ keys (getT c t σ)) :
    ∃ e, setOptions c σ t kvs = (σ, .error e) := by
  unfold setOptions setOptionsD
  cases hc : checkOptions c false kvs with
  | some e => exact ⟨e, rfl⟩
  | none =>
    -- the loop rejects `(n, v)`, so validation passed through the early return on the marker key; the snapshot then
    -- fails on that key
    have hl := checkLoop_rejects c.acceptGlobal n v (by simpa [accepts] using hbad) kvs hin
    have hmk : hasMarker c kvs = true := by
      cases kvs with
      | nil => cases hin
      | cons _ _ => simpa [checkOptions, hl] using hc
    unfold hasMarker at hmk
    split at hmk
    · cases hmk
    · next mk hcm =>
      obtain ⟨b, hb⟩ := snapshot_error_of_missing mk kvs _ ((alook_isSome_iff mk kvs).1 hmk)
        ((alook_none_iff mk _).2 (hm mk hcm))
      exact ⟨.badName b, by simp [hb]⟩

/-! ## blocks restore -/

/-- Frame of every program: option `k` keeps its value unless a `set_options` statement naming `k` occurs outside all
    `with options(...)` blocks naming `k`; and the set of keys never changes. -/
theorem exec_frame (c : Cfg) (p : Prog) (m : OptMap) :
    keys (execL c p m).m = keys m ∧ ∀ k, k ∉ dirty p → alook k (execL c p m).m = alook k m := by
  -- cases of `execL`: 1 skip, 2/3 seq (the first part raises / returns), 4 get, 5 call, 6 set, 7/8 block (refused /
  -- entered), 9 raise, 10 catch
  fun_induction execL c p m with
  | case1 | case4 | case5 | case7 | case9 => exact ⟨rfl, fun _ _ => rfl⟩
  | case2 p q m r _ ih => exact ⟨ih.1, fun k hk => ih.2 k fun h => hk (List.mem_append_left _ h)⟩
  | case3 p q m r _ s ihp ihq =>
    exact ⟨ihq.1.trans ihp.1, fun k hk => (ihq.2 k fun h => hk (List.mem_append_right _ h)).trans
      (ihp.2 k fun h => hk (List.mem_append_left _ h))⟩
  | case6 kvs m =>
    unfold doSet
    split
    · exact ⟨rfl, fun _ _ => rfl⟩
    · next h => exact setOptionsD_frame h
  | case8 kvs body m m1 old hs r ih =>
    -- the `finally` puts back the block's keys; the other keys are the body's business
    obtain ⟨_, ik, il, hin⟩ := setOptionsD_ok hs
    obtain ⟨k1, f1⟩ := setOptionsD_frame hs
    refine ⟨(keys_update old _ fun k hk => ?_).trans (ih.1.trans k1), fun k hk => ?_⟩
    · rw [ih.1, k1]; exact hin k (ik ▸ hk)
    · by_cases hkk : k ∈ keys kvs
      · exact alook_update_mem (fun k => alook k m) k old _ il (ik ▸ hkk)
      · have hb : k ∉ dirty body := fun hb => hk (List.mem_filter.2 ⟨hb, by simpa using hkk⟩)
        exact (alook_update_notin k old _ (ik ▸ hkk)).trans ((ih.2 k hb).trans (f1 k hkk))
  | case10 body m r ih => exact ih

/-- `with options(**kvs): body` leaves every option named in `kvs` at the value it had before the block, for EVERY
    body: nested blocks, `set_options` of the same keys inside, raises, caught or propagating exceptions, and also when
    entering the block is itself rejected. -/
theorem block_restores (c : Cfg) (kvs : Kvs) (body : Prog) (m : OptMap) (k : Name) (hk : k ∈ keys kvs) :
    alook k (execL c (.block kvs body) m).m = alook k m := by
  apply (exec_frame c (.block kvs body) m).2
  simp [dirty, hk]

/-- A program that leaves nothing dirty restores the WHOLE dict exactly, order included. -/
theorem exec_clean (c : Cfg) (p : Prog) (m : OptMap) (hn : (keys m).Nodup) (hd : dirty p = []) :
    (execL c p m).m = m := by
  obtain ⟨hk, hf⟩ := exec_frame c p m
  exact ext_of_keys_alook _ _ hk hn (fun k => hf k (by simp [hd]))

/-- In particular a block that names everything its body leaves dirty (e.g. a body without a bare `set_options`). -/
theorem block_restores_all (c : Cfg) (kvs : Kvs) (body : Prog) (m : OptMap) (hn : (keys m).Nodup)
    (hd : ∀ k ∈ dirty body, k ∈ keys kvs) : (execL c (.block kvs body) m).m = m :=
  exec_clean c _ m hn (List.filter_eq_nil_iff.2 fun k hk => by simpa using hd k hk)

/-! ## per-call options -/

/-- `get_option(n, opts)` and an edit call with per-call options (valid or rejected) never write the option store:
    neither the dict of the calling thread nor any other thread's. -/
theorem percall_no_leak (c : Cfg) (t u : Thread) (σ : Store) (opts : Kvs) (n : Name) :
    getT c u (exec c t (.call opts) σ).1 = getT c u σ ∧ getT c u (exec c t (.get n opts) σ).1 = getT c u σ := by
  by_cases h : u = t
  · subst h
    simp [exec, execL, getT, putT, aget_aput_same]
  · simp [exec, execL, getT, putT, aget_aput_ne _ _ _ h]

/-- A valid call with per-call options is transparent for the rest of the program: what follows observes exactly what
    it would observe had the call not been made. -/
theorem percall_transparent (c : Cfg) (opts : Kvs) (q : Prog) (m : OptMap) (h : checkOptions c true opts = none) :
    execL c (.seq (.call opts) q) m =
      ⟨(execL c q m).m, .view (viewOf c m opts) (effsOf c m opts) m :: (execL c q m).tr, (execL c q m).exc⟩ := by
  simp [execL, callObs, h]

/-- The resolvers see the call's options and the thread dict only through "per-call value, else thread default". -/
theorem effSpecific_eq (c : Cfg) (m : OptMap) (spec gen : Name) (opts : Kvs) :
    effSpecific c m spec gen opts =
      match (alook spec opts).orElse fun _ => alook spec m with
      | some o => if o ≠ c.noneVal then some o else (alook gen opts).orElse fun _ => alook gen m
      | none => none := by
  unfold effSpecific
  cases alook spec opts <;> cases alook gen opts <;> rfl

theorem effSetNorm_eq (c : Cfg) (m : OptMap) (spec : Name) (opts : Kvs) :
    effSetNorm c m spec opts =
      if effSpecific c m spec c.nNorm opts ≠ some c.trueVal then effSpecific c m spec c.nNorm opts
      else (alook c.nSetNorm opts).orElse fun _ => alook c.nSetNorm m := by
  unfold effSetNorm
  cases alook c.nSetNorm opts <;> rfl

/-- What a call sees depends only on "per-call value, else thread default": any dict `M` with those lookups, passed
    with no per-call options, gives the same `get_option` answers and the same five `_get_opt_eff_*` answers. -/
theorem eff_merged (c : Cfg) (m M : OptMap) (opts : Kvs)
    (hM : ∀ n, alook n M = (alook n opts).orElse (fun _ => alook n m)) :
    effsOf c m opts = effsOf c M [] ∧ ∀ n, getOption c m n opts = getOption c M n [] := by
  have hM' : ∀ n, (alook n ([] : Kvs)).orElse (fun _ => alook n M) = (alook n opts).orElse fun _ => alook n m := hM
  refine ⟨by simp only [effsOf, effSetNorm_eq, effSpecific_eq, hM'], fun n => ?_⟩
  simp only [getOption, alook, hM]
  cases alook n opts <;> simp

/-- **Three-level lookup, level 1.**  An option PRESENT in the call's options decides, whatever its value (`None`
    included): `get_option` returns it for every thread dict. -/
theorem percall_present_decides (c : Cfg) (m : OptMap) (n : Name) (opts : Kvs) (o : Val) (h : alook n opts = some o) :
    getOption c m n opts = o := by
  simp [getOption, h]

/-- Levels 2/3: the thread/block default (and through `getT` the library default) is consulted only for an ABSENT key. -/
theorem percall_absent_consults (c : Cfg) (m : OptMap) (n : Name) (opts : Kvs) (h : alook n opts = none) :
    getOption c m n opts = (alook n m).getD c.noneVal := by
  simp [getOption, h]

theorem alook_orElse_congr {m m' : OptMap} {opts : Kvs} {n : Name} (h : alook n opts = none → alook n m = alook n m') :
    ((alook n opts).orElse fun _ => alook n m) = (alook n opts).orElse fun _ => alook n m' := by
  cases h' : alook n opts with
  | none => exact h h'
  | some _ => rfl

theorem effSpecific_congr (c : Cfg) (m m' : OptMap) (spec gen : Name) (opts : Kvs)
    (hs : alook spec opts = none → alook spec m = alook spec m')
    (hg : alook gen opts = none → alook gen m = alook gen m') :
    effSpecific c m spec gen opts = effSpecific c m' spec gen opts := by
  rw [effSpecific_eq, effSpecific_eq, alook_orElse_congr hs, alook_orElse_congr hg]

theorem effSetNorm_congr (c : Cfg) (m m' : OptMap) (spec : Name) (opts : Kvs)
    (hs : alook spec opts = none → alook spec m = alook spec m')
    (hg : alook c.nNorm opts = none → alook c.nNorm m = alook c.nNorm m')
    (hn : alook c.nSetNorm opts = none → alook c.nSetNorm m = alook c.nSetNorm m') :
    effSetNorm c m spec opts = effSetNorm c m' spec opts := by
  rw [effSetNorm_eq, effSetNorm_eq, effSpecific_congr c m m' spec c.nNorm opts hs hg, alook_orElse_congr hn]

/-- The resolvers `_get_opt_eff_pars_arglike / _norm_self / _norm_get`: when the specific option is present in the call
    (even as `None`) its thread/block default is never consulted: two thread dicts that differ ONLY in the specific
    option (any values there) give the same answer.  An explicit `norm_self=None` shields the call from a
    `with options(norm_self=True)` around it. -/
theorem eff_present_shields (c : Cfg) (m m' : OptMap) (spec gen : Name) (opts : Kvs) (o : Val)
    (h : alook spec opts = some o) (hg : alook gen m = alook gen m') :
    effSpecific c m spec gen opts = effSpecific c m' spec gen opts :=
  effSpecific_congr c m m' spec gen opts (by simp [h]) fun _ => hg

/-- with the general option present as well, no default is consulted at all -/
theorem eff_all_present_independent (c : Cfg) (m m' : OptMap) (spec gen : Name) (opts : Kvs) (o g : Val)
    (h : alook spec opts = some o) (hg : alook gen opts = some g) :
    effSpecific c m spec gen opts = effSpecific c m' spec gen opts :=
  effSpecific_congr c m m' spec gen opts (by simp [h]) (by simp [hg])

/-- the same for `_get_opt_eff_set_norm_self / _get`: specific, `norm` and `set_norm` passed ⇒ independent of every default -/
theorem effSetNorm_all_present_independent (c : Cfg) (m m' : OptMap) (spec : Name) (opts : Kvs) (o g s : Val)
    (h : alook spec opts = some o) (hg : alook c.nNorm opts = some g) (hs : alook c.nSetNorm opts = some s) :
    effSetNorm c m spec opts = effSetNorm c m' spec opts :=
  effSetNorm_congr c m m' spec opts (by simp [h]) (by simp [hg]) (by simp [hs])

/-- and a present specific option shields `set_norm` resolution from the specific default too -/
theorem effSetNorm_present_shields (c : Cfg) (m m' : OptMap) (spec : Name) (opts : Kvs) (o : Val)
    (h : alook spec opts = some o) (hg : alook c.nNorm m = alook c.nNorm m') (hs : alook c.nSetNorm m = alook c.nSetNorm m') :
    effSetNorm c m spec opts = effSetNorm c m' spec opts :=
  effSetNorm_congr c m m' spec opts (by simp [h]) (fun _ => hg) fun _ => hs

/-- when the specific option is absent from the call its default decides if it is not `None` -/
theorem eff_absent_consults (c : Cfg) (m : OptMap) (spec gen : Name) (opts : Kvs) (o : Val)
    (h : alook spec opts = none) (hm : alook spec m = some o) (ho : o ≠ c.noneVal) :
    effSpecific c m spec gen opts = some o := by
  simp [effSpecific, h, hm, ho]

/-! ## per-position grammar of `trivia` -/

/-- Acceptance of a `trivia` value implies that EVERY position matches its OWN grammar: a lone value and the first of
    two the leading grammar, the only element of a 1-tuple and the second of two the trailing grammar; longer tuples are
    never accepted. -/
theorem trivia_positions :
    (∀ t, checkTrivia (.one t) = true → leadOk t = true) ∧
    (∀ t, checkTrivia (.tup [t]) = true → trailOk t = true) ∧
    (∀ t0 t1, checkTrivia (.tup [t0, t1]) = true → leadOk t0 = true ∧ trailOk t1 = true) ∧
    (∀ t0 t1 t2 r, checkTrivia (.tup (t0 :: t1 :: t2 :: r)) = false) := by
  refine ⟨fun t h => h, fun t h => h, fun t0 t1 h => ?_, fun _ _ _ _ => rfl⟩
  simpa [checkTrivia] using h

/-- With the extracted token table: 'line' is a trailing-only word: alone or as the LEADING element it is rejected
    whatever stands in the trailing position, and it is accepted in the trailing positions. -/
theorem real_trivia_line_is_trailing_only :
    checkTrivia (.one (realTrivTok Pfst.Gen.Options.trivLine)) = false ∧
    ((List.range Pfst.Gen.Options.trivTokens.length).all fun j =>
      !checkTrivia (.tup [realTrivTok Pfst.Gen.Options.trivLine, realTrivTok j])) = true ∧
    checkTrivia (.tup [realTrivTok Pfst.Gen.Options.trivLine]) = true ∧
    checkTrivia (.tup [realTrivTok 0, realTrivTok Pfst.Gen.Options.trivLine]) = true := by decide +kernel

/-! ## nested option dicts and memoised reads -/

/-- A phase that was given a dict - the EMPTY dict included - never consults the call's top-level options: whatever
    they are, the phase sees the same thing.  (`copy_options={}` = plain thread/library defaults.) -/
theorem phase_given_ignores_top (c : Cfg) (m : OptMap) (top top' : Kvs) (d : Kvs) (n : Name) :
    phaseView c m top (some d) n = phaseView c m top' (some d) n := rfl

/-- in particular `{}`: the phase sees exactly the thread default of every option -/
theorem phase_empty_is_defaults (c : Cfg) (m : OptMap) (top : Kvs) (n : Name) :
    phaseView c m top (some []) n = (alook n m).getD c.noneVal := by
  simp [phaseView, phaseOptions, getOption, alook]

/-- only `None` inherits: then the phase sees what the top level sees -/
theorem phase_none_inherits (c : Cfg) (m : OptMap) (top : Kvs) (n : Name) :
    phaseView c m top none n = getOption c m n top := rfl

/-- `{}` and `None` are different things as soon as the top level passes the option -/
example : phaseView realCfg realCfg.defaults [(7, 0)] (some []) 7 = 10 ∧
          phaseView realCfg realCfg.defaults [(7, 0)] none 7 = 0 := by decide +kernel

/-- **A memo keyed by the EFFECTIVE option value is transparent**: for every sequence of reads (any raw arguments,
    any thread defaults changing between the reads: blocks entered, left, left by exception, set_options) the answers
    are those of no memo at all. -/
theorem memo_effective_transparent {α : Type} (f : Val → α) : ∀ (rs : List Req) (cache : List (Nat × α)),
    (∀ k a, alook k cache = some a → a = f k) → memoRun keyEff f rs cache = rs.map (fun r => f r.eff)
  | [], _, _ => rfl
  | r :: rs, cache, h => by
    -- invariant: every cached answer is `f` of its key; a hit returns it, a miss stores `f r.eff` under `r.eff`
    simp only [memoRun, List.map_cons, memoStep]
    split
    · next a hl => rw [h _ a hl, memo_effective_transparent f rs cache h]; rfl
    · rw [memo_effective_transparent f rs _ fun k a hk => ?_]
      by_cases e : k = keyEff r
      · subst e; rw [alook_aput_same] at hk; cases hk; rfl
      · exact h k a (alook_aput_ne _ _ e ▸ hk)

/-- **A memo keyed by the RAW argument is not**: two reads with the argument left out, the thread default changed in
    between (0 then 1): the second read answers with the first read's default. -/
theorem memo_raw_not_transparent :
    memoRun keyRaw (fun v => v) [⟨none, 0⟩, ⟨none, 1⟩] [] = [0, 0] ∧
    [(⟨none, 0⟩ : Req), ⟨none, 1⟩].map (fun r => r.eff) = [0, 1] ∧
    memoRun keyEff (fun v => v) [⟨none, 0⟩, ⟨none, 1⟩] [] = [0, 1] := by decide +kernel

/-! ## threads -/

/-- A whole program run by thread `t` leaves the dict of every other thread untouched. -/
theorem thread_frame (c : Cfg) (t u : Thread) (p : Prog) (σ : Store) (h : u ≠ t) :
    getT c u (exec c t p σ).1 = getT c u σ := by
  simp [exec, getT, putT, aget_aput_ne _ _ _ h]

/-- worlds that thread `t` cannot tell apart: same dict for `t`, same machine state of `t` -/
def agree (c : Cfg) (t : Thread) (w1 w2 : World) : Prop :=
  getT c t w1.σ = getT c t w2.σ ∧ aget idle t w1.ts = aget idle t w2.ts

/-- all that thread `t` can see of a world: its own dict and its own machine state -/
def view (c : Cfg) (t : Thread) (w : World) : OptMap × TS := (getT c t w.σ, aget idle t w.ts)

theorem agree_iff (c : Cfg) (t : Thread) (w1 w2 : World) : agree c t w1 w2 ↔ view c t w1 = view c t w2 :=
  ⟨fun h => Prod.ext h.1 h.2, fun h => ⟨congrArg Prod.fst h, congrArg Prod.snd h⟩⟩

theorem view_stepW (c : Cfg) (t u : Thread) (w : World) :
    view c t (stepW c w u) = if u = t then stepL c (view c t w).1 (view c t w).2 else view c t w := by
  by_cases h : u = t
  · subst h; simp [view, stepW, getT, putT, aget_aput_same]
  · simp [view, stepW, getT, putT, h, aget_aput_ne _ _ _ (Ne.symm h)]

theorem view_runSched (c : Cfg) (t : Thread) : ∀ (sched : List Thread) (w : World),
    view c t (runSched c w sched) = iterL c (sched.count t) (view c t w)
  | [], _ => rfl
  | u :: rest, w => by
    rw [show runSched c w (u :: rest) = runSched c (stepW c w u) rest from rfl, view_runSched c t rest, view_stepW]
    by_cases h : u = t
    · subst h; simp [iterL]
    · simp [h]

/-- One machine step: (locality) what thread `t` does depends only on `t`'s own dict and state; (frame) a step of
    another thread `u` changes neither. -/
theorem thread_local_step (c : Cfg) (t : Thread) :
    (∀ w1 w2, agree c t w1 w2 → agree c t (stepW c w1 t) (stepW c w2 t)) ∧
    (∀ w u, u ≠ t → agree c t (stepW c w u) w) := by
  simp only [agree_iff, view_stepW, if_true]
  exact ⟨fun w1 w2 h => by rw [h], fun w u h => if_neg h⟩

/-- **Interleaving.**  For EVERY schedule (any sequence of thread ids, each occurrence = one machine step of that
    thread) and every thread `t`: the trace `t` has produced, its control state and its option dict are exactly those
    of `t` running ALONE for as many steps as it was scheduled. -/
theorem interleave (c : Cfg) (w : World) (sched : List Thread) (t : Thread) :
    agree c t (runSched c w sched) (runSched c w (List.replicate (sched.count t) t)) :=
  (agree_iff ..).2 (by rw [view_runSched, view_runSched, List.count_replicate_self])

/-- The machine run on `p` reaches, for every continuation stack `K`, the big-step result: control = normal/exception,
    same stack, trace extended by the big-step trace, dict = big-step dict. -/
theorem machine_exec (c : Cfg) (p : Prog) (m : OptMap) (K : List Frame) (tr : List Obs) :
    ∃ n, iterL c n (m, ⟨.run p, K, tr⟩) = ((execL c p m).m, ⟨outCtl (execL c p m).exc, K, tr ++ (execL c p m).tr⟩) := by
  -- cases of `execL` numbered as in `exec_frame`
  fun_induction execL c p m generalizing K tr with
  | case1 | case4 | case9 => exact ⟨1, by simp [iterL, stepL]⟩
  | case5 opts m => exact ⟨1, by cases h : (callObs c m opts).2 <;> simp [iterL, stepL, h]⟩
  | case6 kvs m => exact ⟨1, by cases h : (doSet c m kvs).exc <;> simp [iterL, stepL, h]⟩
  | case7 kvs body m e hs => exact ⟨1, by simp [iterL, stepL, hs]⟩
  | case2 p q m r he ih =>
    exact Reaches.step (Reaches.trans (ih (.seqK q :: K) tr) ⟨1, by simp [iterL, stepL, r, he]⟩)
  | case3 p q m r he s ihp ihq =>
    have he : (execL c p m).exc = false := by simpa using he
    refine Reaches.step (Reaches.trans (ihp (.seqK q :: K) tr) (.trans ⟨1, by simp only [iterL, stepL, he, outCtl_false]; rfl⟩ ?_))
    have h2 := ihq K (tr ++ r.tr)
    rwa [List.append_assoc] at h2
  | case8 kvs body m m1 old hs r ih =>
    refine Reaches.trans ⟨1, by simp only [iterL, stepL, hs]⟩ (Reaches.trans (ih (.blockK old :: K) (tr ++ [.enter old m1])) ⟨1, ?_⟩)
    cases (execL c body m1).exc <;> simp [iterL, stepL, r, List.append_assoc]
  | case10 body m r ih =>
    refine Reaches.step (Reaches.trans (ih (.catchK :: K) tr) ⟨1, ?_⟩)
    cases (execL c body m).exc <;> simp [iterL, stepL, r]

/-- **Interleaving, end to end.**  Thread `t` starts program `p`.  There is a step count `n` such that for EVERY schedule
    that gives `t` at least `n` steps - whatever the other threads do in between, with whatever programs - `t` ends
    halted with exactly the observations, the exception status and the option dict of `p` run alone (big-step). -/
theorem interleave_exec (c : Cfg) (w : World) (t : Thread) (p : Prog) (h0 : aget idle t w.ts = ⟨.run p, [], []⟩) :
    ∃ n, ∀ sched : List Thread, sched.count t ≥ n →
      aget idle t (runSched c w sched).ts
          = ⟨outCtl (execL c p (getT c t w.σ)).exc, [], (execL c p (getT c t w.σ)).tr⟩ ∧
      getT c t (runSched c w sched).σ = (execL c p (getT c t w.σ)).m := by
  obtain ⟨n, hn⟩ := machine_exec c p (getT c t w.σ) [] []
  refine ⟨n, fun sched hge => ?_⟩
  have hv := view_runSched c t sched w
  obtain ⟨k, hk⟩ : ∃ k, sched.count t = n + k := ⟨sched.count t - n, by omega⟩
  rw [hk, iterL_add, view, view, h0, hn, List.nil_append, iterL_halted] at hv
  exact ⟨congrArg Prod.snd hv, congrArg Prod.fst hv⟩

/-- One lock-step turn of the harness (`stepVis`: run thread `t` until it has made one more observation) is `k` machine
    steps of `t`, so the schedules the harness plays are instances of the schedules of `interleave`. -/
theorem stepVis_is_schedule (c : Cfg) (t : Thread) : ∀ (fuel : Nat) (w : World),
    ∃ k, stepVis c fuel w t = runSched c w (List.replicate k t)
  | 0, w => ⟨0, by simp [stepVis, runSched]⟩
  | fuel + 1, w => by
    simp only [stepVis]
    by_cases hh : (aget idle t w.ts).halted = true
    · exact ⟨0, by simp [hh, runSched]⟩
    · simp only [hh]
      by_cases hg : (aget idle t (stepW c w t).ts).tr.length > (aget idle t w.ts).tr.length
      · exact ⟨1, by simp [hg, runSched]⟩
      · obtain ⟨k, hk⟩ := stepVis_is_schedule c t fuel (stepW c w t)
        exact ⟨k + 1, by simp [hg, hk, runSched, List.replicate_succ]⟩

/-! ## the extracted tables -/

/-- Facts about the table extracted from the imported module, re-decided on every run: the default dict has no
    duplicate key; the marker key `__options_checked` is no option; `set_options` validates exactly the keys of the
    default dict (so the `KeyError` branch is dead for validated keys); every default value passes its own check; the
    names read by the `_get_opt_eff_*` resolvers are global options; call-only options are not settable. -/
theorem real_tables_wf :
    (keys realCfg.defaults).Nodup ∧
    (match realCfg.marker with | some mk => !(keys realCfg.defaults).contains mk | none => true) = true ∧
    keys realCfg.acceptGlobal = keys realCfg.defaults ∧
    (realCfg.defaults.all fun kv => accepts realCfg false kv.1 kv.2) = true ∧
    ([realCfg.nPars, realCfg.nParsArglike, realCfg.nNorm, realCfg.nNormSelf, realCfg.nNormGet, realCfg.nSetNorm].all
      fun n => (keys realCfg.defaults).contains n) = true ∧
    (Pfst.Gen.Options.dyn.all fun n => !(keys realCfg.acceptGlobal).contains n && (keys realCfg.acceptAll).contains n) = true := by
  refine ⟨?_, ?_, ?_, ?_, ?_, ?_⟩ <;> decide +kernel

theorem real_marker_fresh (mk : Name) (h : realCfg.marker = some mk) : mk ∉ keys realCfg.defaults := by
  have := real_tables_wf.2.1
  rw [h] at this
  simpa using this

/-- The real tables, any thread whose dict still has the default keys (every reachable one, `exec_frame`): a
    `set_options` / `options()` call with an unacceptable item at any position raises and changes nothing. -/
theorem real_set_invalid (σ : Store) (t : Thread) (kvs : Kvs) (n : Name) (v : Val)
    (hk : keys (getT realCfg t σ) = keys realCfg.defaults)
    (hin : (n, v) ∈ kvs) (hbad : accepts realCfg false n v = false) :
    ∃ e, setOptions realCfg σ t kvs = (σ, .error e) :=
  set_invalid_any_position realCfg σ t kvs n v hin hbad (fun mk h => by rw [hk]; exact real_marker_fresh mk h)

/-- The real tables, a thread at the library defaults: a with-block whose body leaves nothing dirty outside the block's
    own keys gives back exactly the defaults - for every body, raising or not. -/
theorem real_block_restores_all (kvs : Kvs) (body : Prog) (hd : ∀ k ∈ dirty body, k ∈ keys kvs) :
    (execL realCfg (.block kvs body) realCfg.defaults).m = realCfg.defaults :=
  block_restores_all realCfg kvs body realCfg.defaults real_tables_wf.1 hd

/-! ## non-vacuity: concrete programs over the real tables (names/values by code, see `Pfst.Gen.Options`) -/

section examples
-- codes used below: names 7 = pars, 0 = raw, 1 = trivia, 20 = bogus ; values 1 = False, 0 = True, 10 = 'auto', 27 = 'x'

/-- `with options(pars=False): set_options(pars=True, raw=True); raise` inside try/except: the block really changes
    `pars`, the body changes it again, the raise propagates through the block, and afterwards `pars` is back to 'auto'
    while `raw` (not named by the block) stays `True`. -/
example :
    let p := Prog.catch (.block [(7, 1)] (.seq (.set [(7, 0), (0, 0)]) .raise))
    let r := execL realCfg p realCfg.defaults
    alook 7 r.m = some 10 ∧ alook 0 r.m = some 0 ∧ r.exc = false ∧ r.tr.length = 4 ∧
    (execL realCfg (.block [(7, 1)] (.seq (.set [(7, 0), (0, 0)]) .raise)) realCfg.defaults).exc = true := by decide +kernel

/-- nested blocks with a raise in the inner one, nothing dirty: the dict is exactly the defaults again, and the trace is
    not trivial (the options really were different inside) -/
example :
    let p := Prog.block [(7, 1), (1, 17)] (.catch (.block [(7, 0)] (.seq (.call [(0, 10)]) .raise)))
    let r := execL realCfg p realCfg.defaults
    r.m = realCfg.defaults ∧ r.exc = false ∧ r.tr.length = 6 ∧
    r.tr.head? = some (.enter [(7, 10), (1, 0)] (update realCfg.defaults [(7, 1), (1, 17)])) := by decide +kernel

/-- a bad value in the middle and an unknown name at the end are both rejected with the store untouched -/
example : setOptions realCfg [] 0 [(0, 0), (7, 27), (1, 0)] = ([], .error (.badValue 7 27)) ∧
          setOptions realCfg [] 0 [(0, 0), (1, 0), (20, 0)] = ([], .error (.badName 20)) ∧
          accepts realCfg false 7 27 = false ∧ accepts realCfg false 20 0 = false := ⟨rfl, rfl, rfl, rfl⟩

/-- the same keyword arguments without the bad item ARE accepted and change the store (the hypothesis of
    `set_invalid_*` is what makes the difference) -/
example : (setOptions realCfg [] 0 [(0, 0), (1, 0)]).2 = .ok [(0, 1), (1, 0)] ∧
          getT realCfg 0 (setOptions realCfg [] 0 [(0, 0), (1, 0)]).1 ≠ realCfg.defaults := ⟨rfl, by decide +kernel⟩

/-- a per-call option is seen by the call and by nothing after it -/
example :
    let r := execL realCfg (.seq (.call [(7, 1)]) (.get 7 [])) realCfg.defaults
    r.tr.map (fun o => match o with | .view vs _ _ => vs.getD 7 99 | .val v _ => v | _ => 99) = [1, 10] ∧
    r.m = realCfg.defaults := by decide +kernel

/-- two threads, an interleaved schedule: thread 0 sets `pars=False` inside a block while thread 1 reads `pars` in
    between and still sees 'auto'; both end with the results of their solo runs -/
example :
    let p0 := Prog.block [(7, 1)] (.get 7 [])
    let p1 := Prog.seq (.get 7 []) (.get 7 [])
    let w0 : World := ⟨[], [(0, ⟨.run p0, [], []⟩), (1, ⟨.run p1, [], []⟩)]⟩
    let w := runVis realCfg 10 w0 [0, 1, 0, 1, 0, 1, 0]
    (aget idle 1 w.ts).tr = (execL realCfg p1 realCfg.defaults).tr ∧
    (aget idle 0 w.ts).tr = (execL realCfg p0 realCfg.defaults).tr ∧
    (aget idle 1 w.ts).tr = [.val 10 realCfg.defaults, .val 10 realCfg.defaults] ∧
    ((aget idle 0 w.ts).tr.map fun o => match o with | .val v _ => v | _ => 99) = [99, 1, 99] ∧
    (aget idle 0 w.ts).halted = true ∧ (aget idle 1 w.ts).halted = true := by decide +kernel

/-- presence, not value: under a block default `norm_self=True` (name 11, value 0) a call passing `norm_self=None,
    norm=False` resolves to `False`, a call passing only `norm=False` resolves to `True`; under library defaults both
    resolve to `False` -/
example :
    let m := update realCfg.defaults [(11, 0)]
    effSpecific realCfg m 11 10 [(11, 2), (10, 1)] = some 1 ∧ effSpecific realCfg m 11 10 [(10, 1)] = some 0 ∧
    effSpecific realCfg realCfg.defaults 11 10 [(11, 2), (10, 1)] = some 1 ∧
    effSpecific realCfg realCfg.defaults 11 10 [(10, 1)] = some 1 ∧
    realCfg.nNormSelf = 11 ∧ realCfg.nNorm = 10 ∧ realCfg.noneVal = 2 := by decide +kernel

end examples

end Pfst.C20
