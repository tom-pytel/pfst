import Pfst.NeedParsLemmas

/-!
# C09b — the decision pfst actually takes when it puts an expression

Statements about the executable model `Pfst/NeedPars.lean` of `FST._is_atom`, `FST._is_enclosed_in_parents`,
`FST._is_enclosed_or_line` and of `need_pars` / the `pars` option logic inside `_make_exprlike_fst`.  The model is tied to
the real functions on every run (whole mock domain, every node of corpus programs, run-time instrumented `replace()`), its
kind sets / tables are regenerated from `/repo` (`Pfst/Gen/Enclose.lean`, `Pfst/Gen/Precedence.lean`).

Together with `Pfst.C09.table_sound` (the extracted table covers what the grammar needs):
`need_pars_covers_table` + `atom_skip_sound` say the precedence part of the decision is at least the table's, for
non-atoms by consulting it and for atoms because the table never asks for parentheses around them (except `3 .real`,
which is the special case in `need_pars`); `needed_enclosed` says that whenever `need_pars` answers yes the put node ends
up inside parentheses; `needed_kept` that existing source parentheses are removed only when `need_pars` answers no;
`enclosedOrLine_sound` / `enclosedOrLine_sound_str` that the line-structure answer "enclosed or one logical line" is
right — since /repo 48b6578 also for (implicitly concatenated) string literals (finding C09-F1, fixed).
-/
namespace Pfst.C09b
open Pfst.NeedPars Pfst.Gen.Precedence Pfst.Gen.Enclose Pfst.Prec

/-! ### `need_pars` -/

/-- For a put node that is not an atom and not a `Starred`, `need_pars(adding)` answers `True` whenever the extracted
precedence table requires parentheses for (child kind, parent kind, field, flags) — whatever `adding`, the enclosure of the
parents and the line structure say.  (With `Pfst.C09.table_sound`: whatever the grammar needs is parenthesised.) -/
theorem need_pars_covers_table (x : NPIn) (adding : Bool)
    (hatom : (isAtom x.put false false).truthy = false) (hstar : x.put.info.kind ≠ .«Starred»)
    (htab : precRequire x.put.info x.slf x.fld x.dictKeyNone false = some true) :
    needPars x adding = some true := by
  have hs : (x.put.info.kind != .«Starred») = true := by simpa using hstar
  simp [needPars_eq, needFirst, hatom, hs, htab]

/-- The same for a `Starred` put node, whose value is checked against the `Starred.value` slot: the answer is `True`
whenever the table requires parentheses for the value, unless parentheses are being added and the value already has its own
(or the value is a `Tuple`, assumed parenthesised). -/
theorem need_pars_covers_table_starred (x : NPIn) (adding : Bool) (sc : Node)
    (hatom : (isAtom x.put false false).truthy = false) (hstar : x.put.info.kind = .«Starred»)
    (hsc : starChild x.put = some sc) (hnt : sc.info.kind ≠ .«Tuple»)
    (htab : precRequire sc.info x.put.info .«value» false x.arglike = some true)
    (hown : adding = false ∨ sc.info.n = 0) :
    needPars x adding = some true := by
  have hs : (x.put.info.kind != .«Starred») = false := by simp [hstar]
  have ht : (sc.info.kind != .«Tuple») = true := by simpa using hnt
  rcases hown with h | h <;> simp [needPars_eq, needFirst, hatom, hs, hsc, ht, htab, h]

/-- the `3 .real` special case: an `int` constant put as the `value` of an `Attribute` -/
def intAttrCase (x : NPIn) : Bool :=
  x.tgtIsFST && x.fld == .«value» && x.put.info.kind == .«Constant» && x.put.info.cint && x.tgtParent == some .«Attribute»

/-- An atom (`_is_atom(pars=False)` truthy: `True` or `'unenclosable'`) never reaches the precedence table: the answer is
exactly "int constant as attribute base, or (not enclosed in parents and not enclosed-or-line), or Lambda inside a
formatted value" — it never refuses and does not depend on the table. -/
theorem atom_never_table (x : NPIn) (adding : Bool) (hatom : (isAtom x.put false false).truthy = true) :
    needPars x adding = some (intAttrCase x || lineBranch x adding || lambdaBranch x) := by
  have hf : needFirst x adding = some (intAttrCase x) := by simp [needFirst, hatom, intAttrCase]
  rw [needPars_eq, hf]
  rfl

/-- expression / pattern kinds whose `_is_atom(pars=False)` is truthy by kind alone.  (Operator classes such as `Add` are
left out: as a node an operator is an atom, but in the precedence table `Add` stands for "a `BinOp` whose operator is
`Add`".) -/
def atomKinds : List K := (atomInnate ++ cmpopOneWord ++ atomUnencl ++ [K.«Constant»]).filter exprOrPattern.contains

def maskOkForAtom (mask : Nat) : Bool :=
  mask == 65536 || (List.range 16).all (fun fl => !(bit mask fl) || fAttrInt fl)

/-- **Skipping the table for atoms loses nothing**: in the regenerated table no (slot, flags) cell requires parentheses
around a kind that `_is_atom` calls an atom, except under the `attr_val_int` flag — which `precedence_require_parens`
sets only for an `int` `Constant` that is the `value` of an `Attribute` (`precRequire`), the case `need_pars` handles by
hand (`intAttrCase`).  Re-checked by the kernel against both regenerated tables. -/
theorem atom_skip_sound :
    rows.all (fun r => (List.zip children r.2.2).all (fun cm => !atomKinds.contains cm.1 || maskOkForAtom cm.2)) = true := by
  decide +kernel

/-- the same on the model's lookup function: for an atom kind and a flag set without `attr_val_int` the table never
answers "parentheses required" -/
theorem atom_table_free (p : K) (f : F) (c : K) (fl : Nat) (hc : atomKinds.contains c = true) (hfl : fl < 16)
    (hf : fAttrInt fl = false) : tableLookup p f c fl ≠ some true := by
  intro h
  obtain ⟨r, hr, cm, hcm, rfl, hne, hb⟩ := tableLookup_eq_some h
  have h2 := List.all_eq_true.1 (List.all_eq_true.1 atom_skip_sound r hr) cm hcm
  simp only [hc, maskOkForAtom, Bool.not_true, Bool.false_or, beq_eq_false_iff_ne.2 hne, List.all_eq_true] at h2
  have h3 := h2 fl (List.mem_range.2 hfl)
  rw [hb, hf] at h3
  cases h3

/-- `precedence_require_parens` through the table never asks for parentheses around an atom kind, except for the `int`
constant that is the value of an `Attribute` (`operator` kinds are excluded by `atomKinds`). -/
theorem atom_prec_free (c par : Info) (f : F) (dkn al : Bool) (hc : atomKinds.contains (typeOf c) = true)
    (hni : (par.kind == .«Attribute» && c.kind == .«Constant» && c.cint) = false) :
    precRequire c par f dkn al ≠ some true := by
  unfold precRequire
  rw [hni]
  -- the three remaining flags make a set below 16 without `attr_val_int`
  refine atom_table_free _ _ _ _ hc ?_ ?_ <;>
    cases (par.kind == .«Dict» && dkn) <;> cases (c.kind == .«MatchAs» && c.matchAsNone) <;> cases al <;> decide

/-- … and under that flag the table asks for parentheses around a `Constant` only in the `Attribute.value` slot. -/
theorem atom_int_only_attribute_value :
    rows.all (fun r => (List.zip children r.2.2).all (fun cm =>
      !(cm.1 == .«Constant») || cm.2 == 65536 || cm.2 == 0 || (r.1 == .«Attribute» && r.2.1 == .«value»))) = true := by
  decide +kernel

/-! ### `_is_enclosed_in_parents` -/

/-- Spec (trusted, written from the Python grammar, not from pfst): the (parent kind, field) positions whose text always
lies between brackets that belong to the parent — `(...)` of a call / class / def / generator expression / class pattern,
`[...]` of a list / subscript / comprehension / type parameter list, `{...}` of a set / dict / mapping pattern / replacement
field of an f-string (the parts of an f-string are inside the string token) — plus pfst's own `_arglikes` /
`_comprehension_ifs` containers, which are only used for such positions. -/
def specEnclosing : List (K × F) := [
  (.«Call», .«args»), (.«Call», .«keywords»),
  (.«ClassDef», .«bases»), (.«ClassDef», .«keywords»), (.«ClassDef», .«type_params»),
  (.«FunctionDef», .«args»), (.«FunctionDef», .«type_params»),
  (.«AsyncFunctionDef», .«args»), (.«AsyncFunctionDef», .«type_params»), (.«TypeAlias», .«type_params»),
  (.«List», .«elts»), (.«List», .«ctx»), (.«Set», .«elts»), (.«Dict», .«keys»), (.«Dict», .«values»),
  (.«ListComp», .«elt»), (.«ListComp», .«generators»), (.«SetComp», .«elt»), (.«SetComp», .«generators»),
  (.«DictComp», .«key»), (.«DictComp», .«value»), (.«DictComp», .«generators»),
  (.«GeneratorExp», .«elt»), (.«GeneratorExp», .«generators»),
  (.«Subscript», .«slice»),
  (.«FormattedValue», .«value»), (.«FormattedValue», .«format_spec»), (.«Interpolation», .«value»),
  (.«Interpolation», .«format_spec»), (.«JoinedStr», .«values»), (.«TemplateStr», .«values»),
  (.«MatchClass», .«patterns»), (.«MatchClass», .«kwd_patterns»), (.«MatchMapping», .«keys»), (.«MatchMapping», .«patterns»),
  (.«_arglikes», .«arglikes»), (.«_comprehension_ifs», .«ifs»)]

/-- Every (parent kind, field) for which the regenerated table of `_is_enclosed_in_parents` answers "encloses" outright
is enclosing by the grammar; the two run-time cases (3: `from m import (...)`, 4: `with (...)`) are only `ImportFrom.names`
and the fields of `With` / `AsyncWith`. -/
theorem enc_table_sound :
    encTable.all (fun e =>
      (e.2.2 != 1 || specEnclosing.contains (e.1, e.2.1)) &&
      (e.2.2 != 3 || (e.1 == .«ImportFrom» && e.2.1 == .«names»)) &&
      (e.2.2 != 4 || withKinds.contains e.1) && decide (e.2.2 ≤ 4)) = true := by
  decide +kernel

/-- `_is_enclosed_in_parents` answers `True` only for a reason: some ancestor step returned `True`. -/
theorem encWalk_true (ups : List (F × Info)) (h : encWalk ups = true) :
    ∃ fp ∈ ups, encStep fp.1 fp.2 = some true := by
  induction ups with
  | nil => cases h
  | cons a r ih =>
    obtain ⟨f, p⟩ := a
    rw [encWalk] at h
    split at h
    · next b hs => exact ⟨(f, p), List.mem_cons_self, hs.trans (congrArg some h)⟩
    · obtain ⟨fp, hm, he⟩ := ih h
      exact ⟨fp, List.mem_cons_of_mem _ hm, he⟩

/-- … and such a step is: an enclosing position by the table (hence by the grammar, `enc_table_sound`), parenthesised
`from … import (…)` names or `with (…)` items, a parenthesised tuple, a delimited match sequence, or grouping parentheses
of that ancestor. -/
theorem encStep_true (f : F) (p : Info) (h : encStep f p = some true) :
    encCode p.kind f = 1 ∨ ((encCode p.kind f = 3 ∨ encCode p.kind f = 4) ∧ 0 < specialN p) ∨
    p.ptup = some true ∨ p.dms = some true ∨ 0 < p.n := by
  unfold encStep at h
  split at h
  · exact .inl ‹_›
  · cases h
  · exact .inr (.inl ⟨.inl ‹_›, by simpa using h⟩)
  · exact .inr (.inl ⟨.inr ‹_›, by simpa using h⟩)
  · -- the `elif` chain answers only if one of its three tests on the parent succeeds
    by_cases h1 : p.ptup = some true
    · exact .inr (.inr (.inl h1))
    by_cases h2 : p.dms = some true
    · exact .inr (.inr (.inr (.inl h2)))
    by_cases h3 : 0 < p.n
    · exact .inr (.inr (.inr (.inr h3)))
    simp [h1, h2, h3] at h

/-! ### which kinds `_is_enclosed_or_line` answers `True` for without looking -/

/-- Spec (trusted, written from the Python grammar, not from pfst): node kinds whose text can never contain a newline
that needs enclosing — they carry their own brackets (displays, comprehensions, mapping patterns), live inside a string
token (replacement fields), are one token (names, `None`/`True`/`False` patterns, operators, contexts, type-ignore), or
can only ever stand inside brackets of their parent (`Slice` in a subscript, `keyword` in a call, type parameters in
`[...]`).  `MatchValue` is NOT one of them (`-\n 2`, `a.\n b`, `"a"\n "b"` — finding C09-F2). -/
def specSelfEnclosed : List K := [
  .«List», .«Dict», .«Set», .«ListComp», .«SetComp», .«DictComp», .«GeneratorExp», .«MatchMapping»,
  .«FormattedValue», .«Interpolation»,
  .«Name», .«MatchSingleton», .«TypeIgnore», .«Load», .«Store», .«Del»,
  .«And», .«Or», .«Add», .«Sub», .«Mult», .«MatMult», .«Div», .«Mod», .«Pow», .«LShift», .«RShift», .«BitOr», .«BitXor»,
  .«BitAnd», .«FloorDiv», .«Invert», .«Not», .«UAdd», .«USub»,
  .«Slice», .«keyword», .«TypeVar», .«ParamSpec», .«TypeVarTuple»]

/-- Every kind in the regenerated always-`True` list of `_is_enclosed_or_line` is self-enclosed by the grammar; in
particular `MatchValue` is not in it (C09-F2): a pattern whose value spans lines goes through the child walk. -/
theorem eol_always_sound : eolAlways.all specSelfEnclosed.contains = true ∧ eolAlways.contains .«MatchValue» = false := by
  decide +kernel

/-! ### the `pars` option logic -/

/-- Existing parentheses of the source are removed (`_unparenthesize_grouping`) only if the source has them, the option is
`'auto'`, and `need_pars(adding=False)` answered `False`: needed parentheses are never removed. -/
theorem needed_kept_core (opt : ParsOpt) (sh th ut pz an : Bool) (nF nT : Option Bool) (o : Outcome)
    (h : actionCore opt sh th ut pz an nF nT = some o) (hu : o.src = .unpar) :
    sh = true ∧ opt = .auto ∧ nF = some false := by
  cases sh with
  | false =>
    -- a source without parentheses gets some or is left alone
    by_cases hopt : opt = .off
    · subst hopt; cases h; cases hu
    · rw [actionCore_bare hopt] at h
      obtain ⟨nd, -, rfl⟩ := Option.map_eq_some_iff.1 h
      revert hu
      cases nd <;> cases th <;> cases ut <;> cases pz <;> simp
  | true =>
    cases opt with
    | off => cases h; cases hu
    | on => cases h; cases hu
    | auto =>
      rw [actionCore_auto_src] at h
      obtain ⟨nd, rfl, rfl⟩ := Option.map_eq_some_iff.1 h
      cases nd
      · exact ⟨rfl, rfl, rfl⟩
      · cases hu

theorem needed_kept (x : NPIn) (opt : ParsOpt) (o : Outcome) (h : action x opt = some o) (hu : o.src = .unpar) :
    srcHasPars x.put = true ∧ opt = .auto ∧ needPars x false = some false :=
  needed_kept_core _ _ _ _ _ _ _ _ o h hu

/-- Whenever `need_pars` (asked with `adding = not "source has parentheses"`) answers `True` and the `pars` option is not
off, the put node ends up enclosed: by its own kept parentheses, by the kept parentheses of the target, by added grouping
parentheses, by tuple delimiters, or by the deferred parenthesisation of the parent. -/
theorem needed_enclosed_core (opt : ParsOpt) (sh th ut pz an : Bool) (nF nT : Option Bool) (o : Outcome)
    (h : actionCore opt sh th ut pz an nF nT = some o) (hopt : opt ≠ .off)
    (hneed : (if sh then nF else nT) = some true) : resultEnclosed sh th o = true := by
  cases sh with
  | false =>
    cases hneed
    cases (actionCore_bare hopt ..).symm.trans h
    -- the target keeps its parentheses, or the source gets parentheses or delimiters
    cases th <;> cases ut <;> cases pz <;> rfl
  | true =>
    -- the source's own parentheses stay
    cases hneed
    cases opt with
    | off => contradiction
    | on => cases h; rfl
    | auto => cases h; rfl

theorem needed_enclosed (x : NPIn) (opt : ParsOpt) (o : Outcome) (h : action x opt = some o) (hopt : opt ≠ .off)
    (hneed : needPars x (!srcHasPars x.put) = some true) :
    resultEnclosed (srcHasPars x.put) (x.tgtIsFST && decide (0 < x.tgtN)) o = true := by
  apply needed_enclosed_core _ _ _ _ _ _ _ _ o h hopt
  cases hs : srcHasPars x.put <;> simp_all

/-- The option logic is total and its outcome is one source action plus one yes/no on the target's parentheses.  The two
are independent (`(x)` ← `(a + b)` with `pars='auto'` removes both pairs), so "exactly one action" is false of the code.
What holds:
* an outcome exists whenever the `need_pars` call of the branch taken answered;
* parentheses / delimiters are added only if the source had none, and grouping parentheses (or the deferred ones) only if
  the target has none — never a second pair;
* a bare tuple that is delimited takes the place of the target's parentheses (they are removed, not kept as well);
* source parentheses are removed only together with replacing the target's (`del_tgt_pars`). -/
theorem action_total (opt : ParsOpt) (sh th ut pz an : Bool) (nF nT : Option Bool)
    (hF : sh = true → opt = .auto → nF.isSome = true) (hT : sh = false → opt ≠ .off → nT.isSome = true) :
    ∃ o, actionCore opt sh th ut pz an nF nT = some o ∧
      ((o.src = .group ∨ o.src = .delimit ∨ o.src = .deferred) → sh = false) ∧
      ((o.src = .group ∨ o.src = .deferred) → th = false) ∧
      (o.src = .delimit → ut = true ∧ (th = true → o.delTgt = true)) ∧
      (o.src = .unpar → o.delTgt = true) ∧
      (opt = .off → o = ⟨.none, false⟩) := by
  cases sh with
  | false =>
    by_cases hopt : opt = .off
    · subst hopt; exact ⟨_, rfl, by simp⟩
    · obtain ⟨nd, rfl⟩ := Option.isSome_iff_exists.1 (hT rfl hopt)
      refine ⟨_, actionCore_bare hopt .., ?_⟩
      cases nd <;> cases th <;> cases ut <;> cases pz <;> simp [hopt]
  | true =>
    cases opt with
    | off => exact ⟨_, rfl, by simp⟩
    | on => exact ⟨_, rfl, by simp⟩
    | auto =>
      obtain ⟨nd, rfl⟩ := Option.isSome_iff_exists.1 (hF rfl rfl)
      exact ⟨_, actionCore_auto_src .., by cases nd <;> simp⟩

/-- non-vacuity: every source action occurs -/
example : actionCore .auto true false false true false (some false) none = some ⟨.unpar, true⟩ := by decide
example : actionCore .auto false false false true false none (some true) = some ⟨.group, false⟩ := by decide
example : actionCore .auto false true true true false none (some true) = some ⟨.delimit, true⟩ := by decide
example : actionCore .auto false false false false false none (some true) = some ⟨.deferred, false⟩ := by decide
example : actionCore .auto false true false true true none (some false) = some ⟨.none, false⟩ := by decide   -- AnnAssign target
example : actionCore .on false true false true true none (some false) = some ⟨.none, true⟩ := by decide

/-! ### line structure: a put that spans lines where nothing encloses it is parenthesised -/

/-- If the first part of `need_pars` answers (the precedence call does not refuse) and the line branch fires — the
position is not enclosed by its parents and the source is not enclosed-or-one-logical-line, or (C09-F3) it is a `Starred`
whose value, looked at WITHOUT the parentheses under consideration, is not — then `need_pars` is `True`.  This holds for
every kind of source: expressions, patterns (`MatchValue` included, `eol_always_sound`), `Starred`. -/
theorem line_branch_needs (x : NPIn) (adding : Bool) (b : Bool) (hf : needFirst x adding = some b)
    (hl : lineBranch x adding = true) : needPars x adding = some true := by
  rw [needPars_eq, hf, hl]
  simp

/-- Hence (with `needed_enclosed`): whenever the `pars` option is not off, such a put ends up enclosed — by its own kept
parentheses, the target's kept parentheses, added grouping parentheses, tuple delimiters or the deferred parentheses. -/
theorem multiline_put_enclosed (x : NPIn) (opt : ParsOpt) (o : Outcome) (b : Bool) (h : action x opt = some o)
    (hopt : opt ≠ .off) (hf : needFirst x (!srcHasPars x.put) = some b)
    (hl : lineBranch x (!srcHasPars x.put) = true) :
    resultEnclosed (srcHasPars x.put) (x.tgtIsFST && decide (0 < x.tgtN)) o = true :=
  needed_enclosed x opt o h hopt (line_branch_needs x _ b hf hl)

/-- … and for a `Starred` source whose value has its own parentheses (C09-F3): if the position is not enclosed by its
parents and the value without those parentheses is not one logical line, `pars='auto'` does not remove them. -/
theorem starred_value_pars_kept (x : NPIn) (opt : ParsOpt) (o : Outcome) (b : Bool) (sc : Node)
    (h : action x opt = some o) (hkind : x.put.info.kind = .«Starred») (hsc : starChild x.put = some sc)
    (hf : needFirst x false = some b)
    (henc : enclosedInParents (some x.fld) x.slf x.ups = false)
    (hopen : (eol x.putLines false sc).1.truthy = false) : o.src ≠ .unpar := by
  intro hu
  have hl : lineBranch x false = true := by
    simp [lineBranch, starValueOpen, henc, hkind, hsc, hopen]
  have hnk := (needed_kept x opt o h hu).2.2
  rw [line_branch_needs x false b hf hl] at hnk
  cases hnk

/-! ### `_is_enclosed_or_line` -/

/-- the node needs no look at its lines: always-enclosed kind, one line, own grouping parentheses (when asked to look at
them), parenthesised tuple, delimited match sequence -/
def SelfEnclosed (i : Info) (l : Loc) (checkPars : Bool) : Prop :=
  eolAlways.contains i.kind = true ∨ l.endLn = l.ln ∨ (checkPars = true ∧ 0 < i.n) ∨ i.ptup = some true
    ∨ (i.ptup = none ∧ i.dms = some true)

/-- **`_is_enclosed_or_line` is sound outside string literals.**  If the model answers `True`/`'pars'` for a node that is
not a `Constant` / `JoinedStr` / `TemplateStr`, then the node is self-enclosed, or EVERY newline `j` inside its span
(`ln ≤ j < end_ln`; for `With` the header) is harmless (`NewlineOk`): it lies inside the span of one of the walked children
(a child with its own parentheses, a mock "enclosed" span — call / subscript / import / with-items parentheses — or a child
that was itself asked and answered yes), or line `j` ends in a backslash with no `#` between the column where the walk
stood on that line (0, the node's start, or the end of a child ending there) and that backslash — a real line
continuation, not the tail of a comment.  (The children that are asked are those not ending on the line the walk has
reached; with children in source order those are one-line children.) -/
theorem enclosedOrLine_sound (lines : List Line) (checkPars : Bool) (i : Info) (kids : List Node) (l : Loc)
    (hl : i.loc = some l) (hk : isStrKind i.kind = false)
    (h : (eol lines checkPars (.mk i kids)).1.truthy = true) :
    SelfEnclosed i l checkPars ∨
    ∀ j, l.ln ≤ j → j < tailEnd i l → NewlineOk lines (selectSteps i (stepsOf lines kids)) l.ln l.col j := by
  rcases eol_cases lines checkPars i kids l hl h with (h1 | h1 | h1) | ⟨h2, _⟩ | ⟨_, h3 | h3 | h3⟩
  · exact .inl (.inl h1)
  · exact .inl (.inr (.inl h1))
  · exact .inl (.inr (.inr (.inl h1)))
  · rw [hk] at h2; exact absurd h2 (by simp)
  · exact .inl (.inr (.inr (.inr (.inl h3))))
  · exact .inl (.inr (.inr (.inr (.inr h3))))
  · exact .inr (finish_sound lines _ l.ln l.col _ h3)

/-- **… and for string literals** (`Constant` / `JoinedStr` / `TemplateStr`; `strLns` = the lines tokenize reports as
continued INSIDE a string token, all inside the node — checked per case by the harness): answer `True` ⇒ every newline `j`
of the span is inside a string token (`j + 1 ∈ strLns`), or line `j` ends in a backslash with no `#` between the walk
column (the node's start column on its first line, 0 on later lines) and that backslash — a real line continuation, not
the tail of a comment between two implicitly concatenated parts.  (Before /repo 48b6578 the code tested
`lines[j].endswith('\\')` and this statement was false: finding C09-F1.) -/
theorem enclosedOrLine_sound_str (lines : List Line) (checkPars : Bool) (i : Info) (kids : List Node) (l : Loc)
    (hl : i.loc = some l) (hk : isStrKind i.kind = true) (hnp : checkPars = false ∨ i.n = 0) (hml : l.endLn ≠ l.ln)
    (hs : ∀ x ∈ i.strLns, l.ln < x ∧ x ≤ l.endLn)
    (h : (eol lines checkPars (.mk i kids)).1.truthy = true) :
    eolAlways.contains i.kind = true ∨
    ∀ j, l.ln ≤ j → j < l.endLn →
      (j + 1 ∈ i.strLns ∨ lineEndCont (lines.getD j []) (if j = l.ln then l.col else 0) = true) := by
  rcases eol_cases lines checkPars i kids l hl h with (h1 | h1 | h1) | ⟨_, h2⟩ | ⟨h3, _⟩
  · exact Or.inl h1
  · exact absurd h1 hml
  · rcases hnp with h | h <;> simp [h] at h1
  · exact Or.inr (strBranch_sound lines l i.strLns hs h2)
  · rw [hk] at h3; exact absurd h3 (by simp)

private def L (s : String) : Line := s.toList
private def nm (f : F) (ln col endCol : Nat) : Node :=
  .mk { kind := .«Name», field := f, loc := some ⟨ln, col, ln, endCol⟩, pars := some ⟨ln, col, ln, endCol⟩ } []
private def addOp (ln col : Nat) : Node :=
  .mk { kind := .«Add», field := .«op», loc := some ⟨ln, col, ln, col + 1⟩, pars := some ⟨ln, col, ln, col + 1⟩ } []
/-- the BinOp `a + b` spread over lines 0 and 1, `+` at column 2 of line 0, `b` at column 1 of line 1 -/
private def binop2 : Node :=
  .mk { kind := .«BinOp», op := some .«Add», loc := some ⟨0, 0, 1, 2⟩, pars := some ⟨0, 0, 1, 2⟩ }
    [nm .«left» 0 0 1, addOp 0 2, nm .«right» 1 1 2]

/-- `a + \` / ` b`: one logical line -/
example : (eol [L "a + \\", L " b"] false binop2).1 = .yes := by decide +kernel
/-- `a +` / ` b`: not, and line 0 is reported as the one needing a continuation -/
example : eol [L "a +", L " b"] false binop2 = (.no, [0]) := by decide +kernel
/-- `a +  # c\` / ` b`: a comment ending in a backslash is not a continuation (repaired in /repo 97ae14d) -/
example : (eol [L "a +  # c\\", L " b"] false binop2).1 = .no := by decide +kernel

/-- the implicitly concatenated string `"s"  # c\` / ` "t"` (a `Constant` on lines 0–1, no multi-line token) -/
private def strNode : Node :=
  .mk { kind := .«Constant», cstr := true, loc := some ⟨0, 0, 1, 4⟩, pars := some ⟨0, 0, 1, 4⟩, strLns := [] } []
private def strLines : List Line := [L "\"s\"  # c\\", L " \"t\""]

/-- the former defect witness (C09-F1, fixed in /repo 48b6578): the backslash on line 0 ends a comment, the answer is
now `False` and line 0 is reported as the one needing a continuation -/
example : eol strLines false strNode = (.no, [0]) := by decide +kernel
/-- `"s" \` / ` "t"`: a real continuation between the parts — one logical line; the hypotheses of
`enclosedOrLine_sound_str` are met by this node -/
example : (eol [L "\"s\" \\", L " \"t\""] false strNode).1 = .yes ∧ isStrKind strNode.info.kind = true ∧
    (∀ x ∈ strNode.info.strLns, 0 < x ∧ x ≤ 1) := by decide +kernel
/-- a triple-quoted string over lines 0–1: line 1 is a continuation line reported by tokenize -/
example : (eol [L "\"\"\"s", L "t\"\"\""] false
    (.mk { kind := .«Constant», cstr := true, loc := some ⟨0, 0, 1, 4⟩, pars := some ⟨0, 0, 1, 4⟩, strLns := [1] } [])).1 = .yes := by
  decide +kernel

/-! #### `need_pars` witnesses (non-vacuity of the hypotheses above) -/

private def pq : Node :=
  .mk { kind := .«BinOp», op := some .«Add», loc := some ⟨0, 0, 0, 5⟩, pars := some ⟨0, 0, 0, 5⟩ }
    [nm .«left» 0 0 1, addOp 0 2, nm .«right» 0 4 5]
/-- put `p + q` as the right operand of `a * b` in `x = a * b` -/
private def exMul : NPIn :=
  { put := pq, putLines := [L "p + q"], slf := { kind := .«BinOp», op := some .«Mult», field := .«value» },
    ups := [(.«value», { kind := .«Assign», field := .«body» }), (.«body», { kind := .«Module» })], fld := .«right»,
    tgtParent := some .«BinOp» }

example : (isAtom exMul.put false false).truthy = false ∧ exMul.put.info.kind ≠ .«Starred» ∧
    precRequire exMul.put.info exMul.slf exMul.fld exMul.dictKeyNone false = some true := by decide +kernel
example : action exMul .auto = some ⟨.group, false⟩ := by decide +kernel

/-- put the int constant `7` as the base of `a.b`: atom, parenthesised by the special case only -/
private def exInt : NPIn :=
  { put := .mk { kind := .«Constant», cint := true, loc := some ⟨0, 0, 0, 1⟩, pars := some ⟨0, 0, 0, 1⟩ } [],
    putLines := [L "7"], slf := { kind := .«Attribute», field := .«value» },
    ups := [(.«value», { kind := .«Assign», field := .«body» }), (.«body», { kind := .«Module» })], fld := .«value»,
    tgtParent := some .«Attribute» }

example : (isAtom exInt.put false false).truthy = true ∧ needPars exInt true = some true ∧ lineBranch exInt true = false := by
  decide +kernel

/-- the source `(p + q)` put into `x = a` with `pars='auto'`: parentheses not needed, removed -/
private def exUnpar : NPIn :=
  { put := .mk { kind := .«BinOp», op := some .«Add», loc := some ⟨0, 1, 0, 6⟩, pars := some ⟨0, 0, 0, 7⟩, n := 1 }
      [nm .«left» 0 1 2, addOp 0 3, nm .«right» 0 5 6],
    putLines := [L "(p + q)"], slf := { kind := .«Assign», field := .«body» }, ups := [(.«body», { kind := .«Module» })],
    fld := .«value», tgtParent := some .«Assign» }

example : action exUnpar .auto = some ⟨.unpar, true⟩ ∧ needPars exUnpar false = some false := by decide +kernel

end Pfst.C09b
