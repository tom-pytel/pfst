import Pfst.LinksSwapLemmas
import Pfst.SetPosLemmas

/-!
# C02 — an edited tree is observationally identical to a fresh parse of its own source

Property theorems about the model of the link store, the cache flushing and the view windows (`Pfst/Links.lean`) and
of `_set_end_pos` / `_set_start_pos` (`Pfst/SetPos.lean`).  Helper lemmas: `Pfst/LinksLemmas.lean`,
`Pfst/LinksSwapLemmas.lean`, `Pfst/SetPosLemmas.lean`.  What the theorems do not cover (contents of cached answers computed from
source text, `pars` keys) is compared on the real code by the query–edit–query sweep of `harness/props/C02.py`.
-/
namespace Pfst.C02
open Pfst.Links Pfst.Offset

/-- **Link invariant** of a state: for every AST `a` reachable from the root there is an FST `f` with `a.f = f`,
`f.a = a`, `f.parent` = the FST of the parent AST (`None` at the root), `f.pfield` = the slot `a` occupies; and the
root AST's FST is the root FST object.  (Executable form `linkInvB`, evaluated by the driver on every dumped graph;
`linkInv_mem` unfolds it into the ∀∃ form.) -/
def LinkInv (s : State) : Prop := linkInvB s = true

mutual
/-- all subtrees (= all reachable AST nodes) of a tree, preorder -/
def subtrees : Ast → List Ast
  | .mk i k f ks => .mk i k f ks :: subtreesList ks
def subtreesList : List Ast → List Ast
  | [] => []
  | k :: r => subtrees k ++ subtreesList r
end

private theorem linkedList_parent (σ : Store) : ∀ (l : List Ast) (pf : Option Nat), linkedListB σ pf l = true →
    ∀ k ∈ l, ∃ g, σ.astF k.id = some g ∧ (σ.fst g).parent = pf
  | [], _, _, k, hk => by cases hk
  | c :: rest, pf, h, k, hk => by
    simp only [linkedListB, Bool.and_eq_true] at h
    rcases List.mem_cons.mp hk with rfl | hk'
    · obtain ⟨g, hg, _, hp, _⟩ := linkedB_iff.mp h.1
      exact ⟨g, hg, hp⟩
    · exact linkedList_parent σ rest pf h.2 k hk'

mutual
private theorem linked_mem (σ : Store) : ∀ (t : Ast) (pf : Option Nat), linkedB σ pf t = true → ∀ n ∈ subtrees t,
    ∃ f, σ.astF n.id = some f ∧ (σ.fst f).a = some n.id ∧ (σ.fst f).pfield = n.fld ∧
      ∀ k ∈ n.kids, ∃ g, σ.astF k.id = some g ∧ (σ.fst g).parent = some f
  | .mk a kind fld kids, pf, h, n, hn => by
    obtain ⟨f, hf, ha, _, hq, hk⟩ := linkedB_iff.mp h
    rcases List.mem_cons.mp hn with rfl | h1
    · exact ⟨f, hf, ha, hq, linkedList_parent σ kids (some f) hk⟩
    · exact linkedList_mem σ kids (some f) hk n h1
private theorem linkedList_mem (σ : Store) : ∀ (l : List Ast) (pf : Option Nat), linkedListB σ pf l = true →
    ∀ n ∈ subtreesList l,
    ∃ f, σ.astF n.id = some f ∧ (σ.fst f).a = some n.id ∧ (σ.fst f).pfield = n.fld ∧
      ∀ k ∈ n.kids, ∃ g, σ.astF k.id = some g ∧ (σ.fst g).parent = some f
  | [], _, _, n, hn => by cases hn
  | k :: rest, pf, h, n, hn => by
    simp only [linkedListB, Bool.and_eq_true] at h
    rcases List.mem_append.mp hn with h0 | h1
    · exact linked_mem σ k pf h.1 n h0
    · exact linkedList_mem σ rest pf h.2 n h1
end

theorem linkInv_iff (s : State) :
    LinkInv s ↔ linkedB s.σ none s.root = true ∧ s.σ.astF s.root.id = some s.rootF := by
  simp only [LinkInv, linkInvB, Bool.and_eq_true, beq_iff_eq]

/-- **LinkInv in ∀∃ form**: every reachable AST has an FST that points back at it and records the slot it occupies;
each child's FST has the parent's FST as `.parent`; the root's FST is the root FST object and has no parent. -/
theorem linkInv_mem (s : State) (h : LinkInv s) :
    s.σ.astF s.root.id = some s.rootF ∧
    ∀ n ∈ subtrees s.root,
      ∃ f, s.σ.astF n.id = some f ∧ (s.σ.fst f).a = some n.id ∧ (s.σ.fst f).pfield = n.fld ∧
        ∀ k ∈ n.kids, ∃ g, s.σ.astF k.id = some g ∧ (s.σ.fst g).parent = some f :=
  ⟨((linkInv_iff s).mp h).2, linked_mem s.σ s.root none ((linkInv_iff s).mp h).1⟩

/-- after `_unmake_fst_tree` every node of the detached subtree is dead: `a.f = None` for every AST
of the subtree and `f.a = None` for the FST object each of them had. Any store, any subtree. -/
theorem unmake_dead (σ : Store) (t : Ast) :
    ∀ x ∈ ids t, (unmake σ t).astF x = none ∧ ∀ f, σ.astF x = some f → ((unmake σ t).fst f).a = none :=
  fun x hx => ⟨by rw [unmake_astF, if_pos hx], fun f hf => by rw [unmake_fst, if_pos ⟨x, hx, hf⟩]⟩

/-- `_make_fst_tree` on a root whose FST exists (`rootF`, an existing object without parent) and whose
descendants are pairwise distinct ASTs without FSTs (a freshly parsed tree) establishes the link invariant. Any size,
any shape. -/
theorem make_inv (σ : Store) (a : Nat) (kind : String) (kids : List Ast) (rootF : Nat)
    (hF : rootF < σ.next) (ha : σ.astF a = some rootF)
    (hr : (σ.fst rootF).a = some a ∧ (σ.fst rootF).parent = none ∧ (σ.fst rootF).pfield = none)
    (hnd : (ids (.mk a kind none kids)).Nodup) (hfresh : ∀ x ∈ idsList kids, σ.astF x = none) :
    LinkInv { root := .mk a kind none kids, rootF := rootF, σ := makeKids σ rootF kids } := by
  simp only [ids, List.nodup_cons] at hnd
  obtain ⟨hfr, hl⟩ := makeKids_spec kids σ rootF hF hnd.2 hfresh
  have hA : (makeKids σ rootF kids).astF a = some rootF := by rw [hfr.astF_out a hnd.1, ha]
  refine (linkInv_iff _).mpr ⟨linkedB_iff.mpr ⟨rootF, hA, ?_⟩, hA⟩
  rw [hfr.fst_old rootF hF]
  exact ⟨hr.1, hr.2.1, hr.2.2, hl⟩

/-- `_unmake_fst_tree` writes nothing outside the detached subtree: `a.f` of every AST that is not in
the subtree is unchanged, every FST record that is not the `a.f` of an AST of the subtree is unchanged, and no object is
created. Any store, any subtree. -/
theorem unmake_frame (σ : Store) (t : Ast) :
    (∀ x, x ∉ ids t → (unmake σ t).astF x = σ.astF x) ∧
    (∀ g, (∀ x ∈ ids t, σ.astF x ≠ some g) → (unmake σ t).fst g = σ.fst g) ∧
    (unmake σ t).next = σ.next :=
  ⟨fun x hx => by rw [unmake_astF, if_neg hx],
   fun g h => by rw [unmake_fst, if_neg (fun ⟨x, hx, e⟩ => h x hx e)], unmake_next t σ⟩

/-- in a linked tree two different ASTs never share an FST object (`a ↦ a.f` is injective),
because each FST points back at its own AST. -/
theorem linked_injective (σ : Store) (t : Ast) (pf : Option Nat) (h : linkedB σ pf t = true) :
    ∀ x ∈ ids t, ∀ y ∈ ids t, ∀ f, σ.astF x = some f → σ.astF y = some f → x = y := by
  intro x hx y hy f hfx hfy
  exact Option.some.inj ((linked_back σ t pf h x hx f hfx).symm.trans (linked_back σ t pf h y hy f hfy))

/-- why `_set_ast` / `_set_field` may unmake below any node, not only the root. Unmaking a
linked subtree `t` leaves every other linked subtree `u` that shares no AST with it (a sibling, an element of another
field) linked exactly as it was: the FSTs of `u` are not FSTs of `t` (each points back at its own AST), so
`_unmake_fst_tree` writes none of them. Any store, any two subtrees. -/
theorem unmake_keeps_linked (σ : Store) (t u : Ast) (pt pu : Option Nat)
    (ht : linkedB σ pt t = true) (hu : linkedB σ pu u = true) (hd : ∀ x ∈ ids u, x ∉ ids t) :
    linkedB (unmake σ t) pu u = true := by
  refine linkedB_congrP σ (unmake σ t) (fun g => ∀ y ∈ ids t, σ.astF y ≠ some g) u pu
    (fun x hx => (unmake_frame σ t).1 x (hd x hx)) ?_ (unmake_frame σ t).2.1 hu
  intro x hx f hf y hy hfy
  have e : x = y := Option.some.inj ((linked_back σ u pu hu x hx f hf).symm.trans (linked_back σ t pt ht y hy f hfy))
  exact hd x hx (e ▸ hy)

private theorem back_bd (s : State) (hl : linkedB s.σ none s.root = true)
    (hbd : ∀ x ∈ ids s.root, ∀ g, s.σ.astF x = some g → g < s.σ.next) :
    ∀ x ∈ ids s.root, ∀ g, s.σ.astF x = some g → (s.σ.fst g).a = some x ∧ g < s.σ.next :=
  fun x hx g hg => ⟨linked_back s.σ s.root none hl x hx g hg, hbd x hx g hg⟩

private theorem fresh_disjoint (σ : Store) (t : Ast) (pf : Option Nat) (hl : linkedB σ pf t = true) (N : List Nat)
    (hfresh : ∀ x ∈ N, σ.astF x = none) : ∀ x ∈ ids t, x ∉ N :=
  fun x hx hn => linked_isSome σ t pf hl x hx (hfresh x hn)

/-- `_set_ast` with the default flags, evaluated: `old` is the AST the FST `f` stands for. -/
theorem setAst_eq (s : State) (f : Nat) (old new : Ast) (ha : (s.σ.fst f).a = some old.id)
    (hold : findId old.id s.root = some old) (hF : f < s.σ.next)
    (hnd : (ids new).Nodup) (hfresh : ∀ x ∈ ids new, s.σ.astF x = none) :
    setAst s f new =
      { s with
        root := match (s.σ.fst f).parent with
          | some _ => replaceId old.id (new.setFld (s.σ.fst f).pfield) s.root
          | none => if f = s.rootF then new.setFld (s.σ.fst f).pfield else s.root
        σ := touch (swapσ s.σ old f new) f } := by
  have hn1 : (unmake s.σ old).astF new.id = none := by rw [unmake_astF, hfresh _ (id_mem_ids new), ite_self]
  obtain ⟨_, _, hP, hQ, _⟩ := swapσ_new s.σ old new f hF hnd hfresh
  simp only [swapσ] at hP hQ
  simp only [setAst, ha, Option.bind_some, hold, hn1, if_true, Bool.false_eq_true, if_false, swapσ, hP, hQ]
  rfl

/-- Root position of `_set_ast`: replacing the AST under the root FST by a fresh tree (pairwise distinct ASTs
without FSTs) re-establishes the link invariant, and the root FST object is the same object as before: the old tree is
unmade (see `unmake_dead`), the root FST is kept, new FSTs are made below it.  The old tree need not be linked. -/
theorem setAst_inv_partial (s : State) (new : Ast)
    (hF : s.rootF < s.σ.next) (hra : (s.σ.fst s.rootF).a = some s.root.id)
    (hrp : (s.σ.fst s.rootF).parent = none ∧ (s.σ.fst s.rootF).pfield = none)
    (hnd : (ids new).Nodup) (hfresh : ∀ x ∈ ids new, s.σ.astF x = none) :
    LinkInv (setAst s s.rootF new) ∧ (setAst s s.rootF new).rootF = s.rootF := by
  rw [setAst_eq s s.rootF s.root new hra (findId_self s.root) hF hnd hfresh, hrp.1, hrp.2]
  obtain ⟨hA, ha, hp, hq, hk⟩ := swapσ_new s.σ s.root new s.rootF hF hnd hfresh
  have hA' : (swapσ s.σ s.root s.rootF new).astF (new.setFld none).id = some s.rootF := by cases new; exact hA
  simp only [↓reduceIte]
  refine ⟨(linkInv_iff _).mpr ⟨?_, hA'⟩, trivial⟩
  rw [linkedB_touch]
  exact linkedB_setFld _ none new none s.rootF hA ha (hp.trans hrp.1) (hq.trans hrp.2) hk

/-- `_set_ast` with the default flags on the FST `f` of any node `old` of a linked tree, the root included (there
`replaceId` replaces the whole tree and `f` is the root FST): the resulting state; it is linked, its ASTs are pairwise
distinct and its FST objects exist. -/
theorem setAst_spec (s : State) (f : Nat) (old new : Ast)
    (hinv : LinkInv s) (hnd : (ids s.root).Nodup)
    (hbd : ∀ x ∈ ids s.root, ∀ g, s.σ.astF x = some g → g < s.σ.next)
    (hold : findId old.id s.root = some old) (hf : s.σ.astF old.id = some f)
    (hnnd : (ids new).Nodup) (hfresh : ∀ x ∈ ids new, s.σ.astF x = none) :
    setAst s f new =
      { s with root := replaceId old.id (new.setFld old.fld) s.root, σ := touch (swapσ s.σ old f new) f } ∧
    LinkInv (setAst s f new) ∧ (ids (setAst s f new).root).Nodup ∧
    ∀ x ∈ ids (setAst s f new).root, ∀ g, (setAst s f new).σ.astF x = some g → g < (setAst s f new).σ.next := by
  obtain ⟨hl, hrootF⟩ := (linkInv_iff s).mp hinv
  have hback := back_bd s hl hbd
  obtain ⟨_, holdR⟩ := findId_some s.root old.id old hold
  have hF := (hback _ (holdR _ (id_mem_ids old)) f hf).2
  have C := swapσ_ctx s.σ (ids s.root) old new f hback holdR hf hnnd hfresh
  have hdn := fresh_disjoint s.σ s.root none hl (ids new) hfresh
  have hroot : s.root.id = old.id → f = s.rootF :=
    fun e => Option.some.inj (hf.symm.trans (e ▸ hrootF))
  have hres : setAst s f new =
      { s with root := replaceId old.id (new.setFld old.fld) s.root, σ := touch (swapσ s.σ old f new) f } := by
    -- `old` is linked below the FST of its parent, or is the root
    obtain ⟨po, hpo, hc⟩ := linked_find s.σ s.root none old.id old hl hold
    have ho := linkedB_root s.σ po old hpo f hf
    rw [setAst_eq s f old new ho.1 hold hF hnnd hfresh, ho.2.1, ho.2.2.1]
    rcases hc with ⟨rfl, e⟩ | ⟨p, rfl, _⟩
    · simp only [hroot e, if_true, replaceId_root, if_pos e]
    · rfl
  rw [hres]
  have hN := ids_setFld new old.fld
  refine ⟨rfl, (linkInv_iff _).mpr ⟨?_, ?_⟩, replaceId_nodup s.root old.id _ hnd (hN ▸ hnnd) (hN ▸ hdn),
    fun x hx => C.keep.bounded (swapσ_bounds s.σ old new f hF hnnd hfresh) x
      (hN ▸ replaceId_ids_sub s.root old.id _ x hx)⟩
  · rw [linkedB_touch]
    exact swap_linked C s.root none hl hnd (fun _ h => h) hdn hold
  · -- the root AST is `new` (linked to `f`, the root FST), or is not replaced and keeps its FST
    rw [replaceId_root]
    split
    · next e => rw [← hroot e]; cases new; exact C.newA
    · next e =>
      exact (C.astF_keep _ (findId_root_notin s.root old.id old hold e hnd) (hdn _ (id_mem_ids s.root))).trans hrootF

/-- `_set_ast` on the FST `f` of a node `old` of a linked tree with pairwise distinct ASTs, given a
fresh `new` tree (pairwise distinct ASTs without FSTs): the link invariant holds for the whole resulting tree, which is
the old tree with `new` (carrying `old`'s slot) in place of `old`; the root FST object is unchanged. The store
hypothesis `hbd` says that the FST objects of the tree exist (`< next`). The statement asks for a node below the root
(`hne`), but nothing depends on that: `setAst_spec` is the same fact at every position, the root included. -/
theorem setAst_inv (s : State) (f : Nat) (old new : Ast)
    (hinv : LinkInv s) (hnd : (ids s.root).Nodup)
    (hbd : ∀ x ∈ ids s.root, ∀ g, s.σ.astF x = some g → g < s.σ.next)
    (hold : findId old.id s.root = some old) (hf : s.σ.astF old.id = some f) (hne : s.root.id ≠ old.id)
    (hnnd : (ids new).Nodup) (hfresh : ∀ x ∈ ids new, s.σ.astF x = none) :
    LinkInv (setAst s f new) ∧ (setAst s f new).rootF = s.rootF ∧
      (setAst s f new).root = replaceId old.id (new.setFld old.fld) s.root ∧
      (setAst s f new).σ = touch (swapσ s.σ old f new) f := by
  obtain ⟨hres, hi, _⟩ := setAst_spec s f old new hinv hnd hbd hold hf hnnd hfresh
  rw [hres] at hi ⊢
  exact ⟨hi, rfl, rfl, rfl⟩

/-- With `valid_fst=False` the element loop of `_set_field` is `_make_fst_tree` over
the new elements: on fresh, pairwise distinct new elements every new element is linked below `f` with the slot it was
given, and nothing but new FST objects and the new elements' own `a.f` is written (so everything else is as
`_unmake_fst_tree` left it). -/
theorem setField_inv_partial (σ : Store) (f : Nat) (new : List Ast) (hF : f < σ.next)
    (hnd : (idsList new).Nodup) (hfresh : ∀ x ∈ idsList new, σ.astF x = none) :
    newElems σ f false new = makeKids σ f new ∧
    linkedListB (newElems σ f false new) (some f) new = true ∧
    (∀ x, x ∉ idsList new → (newElems σ f false new).astF x = σ.astF x) ∧
    (∀ g, g < σ.next → (newElems σ f false new).fst g = σ.fst g) := by
  obtain ⟨hfr, hl⟩ := makeKids_spec new σ f hF hnd hfresh
  rw [newElems_eq_makeKids]
  exact ⟨rfl, hl, hfr.astF_out, hfr.fst_old⟩

/-- `_set_field` with the default flags on the FST `f` of any node `P` of a linked tree: the resulting state; it is
linked, its ASTs are pairwise distinct and its FST objects exist. -/
theorem setField_spec (s : State) (f : Nat) (name : String) (isList : Bool) (P : Ast) (new0 : List Ast)
    (hinv : LinkInv s) (hnd : (ids s.root).Nodup)
    (hbd : ∀ x ∈ ids s.root, ∀ g, s.σ.astF x = some g → g < s.σ.next)
    (hP : findId P.id s.root = some P) (hf : s.σ.astF P.id = some f)
    (hnnd : (idsList new0).Nodup) (hfresh : ∀ x ∈ idsList new0, s.σ.astF x = none) :
    setField s f name isList new0 =
      { s with root := setKids P.id name (relabel name isList 0 new0) s.root,
               σ := touch (fieldσ s.σ (fieldOf name P) f (relabel name isList 0 new0)) f } ∧
    LinkInv (setField s f name isList new0) ∧ (ids (setField s f name isList new0).root).Nodup ∧
    ∀ x ∈ ids (setField s f name isList new0).root, ∀ g,
      (setField s f name isList new0).σ.astF x = some g → g < (setField s f name isList new0).σ.next := by
  obtain ⟨hl, hrootF⟩ := (linkInv_iff s).mp hinv
  have hback := back_bd s hl hbd
  obtain ⟨_, hPR⟩ := findId_some s.root P.id P hP
  have hPb := hback P.id (hPR _ (id_mem_ids P)) f hf
  have hres : setField s f name isList new0 =
      { s with root := setKids P.id name (relabel name isList 0 new0) s.root,
               σ := touch (fieldσ s.σ (fieldOf name P) f (relabel name isList 0 new0)) f } := by
    simp only [setField, hPb.1, hP, if_true, newElems_eq_makeKids, fieldσ, fieldOf]
    rfl
  rw [hres]
  -- from here on only the ASTs of the relabelled elements matter, and they are those of `new0`
  rw [← idsList_relabel name isList new0 0] at hnnd hfresh
  generalize relabel name isList 0 new0 = new at hnnd hfresh ⊢
  have hbodyP : ∀ y ∈ idsList (fieldOf name P), y ∈ idsList P.kids := idsList_filter_sub _ _
  have C := fieldσ_ctx s.σ (ids s.root) (fieldOf name P) new f hPb.2 hback
    (fun y hy => hPR y (idsList_kids_sub P y (hbodyP y hy))) hnnd hfresh
  have hdn := fresh_disjoint s.σ s.root none hl _ hfresh
  refine ⟨rfl, (linkInv_iff _).mpr ⟨?_, ?_⟩, setKids_nodup s.root P.id name _ hnd hnnd hdn,
    fun x hx => C.keep.bounded (fieldσ_bounds s.σ (fieldOf name P) new f hPb.2 hnnd hfresh) x
      (setKids_ids_sub s.root P.id name _ x hx)⟩
  · rw [linkedB_touch]
    exact field_linked C name P rfl hf s.root none hl hnd (fun _ h => h) hdn hP
  · -- the root AST keeps its FST: it is neither a new element nor an old element of the field
    show (fieldσ s.σ (fieldOf name P) f new).astF (setKids P.id name new s.root).id = some s.rootF
    rw [setKids_id, C.astF_keep _ (fun h => findId_root_notin_kids s.root P.id P hP hnd (hbodyP _ h))
      (hdn _ (id_mem_ids s.root))]
    exact hrootF

/-- `_set_field` with the default flags on the FST `f` of any node `P` (the root included) of a linked tree with
pairwise distinct ASTs, given fresh new elements (pairwise distinct ASTs without FSTs): the old
elements of the field are unmade, the new ones are made below `f` with their slots `astfield(name, i)`, and the link
invariant holds for the whole resulting tree, which is the old tree with the field's elements replaced; siblings in
other fields and the rest of the tree stay linked; the root FST object is unchanged. Any tree, any node, any field,
any new elements. -/
theorem setField_inv (s : State) (f : Nat) (name : String) (isList : Bool) (P : Ast) (new0 : List Ast)
    (hinv : LinkInv s) (hnd : (ids s.root).Nodup)
    (hbd : ∀ x ∈ ids s.root, ∀ g, s.σ.astF x = some g → g < s.σ.next)
    (hP : findId P.id s.root = some P) (hf : s.σ.astF P.id = some f)
    (hnnd : (idsList new0).Nodup) (hfresh : ∀ x ∈ idsList new0, s.σ.astF x = none) :
    LinkInv (setField s f name isList new0) ∧ (setField s f name isList new0).rootF = s.rootF ∧
      (setField s f name isList new0).root = setKids P.id name (relabel name isList 0 new0) s.root ∧
      (setField s f name isList new0).σ = touch (fieldσ s.σ (fieldOf name P) f (relabel name isList 0 new0)) f := by
  obtain ⟨hres, hi, _⟩ := setField_spec s f name isList P new0 hinv hnd hbd hP hf hnnd hfresh
  rw [hres] at hi ⊢
  exact ⟨hi, rfl, rfl, rfl⟩

/-- **Well-formed state**: the link invariant, pairwise distinct ASTs in the tree, the FST objects of the tree exist
(`< next`), and the root AST occupies no slot. This is what every operation below assumes and re-establishes. -/
def WF (s : State) : Prop :=
  LinkInv s ∧ (ids s.root).Nodup ∧ (∀ x ∈ ids s.root, ∀ g, s.σ.astF x = some g → g < s.σ.next) ∧ s.root.fld = none

private theorem setKids_fld (T : Ast) (i : Nat) (name : String) (new : List Ast) :
    (setKids i name new T).fld = T.fld := by
  obtain ⟨j, k, f, ks⟩ := T
  simp only [setKids]
  split <;> rfl

/-- `_set_ast` on the FST of any node of the tree (the root included) keeps the state well formed. -/
theorem setAst_wf_any (s : State) (f : Nat) (old new : Ast) (h : WF s)
    (hold : findId old.id s.root = some old) (hf : s.σ.astF old.id = some f)
    (hnnd : (ids new).Nodup) (hfresh : ∀ x ∈ ids new, s.σ.astF x = none) : WF (setAst s f new) := by
  obtain ⟨hinv, hnd, hbd, hfl⟩ := h
  obtain ⟨hres, hi, hn, hb⟩ := setAst_spec s f old new hinv hnd hbd hold hf hnnd hfresh
  refine ⟨hi, hn, hb, ?_⟩
  -- the root's slot: `old`'s own slot if `old` is the root, untouched otherwise
  rw [hres]
  show (replaceId old.id (new.setFld old.fld) s.root).fld = none
  rw [replaceId_root]
  split
  · next e =>
    obtain rfl : s.root = old := Option.some.inj ((findId_self s.root).symm.trans (e ▸ hold))
    cases new; exact hfl
  · exact hfl

/-- `_set_ast` (fresh new tree) keeps the state well formed; stated for a node below the root (`hne`),
it is `setAst_wf_any`, which holds at every position. -/
theorem setAst_wf (s : State) (f : Nat) (old new : Ast) (h : WF s)
    (hold : findId old.id s.root = some old) (hf : s.σ.astF old.id = some f) (hne : s.root.id ≠ old.id)
    (hnnd : (ids new).Nodup) (hfresh : ∀ x ∈ ids new, s.σ.astF x = none) : WF (setAst s f new) :=
  setAst_wf_any s f old new h hold hf hnnd hfresh

/-- `_set_field` (any node, fresh new elements) keeps the state well formed. -/
theorem setField_wf (s : State) (f : Nat) (name : String) (isList : Bool) (P : Ast) (new0 : List Ast) (h : WF s)
    (hP : findId P.id s.root = some P) (hf : s.σ.astF P.id = some f)
    (hnnd : (idsList new0).Nodup) (hfresh : ∀ x ∈ idsList new0, s.σ.astF x = none) :
    WF (setField s f name isList new0) := by
  obtain ⟨hinv, hnd, hbd, hfl⟩ := h
  obtain ⟨hres, hi, hn, hb⟩ := setField_spec s f name isList P new0 hinv hnd hbd hP hf hnnd hfresh
  refine ⟨hi, hn, hb, ?_⟩
  rw [hres]
  exact (setKids_fld s.root P.id name _).trans hfl

/-- no sequence of link operations changes which FST object is the root. -/
theorem root_identity (ops : List Op) : ∀ s : State, (run s ops).rootF = s.rootF := by
  induction ops with
  | nil => intro s; rfl
  | cons o rest ih =>
    intro s
    simp only [run]
    rw [ih]
    cases o with
    | setAst f new v u => rfl
    | setField f name l new v u =>
      simp only [step, setField]
      split <;> rfl
    | touch f => rfl
    | touchall f p sf c =>
      simp only [step]
      split <;> rfl

theorem linkInv_cacheOnly (s : State) (σ' : Store) (h : CacheOnly s.σ σ') :
    LinkInv { s with σ := σ' } ↔ LinkInv s := by
  simp only [LinkInv, linkInvB, linkedB_cacheOnly h, h.1]

/-- `_touch` only empties a cache: the link invariant neither needs nor notices it. -/
theorem touch_preserves_links (s : State) (g : Nat) : LinkInv { s with σ := touch s.σ g } ↔ LinkInv s :=
  linkInv_cacheOnly s _ (touch_cacheOnly s.σ g)

/-- `_set_ast` on the root FST (fresh new tree) keeps the state well formed; the new root AST is
`new` with no slot. -/
theorem setAst_root_wf (s : State) (new : Ast) (h : WF s)
    (hnnd : (ids new).Nodup) (hfresh : ∀ x ∈ ids new, s.σ.astF x = none) : WF (setAst s s.rootF new) :=
  setAst_wf_any s s.rootF s.root new h (findId_self s.root) ((linkInv_iff s).mp h.1).2 hnnd hfresh

/-- an operation the theorems cover, in state `s`: `_set_ast` with the default flags on the root FST or on the FST of a
non-root node of the tree, `_set_field` with the default flags on the FST of any node of the tree, both with fresh
pairwise distinct new ASTs (none has an FST in `s`); `_touch` / `_touchall` of any FST with any flags. (The non-default
flags of `_set_ast` / `_set_field` are outside this predicate: correspondence only.) -/
def Admissible (s : State) : Op → Prop
  | .setAst f new v u => v = false ∧ u = true ∧ (ids new).Nodup ∧ (∀ x ∈ ids new, s.σ.astF x = none) ∧
      (f = s.rootF ∨ ∃ old, findId old.id s.root = some old ∧ s.σ.astF old.id = some f ∧ s.root.id ≠ old.id)
  | .setField f _ _ new v u => v = false ∧ u = true ∧ ∃ P, findId P.id s.root = some P ∧ s.σ.astF P.id = some f ∧
      (idsList new).Nodup ∧ ∀ x ∈ idsList new, s.σ.astF x = none
  | .touch _ => True
  | .touchall _ _ _ _ => True

/-- every operation of the sequence is admissible in the state it is applied to -/
def AdmissibleRun : State → List Op → Prop
  | _, [] => True
  | s, o :: rest => Admissible s o ∧ AdmissibleRun (step s o) rest

/-- an operation that only empties caches (`_touch`, `_touchall` with any flags) keeps the state well
formed. -/
theorem wf_cacheOnly (s : State) (σ' : Store) (h : CacheOnly s.σ σ') (hw : WF s) : WF { s with σ := σ' } := by
  obtain ⟨hinv, hnd, hbd, hfl⟩ := hw
  refine ⟨(linkInv_cacheOnly s σ' h).mpr hinv, hnd, fun x hx g hg => ?_, hfl⟩
  simp only [h.1] at hg
  simp only [h.2.1]
  exact hbd x hx g hg

/-- one admissible operation keeps the state well formed. -/
theorem step_wf (s : State) (o : Op) (h : WF s) (ha : Admissible s o) : WF (step s o) := by
  cases o with
  | setAst f new v u =>
    obtain ⟨rfl, rfl, h4, h5, rfl | ⟨old, h1, h2, h3⟩⟩ := ha
    · exact setAst_root_wf s new h h4 h5
    · exact setAst_wf s f old new h h1 h2 h3 h4 h5
  | setField f name l new v u =>
    obtain ⟨rfl, rfl, P, h1, h2, h3, h4⟩ := ha
    exact setField_wf s f name l P new h h1 h2 h3 h4
  | touch f => exact wf_cacheOnly s _ (touch_cacheOnly s.σ f) h
  | touchall f p sf c =>
    simp only [step]
    split
    · next t _ => exact wf_cacheOnly s _ (touchall_cacheOnly s.σ f t p sf c) h
    · exact h

/-- the link invariant (with pairwise distinct ASTs and existing FST objects) holds in every state reached
from a well-formed state by any sequence of admissible operations, of any length. -/
theorem run_wf (ops : List Op) : ∀ s : State, WF s → AdmissibleRun s ops → WF (run s ops) := by
  induction ops with
  | nil => intro s h _; exact h
  | cons o rest ih =>
    intro s h ha
    exact ih (step s o) (step_wf s o h ha.1) ha.2

/-- `wfB` (evaluated by the driver on real states) decides `WF` -/
theorem wfB_iff (s : State) : wfB s = true ↔ WF s := by
  simp only [wfB, WF, LinkInv, boundedB, Bool.and_eq_true, decide_eq_true_eq, List.all_eq_true, and_assoc,
    Option.isNone_iff_eq_none]
  refine and_congr_right' (and_congr_right' (and_congr_left' (forall₂_congr fun x _ => ?_)))
  cases s.σ.astF x <;> simp

private theorem freshB_spec (σ : Store) (l : List Nat) (h : freshB σ l = true) :
    l.Nodup ∧ ∀ x ∈ l, σ.astF x = none := by
  simp only [freshB, Bool.and_eq_true, decide_eq_true_eq, List.all_eq_true, Option.isNone_iff_eq_none] at h
  exact h

private theorem lookup_spec (s : State) (f : Nat) (p : Ast → Bool)
    (h : (match ((s.σ.fst f).a).bind (fun i => findId i s.root) with | some o => p o | none => false) = true) :
    ∃ o, findId o.id s.root = some o ∧ p o = true := by
  split at h
  · next o ho =>
    obtain ⟨i, _, hfi⟩ := Option.bind_eq_some_iff.mp ho
    exact ⟨o, (findId_some s.root i o hfi).1 ▸ hfi, h⟩
  · cases h

/-- `admissibleB` (evaluated by the driver on real calls) implies `Admissible` -/
theorem admissibleB_sound (s : State) (o : Op) (h : admissibleB s o = true) : Admissible s o := by
  cases o with
  | setAst f new v u =>
    simp only [admissibleB, Bool.and_eq_true, Bool.not_eq_true', Bool.or_eq_true, beq_iff_eq] at h
    obtain ⟨⟨⟨hv, hu⟩, hfrb⟩, hm⟩ := h
    obtain ⟨hn, hfr⟩ := freshB_spec _ _ hfrb
    refine ⟨hv, hu, hn, hfr, hm.imp id (fun hm => ?_)⟩
    obtain ⟨old, ho, hp⟩ := lookup_spec s f _ hm
    simp only [Bool.and_eq_true, beq_iff_eq, bne_iff_ne] at hp
    exact ⟨old, ho, hp.1, hp.2⟩
  | setField f name l new v u =>
    simp only [admissibleB, Bool.and_eq_true, Bool.not_eq_true'] at h
    obtain ⟨⟨hv, hu⟩, hm⟩ := h
    obtain ⟨P, hP, hp⟩ := lookup_spec s f _ hm
    simp only [Bool.and_eq_true, beq_iff_eq] at hp
    obtain ⟨hn, hfr⟩ := freshB_spec _ _ hp.2
    exact ⟨hv, hu, P, hP, hp.1, hn, hfr⟩
  | touch f => trivial
  | touchall f p sf c => trivial

/-- the executable form the correspondence uses: if the driver reports `wfB` for the state before a call
and `admissibleB` for the call, then `wfB` (in particular the link invariant `linkInvB`) holds for the model's state
after it — so on such a call any disagreement between the implementation's graph and the invariant is a disagreement
with the model. -/
theorem step_wfB (s : State) (o : Op) (h : wfB s = true) (ha : admissibleB s o = true) : wfB (step s o) = true :=
  (wfB_iff _).mpr (step_wf s o ((wfB_iff s).mp h) (admissibleB_sound s o ha))

/-- Repaired C02-F1 call site: the tail of a slice put to `Call` / `ClassDef` /
`MatchClass` leaves every direct child that has an FST with an empty cache, changes no link, and keeps LinkInv. -/
theorem slicePut_flushes_children (s : State) (l : List Ast) :
    (∀ k ∈ l, ∀ f, s.σ.astF k.id = some f → ((touchKids s.σ l).fst f).cache = []) ∧
    (LinkInv { s with σ := touchKids s.σ l } ↔ LinkInv s) :=
  ⟨fun k hk f hf => by rw [touchKids_eq_foldl, touchAll_fst, if_pos ⟨k.id, List.mem_map_of_mem hk, hf⟩],
   linkInv_cacheOnly s _ (touchKids_cacheOnly l s.σ)⟩

/-- Repaired C02-F3 call site `self._touchall(True, True, False)`: afterwards the node's own
cache is empty, whatever the parent chain looks like. -/
theorem unpar_flushes_self (σ : Store) (f : Nat) (t : Ast) (parents : Bool) :
    ((touchall σ f t parents true false).fst f).cache = [] := by
  simp only [touchall, Bool.false_eq_true, if_false, if_true]
  split
  · exact touchParents_cache_stays _ _ _ f (touch_cache_self σ f)
  · exact touch_cache_self σ f

/-- the cache clearing of `_offset_lns` (every node of `walk(self.a)` touched, then
`_touchall(True, False, False)`; in the model `_touchall(parents, True, True)`) leaves every node of the subtree that
has an FST with an empty cache - whatever the parents flag, any store, any subtree. -/
theorem offsetLns_flushes_subtree (σ : Store) (f : Nat) (t : Ast) (parents : Bool) :
    ∀ x ∈ ids t, ∀ g, σ.astF x = some g → ((touchall σ f t parents true true).fst g).cache = [] := by
  intro x hx g hg
  simp only [touchall, if_true]
  split
  · exact touchParents_cache_stays _ _ _ g (touchTree_clears t σ x hx g hg)
  · exact touchTree_clears t σ x hx g hg

/-- after the renumbering loop that follows the removal of a span from (parallel) list fields,
the FST of every remaining child records exactly the slot (field name and list index) the child now occupies, and the
loop writes nothing else (`a`, `parent`, `a.f` untouched) - for any lists, provided the children are distinct objects
with distinct FSTs. -/
theorem renumber_positions (σ : Store) (kids : List Ast) (hnd : (kids.map Ast.id).Nodup)
    (hinj : ∀ k ∈ kids, ∀ k' ∈ kids, ∀ f, σ.astF k.id = some f → σ.astF k'.id = some f → k.id = k'.id) :
    (renumberKids σ kids).astF = σ.astF ∧
    ∀ k ∈ kids, ∀ f, σ.astF k.id = some f →
      ((renumberKids σ kids).fst f).pfield = k.fld ∧ ((renumberKids σ kids).fst f).a = (σ.fst f).a ∧
      ((renumberKids σ kids).fst f).parent = (σ.fst f).parent := by
  refine ⟨renumberKids_astF kids σ, fun k hk f hf => ?_⟩
  rw [renumberKids_fst kids σ ((List.pairwise_map.mp hnd).imp_of_mem
    (fun ha hb hne f h1 h2 => hne (hinj _ ha _ hb f h1 h2))) k hk f hf]
  exact ⟨rfl, rfl, rfl⟩

/-- on every geometrically ordered tree (`geo`, evaluated on each real tree by the
harness; it makes the nodes that a `break` cuts off end strictly before the spot) and for all parameters, after the
walk every node is either in the set whose `_cache` was cleared or heads a subtree in which no position changed
(`okNode`: same shape, same ids, `id ∈ touched ∨ flatten` equal, hereditarily). -/
theorem offset_touches_changed (π : Params) (t : Node) (h : geo t = true) :
    okNode (touchNode π t).1 t (offsetTree π t) = true := by
  unfold offsetTree
  rw [goNode_eq_naive π t h]
  exact touchNode_ok π t h

/-- Cached answers (`loc`, `bloc`, ...) as a function `compute key (positions of the node's subtree)`; `cache i` is the
`_cache` dictionary of the node with id `i`. -/
def CacheCoherent {Ans : Type} (compute : String → List (Nat × Option Pos) → Ans) (cache : Nat → List (String × Ans))
    (t : Node) : Prop :=
  ∀ s ∈ subnodes t, ∀ k v, (k, v) ∈ cache s.id → v = compute k (flatten s)

def clearAll {Ans : Type} (T : List Nat) (cache : Nat → List (String × Ans)) : Nat → List (String × Ans) :=
  fun i => if T.contains i then [] else cache i

/-- if every cached answer equals its recomputation before the walk, the same holds after
it (caches of visited nodes cleared, all others kept), for every answer that is determined by the positions inside the
node's own subtree. -/
theorem offset_cache_coherent {Ans : Type} (compute : String → List (Nat × Option Pos) → Ans)
    (cache : Nat → List (String × Ans)) (π : Params) (t : Node) (h : geo t = true)
    (hc : CacheCoherent compute cache t) :
    CacheCoherent compute (clearAll (touchNode π t).1 cache) (offsetTree π t) := by
  intro s' hs' k v hv
  obtain ⟨s, hs, hid, hor⟩ := ok_mem _ t (offsetTree π t) (offset_touches_changed π t h) s' hs'
  simp only [clearAll] at hv
  cases hor with
  | inl ht =>
    rw [← hid, ht] at hv
    simp at hv
  | inr he =>
    split at hv
    · simp at hv
    · rw [← hid] at hv
      rw [← he]
      exact hc s hs k v hv

/-- a window `[start, stop)` of a field of length `n` -/
def validView (v : View) (n : Nat) : Prop :=
  match v.stop with
  | none => v.start ≤ n
  | some s => v.start ≤ s ∧ s ≤ n

theorem baseIndices_valid (v : View) (n : Nat) (h : validView v n) :
    baseIndices v n = (v, v.start, v.stop.getD n, n) := by
  obtain ⟨start, stop⟩ := v
  rw [baseIndices_eq]
  cases stop with
  | none => simp only [validView] at h; simp [Nat.min_eq_left h]
  | some s => simp only [validView] at h; simp [Nat.min_eq_left h.2, Nat.min_eq_left h.1]

/-- `_base_indices` always returns a window of the current field (`start ≤ stop ≤ len`), leaves the
view healed (`valid`, idempotent), and does nothing to a view that is already a valid window — whatever happened to
the field length behind the view's back. -/
theorem view_heal (v : View) (n : Nat) :
    let b := baseIndices v n
    b.2.1 ≤ b.2.2.1 ∧ b.2.2.1 ≤ n ∧ b.2.2.2 = n ∧ validView b.1 n ∧ baseIndices b.1 n = b ∧ (validView v n → b.1 = v) := by
  -- the healed view is a window of the field, so healing it again does nothing
  have hv : validView (baseIndices v n).1 n ∧ (baseIndices v n).1.stop.getD n = (baseIndices v n).2.2.1 := by
    obtain ⟨start, stop⟩ := v
    cases stop <;>
      simp only [baseIndices_eq, validView, Option.map_none, Option.map_some, Option.getD_none, Option.getD_some,
        and_true] <;> omega
  refine ⟨?_, ?_, ?_, hv.1, ?_, fun h => by rw [baseIndices_valid v n h]⟩
  · rw [baseIndices_eq]; exact Nat.min_le_right _ _
  · rw [baseIndices_eq]; exact Nat.min_le_right _ _
  · rw [baseIndices_eq]
  · rw [baseIndices_valid _ n hv.1, hv.2, baseIndices_eq]

/-- an edit made through a valid window `[start, stop)` that changes the field length from `lb` to `la`
without deleting more than the window holds (`lb ≤ la + (stop - start)`) leaves the window `[start, stop + la - lb)`:
valid for the new field, and its length changed by exactly the length change of the field. -/
theorem view_len (v : View) (s lb la : Nat) (hs : v.stop = some s) (hv : validView v lb)
    (hd : lb ≤ la + (s - v.start)) :
    let v' := viewAfter v .lenDelta lb la
    v'.start = v.start ∧ v'.stop = some (s + la - lb) ∧ validView v' la ∧ viewLen v' la + lb = viewLen v lb + la := by
  obtain ⟨start, stop⟩ := v
  cases hs
  have hv0 := hv
  simp only [validView] at hv0 hd
  have hv' : validView ⟨start, some (s + la - lb)⟩ la := by simp only [validView]; omega
  have e : Int.toNat ((s : Int) + ((la : Int) - (lb : Int))) = s + la - lb := by omega
  -- both windows are valid, so `_base_indices` returns them as they are
  simp only [viewAfter, viewLen, stopAdd, baseIndices_valid _ _ hv, baseIndices_valid _ _ hv', e, Option.getD_some,
    true_and]
  clear e
  exact ⟨hv', by omega⟩

/-- the length change each editing method of `FSTView` causes when it succeeds -/
def natural (v : View) (op : VOp) (lb la : Nat) : Prop :=
  let b := baseIndices v lb
  match op with
  | .lenDelta => lb ≤ la + (b.2.2.1 - b.2.1)
  | .delitem k => k ≤ b.2.2.1 - b.2.1 ∧ la + k = lb
  | .append => la = lb + 1
  | .extend => lb ≤ la
  | .prepend => la = lb + 1
  | .cut => la + (b.2.2.1 - b.2.1) = lb

/-- after every editing method (`replace/remove/insert/__setitem__`, `__delitem__`, `append`,
`extend`, `prepend`, `cut`) the stored window is a valid window of the new field, for any stored window (also a stale
one: the method heals it first) and any field lengths consistent with what the method does. -/
theorem view_ops_valid (v : View) (op : VOp) (lb la : Nat) (h : natural v op lb la) :
    validView (viewAfter v op lb la) la := by
  -- of the healed window only `a = start' ≤ b = stop' ≤ lb` matters: once the two `min`s are named `a` and `b`,
  -- `natural` and the goal are linear in `a b lb la` in every case (a stored `stop` or none, each method)
  have hb := Nat.min_le_right (v.stop.getD lb) lb
  have ha := Nat.min_le_right v.start (min (v.stop.getD lb) lb)
  obtain ⟨start, stop⟩ := v
  cases stop <;>
    simp only [natural, viewAfter, baseIndices_eq, Option.getD_none, Option.getD_some, Option.map_none,
      Option.map_some] at h ha hb ⊢ <;>
    generalize min _ lb = b at * <;> generalize min start b = a at * <;>
    cases op <;> simp only [stopAdd, validView] at h ⊢ <;> omega

/-! ### `_set_end_pos` / `_set_start_pos` (model `Pfst/SetPos.lean`) -/
section SetPos
open Pfst.SetPos

/-- every node of the parent chain whose position `_set_end_pos` / `_set_start_pos` changed
had its cache cleared (so no cached `loc` / `bloc` / `pars` of a node whose end moved survives). Any chain, any old-
position guard. -/
theorem setPos_touches_changed (new : Int × Int) (old : Option (Int × Int)) (chain : List Link) :
    ∀ i (h : i < chain.length),
      ((setPos new old chain).1[i]'(by rw [setPos_length]; exact h)) ≠ chain[i] →
      chain[i].id ∈ (setPos new old chain).2 := by
  intro i h hne
  obtain ⟨k, hk, h1, h2, _⟩ := setPos_prefix new old chain
  rw [h1]
  -- the loop wrote (and touched) the first `k` links and no other, so `i < k`
  have hik : i < k := by
    refine Nat.lt_of_not_le (fun hge => hne ?_)
    have hlen : ((chain.take k).map (write new)).length = k := by
      rw [List.length_map, List.length_take, Nat.min_eq_left hk]
    simp only [h2, List.getElem_append_right (hlen ▸ hge), hlen, List.getElem_drop, Nat.add_sub_cancel' hge]
  exact List.mem_map_of_mem (List.mem_take_iff_getElem.mpr ⟨i, by omega, rfl⟩)

/-- without the old-position guard the node itself is always written and touched: its position (if
it has one) is the new position afterwards. -/
theorem setPos_written (new : Int × Int) (l : Link) (rest : List Link) :
    ((setPos new none (l :: rest)).1.head?).map (·.pos) = some (l.pos.map (fun _ => new)) ∧
    l.id ∈ (setPos new none (l :: rest)).2 := by
  simp only [setPos, blocked_none, Bool.false_eq_true, if_false]
  split <;> simp [write]

/-- with the old-position guard, every node that was written had either no location or exactly the
expected old position. -/
theorem setPos_guard (new o : Int × Int) (chain : List Link) :
    ∃ k, (setPos new (some o) chain).2 = (chain.take k).map (·.id) ∧
      ∀ l ∈ chain.take k, l.pos = none ∨ l.pos = some o := by
  obtain ⟨k, _, h1, _, h3⟩ := setPos_prefix new (some o) chain
  refine ⟨k, h1, fun l hl => ?_⟩
  have := h3 l hl
  cases hp : l.pos with
  | none => exact Or.inl rfl
  | some e =>
    right
    simp only [blocked, hp, bne_eq_false_iff_eq] at this
    rw [this]

/-- repeating the unguarded call changes nothing more. -/
theorem setPos_idempotent (new : Int × Int) : ∀ chain : List Link,
    setPos new none (setPos new none chain).1 = setPos new none chain
  | [] => rfl
  | l :: rest => by
    simp only [setPos, blocked_none, Bool.false_eq_true, if_false]
    by_cases hs : (rest.isEmpty || l.hasSib) = true
    · simp only [hs, if_true, setPos, blocked_none, Bool.false_eq_true, if_false, write_hasSib, write_write, write_id]
    · simp only [hs, Bool.false_eq_true, if_false, setPos, blocked_none, write_hasSib, write_write, write_id]
      have he : (setPos new none rest).1.isEmpty = rest.isEmpty := by
        have hl := setPos_length new none rest
        generalize (setPos new none rest).1 = q at hl
        cases q <;> cases rest <;> simp_all
      simp only [he, hs, Bool.false_eq_true, if_false, setPos_idempotent new rest]

end SetPos

/-! ### non-vacuity -/

private def fld (n : String) (i : Option Nat := none) : Option Fld := some ⟨n, i⟩

/-- `x = [a, b]`: Module(0) > Assign(1) > Name(2), List(3) > Name(4), Name(5) -/
private def tree0 : Ast :=
  .mk 0 "Module" none [ .mk 1 "Assign" (fld "body" (some 0))
    [ .mk 2 "Name" (fld "targets" (some 0)) [], .mk 3 "List" (fld "value") [ .mk 4 "Name" (fld "elts" (some 0)) [],
      .mk 5 "Name" (fld "elts" (some 1)) [] ] ] ]

private def σ0 : Store :=
  { astF := fun a => if a = 0 then some 0 else none,
    fst := fun f => if f = 0 then { a := some 0 } else {},
    next := 1 }

private def s1 : State := { root := tree0, rootF := 0, σ := makeKids σ0 0 tree0.kids }

example : LinkInv s1 := by unfold LinkInv; decide +kernel
-- renumbering repairs stale indices: FST 5 (`b` of `[a, b]`) claims index 3, afterwards it records its real slot
example : ((renumberKids { s1.σ with fst := upd s1.σ.fst 5 { s1.σ.fst 5 with pfield := fld "elts" (some 3) } }
    [ .mk 4 "Name" (fld "elts" (some 0)) [], .mk 5 "Name" (fld "elts" (some 1)) [] ]).fst 5).pfield = fld "elts" (some 1) := by decide +kernel
-- the repaired slice-put tail really empties a populated cache of a child
example : ((touchKids { s1.σ with fst := upd s1.σ.fst 4 { s1.σ.fst 4 with cache := [("parsN", [0, 2, 0, 3, 0])] } }
    [ .mk 4 "Name" none [], .mk 5 "Name" none [] ]).fst 4).cache = [] := by decide +kernel
-- the hypotheses of `make_inv` are met by the empty-store-plus-root state
example : (ids tree0).Nodup ∧ (∀ x ∈ idsList tree0.kids, σ0.astF x = none) := by decide +kernel
-- replacing `[a, b]` (FST 3) by a fresh `f(c)` keeps the invariant, kills the old elements, keeps FST 3
private def newCall : Ast := .mk 10 "Call" none [ .mk 11 "Name" (fld "func") [], .mk 12 "Name" (fld "args" (some 0)) [] ]
private def s2 : State := setAst s1 3 newCall
example : LinkInv s2 ∧ s2.σ.astF 10 = some 3 ∧ (s2.σ.fst 4).a = none ∧ (s2.σ.fst 5).a = none ∧ s2.σ.astF 4 = none
    ∧ s2.rootF = 0 := by unfold LinkInv; decide +kernel
-- `_set_field` of `Module.body` with two fresh statements
private def s3 : State := setField s2 0 "body" true [ .mk 20 "Pass" none [], .mk 21 "Expr" none [ .mk 22 "Name" (fld "value") [] ] ]
example : LinkInv s3 ∧ (s3.σ.fst 1).a = none ∧ (s3.σ.fst 3).a = none := by unfold LinkInv; decide +kernel
-- `unmake_keeps_linked`: unmaking the List `[a, b]` (AST 3) leaves the sibling target Name (AST 2) linked below FST 1,
-- and the hypotheses are met by the real state s1; the unmade elements are dead
private def listSub : Ast := .mk 3 "List" (fld "value") [ .mk 4 "Name" (fld "elts" (some 0)) [], .mk 5 "Name" (fld "elts" (some 1)) [] ]
private def nameSub : Ast := .mk 2 "Name" (fld "targets" (some 0)) []
example : linkedB s1.σ (some 1) listSub = true ∧ linkedB s1.σ (some 1) nameSub = true ∧
    (∀ x ∈ ids nameSub, x ∉ ids listSub) := by decide +kernel
example : linkedB (unmake s1.σ listSub) (some 1) nameSub = true ∧ (unmake s1.σ listSub).astF 4 = none ∧
    linkedB (unmake s1.σ listSub) (some 1) listSub = false := by decide +kernel
-- `setAst_inv` (general position): its hypotheses are met by s1 with old = the List `[a, b]` (AST 3, FST 3) and the
-- fresh `f(c)`; the conclusion is the state s2 evaluated above
example : LinkInv s1 ∧ (ids s1.root).Nodup ∧ s1.σ.astF listSub.id = some 3
    ∧ s1.root.id ≠ listSub.id ∧ (ids newCall).Nodup := by unfold LinkInv; decide +kernel
example : findId listSub.id s1.root = some listSub := rfl
example : (∀ x ∈ ids s1.root, ∀ g, s1.σ.astF x = some g → g < s1.σ.next) ∧ (∀ x ∈ ids newCall, s1.σ.astF x = none) := by
  decide +kernel
example : s2.root = replaceId listSub.id (newCall.setFld listSub.fld) s1.root := rfl
-- `setField_inv`: its hypotheses are met by s2 with P = the Module (AST 0, FST 0, the root itself), field `body`, and
-- two fresh statements; the conclusion's state is s3. Also at a non-root node: the `args` of the Call (AST 10, FST 3)
private def newBody : List Ast := [ .mk 20 "Pass" none [], .mk 21 "Expr" none [ .mk 22 "Name" (fld "value") [] ] ]
example : LinkInv s2 ∧ (ids s2.root).Nodup ∧ s2.σ.astF s2.root.id = some 0 ∧ (idsList newBody).Nodup := by
  unfold LinkInv; decide +kernel
example : findId s2.root.id s2.root = some s2.root := rfl
example : (∀ x ∈ ids s2.root, ∀ g, s2.σ.astF x = some g → g < s2.σ.next) ∧ (∀ x ∈ idsList newBody, s2.σ.astF x = none) := by
  decide +kernel
example : s3.root = setKids s2.root.id "body" (relabel "body" true 0 newBody) s2.root := rfl
private def s4 : State := setField s2 3 "args" true [ .mk 40 "Name" none [], .mk 41 "Name" none [] ]
example : LinkInv s4 ∧ s4.σ.astF 12 = none ∧ s4.σ.astF 11 = some 6 ∧ (s4.σ.fst (s4.σ.astF 41).get!).pfield = fld "args" (some 1)
    := by unfold LinkInv; decide +kernel
-- `run_wf`: a well-formed start state and an admissible three-step history (replace the List by a Call, replace the
-- Module body, touch the root)
example : WF s1 := ⟨by unfold LinkInv; decide +kernel, by decide +kernel, by decide +kernel, rfl⟩
example : AdmissibleRun s1 [.setAst 3 newCall false true, .setField 0 "body" true newBody false true, .touch 0] := by
  refine ⟨⟨rfl, rfl, by decide +kernel, by decide +kernel, Or.inr ⟨listSub, rfl, by decide +kernel, by decide +kernel⟩⟩,
    ⟨rfl, rfl, s2.root, rfl, by decide +kernel, by decide +kernel, by decide +kernel⟩, trivial, trivial⟩
example : WF (run s1 [.setAst 3 newCall false true, .touchall 3 true true true, .touchall 0 false true false]) :=
  run_wf _ s1 ⟨by unfold LinkInv; decide +kernel, by decide +kernel, by decide +kernel, rfl⟩
    ⟨⟨rfl, rfl, by decide +kernel, by decide +kernel, Or.inr ⟨listSub, rfl, by decide +kernel, by decide +kernel⟩⟩, trivial, trivial, trivial⟩
-- the executable premises agree on the same history, root-position `_set_ast` included
example : wfB s1 = true ∧ admissibleB s1 (.setAst 3 newCall false true) = true ∧
    admissibleB s1 (.setAst 0 (.mk 30 "Module" none [ .mk 31 "Pass" (fld "body" (some 0)) [] ]) false true) = true ∧
    admissibleB s1 (.setAst 3 listSub false true) = false := by decide +kernel
-- root position of `setAst_inv_partial`
example : s1.rootF < s1.σ.next ∧ (s1.σ.fst s1.rootF).a = some s1.root.id ∧ (s1.σ.fst s1.rootF).parent = none := by decide +kernel
example : LinkInv (setAst s1 0 (.mk 30 "Module" none [ .mk 31 "Pass" (fld "body" (some 0)) [] ])) := by
  unfold LinkInv; decide +kernel
-- a broken store is rejected: child 4 claims parent 1 instead of 3
example : ¬ LinkInv { s1 with σ := { s1.σ with fst := upd s1.σ.fst 4 { s1.σ.fst 4 with parent := some 1 } } } := by
  unfold LinkInv; decide +kernel

-- `_set_end_pos` up a chain Name(7) < Call(6) < Expr(5) < If(2, has a next sibling) < Module(0): the If is the last one
-- written, the Module is not reached; with a guard that the Call does not meet the walk stops before it
private def chain0 : List Pfst.SetPos.Link :=
  [⟨7, some (3, 9), false⟩, ⟨6, some (3, 9), false⟩, ⟨5, some (3, 9), false⟩, ⟨2, some (3, 9), true⟩, ⟨0, none, false⟩]
example : (Pfst.SetPos.setPos (3, 12) none chain0).2 = [7, 6, 5, 2] ∧
    ((Pfst.SetPos.setPos (3, 12) none chain0).1.map (·.pos)) = [some (3, 12), some (3, 12), some (3, 12), some (3, 12), none] := by
  decide +kernel
example : (Pfst.SetPos.setPos (3, 12) (some (3, 9))
    [⟨7, some (3, 9), false⟩, ⟨6, some (3, 10), false⟩, ⟨5, some (3, 10), false⟩]).2 = [7] := by decide +kernel
private def ptree : Node :=
  .mk 0 none none [ .mk 1 (some ⟨1,0,1,9⟩) none [ .mk 2 (some ⟨1,0,1,1⟩) none [], .mk 9 (some ⟨1,2,1,3⟩) none [], .mk 3 (some ⟨1,4,1,9⟩) none
    [ .mk 4 (some ⟨1,4,1,5⟩) none [], .mk 5 (some ⟨1,8,1,9⟩) none [] ] ],
    .mk 6 (some ⟨3,0,4,7⟩) (some 2) [ .mk 7 (some ⟨2,1,2,5⟩) none [], .mk 8 (some ⟨4,2,4,7⟩) none [] ] ]
private def π0 : Params := { lno := 1, colo := 6, dln := 0, dcol := 3, tail := .f, head := .t }

example : geo ptree = true := by decide +kernel
-- the walk skips nodes (2 by the `break` at 9; 7 and 8 by the `continue` at 6) and still covers all changes
example : (touchNode π0 ptree).1 = [0, 1, 9, 3, 4, 5, 6] := by decide +kernel
example : flatten (offsetTree π0 ptree) ≠ flatten ptree := by decide +kernel
example : okNode [0, 1, 3, 5, 6] ptree (offsetTree π0 ptree) = true := by decide +kernel
-- and the statement has teeth: without node 5 (whose position moved) in the set it is false
example : okNode [0, 1, 3, 4, 6] ptree (offsetTree π0 ptree) = false := by decide +kernel

example : (baseIndices ⟨2, some 7⟩ 4).2 = (2, 4, 4) ∧ (baseIndices ⟨6, some 7⟩ 4).1 = ⟨4, some 4⟩ := by decide +kernel
example : natural ⟨1, some 3⟩ .lenDelta 4 5 ∧ viewAfter ⟨1, some 3⟩ .lenDelta 4 5 = ⟨1, some 4⟩ := by
  unfold natural; decide +kernel

end Pfst.C02
