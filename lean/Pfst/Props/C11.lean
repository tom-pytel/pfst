import Pfst.OffsetLemmas

/-!
# C11 — whitespace-only source edits in offset mode keep every node on its text

Property theorems about the model of `_offset` / `_params_offset` (`Pfst/Offset.lean`).  Helper lemmas live in
`Pfst/OffsetLemmas.lean`; the text-level statements (what `_put_src` does to the lines, and that shifted spans denote
the same text) are in `Pfst/Props/C04.lean` / `Pfst/TextLemmas.lean`.
-/
namespace Pfst.C11
open Pfst.Offset

/-- The point is strictly after the start and strictly before the end of `p`. -/
def strictlyInside (π : Params) (p : Pos) : Prop :=
  (p.lno < π.lno ∨ (p.lno = π.lno ∧ p.col < π.colo)) ∧ (π.lno < p.elno ∨ (p.elno = π.lno ∧ π.colo < p.ecol))

/-- `p` starts strictly after the point. -/
def startsAfter (π : Params) (p : Pos) : Prop := π.lno < p.lno ∨ (p.lno = π.lno ∧ π.colo < p.col)

/-- Shift of a single coordinate pair: lines move by `dln`, columns only on the line of the point. -/
def shiftL (π : Params) (l : Int) : Int := l + π.dln
def shiftC (π : Params) (l c : Int) : Int := if l = π.lno then c + π.dcol else c

/-- **The WARNING invariant**: on every geometrically ordered tree (`geo`, evaluated on each real tree by the
correspondence harness) the stack walk with its two `break`s and its `continue` equals the naive map. Any depth, any
number of children, any parameters. -/
theorem break_eq_full (π : Params) (t : Node) (h : geo t = true) : offsetTree π t = naiveNode π t :=
  goNode_eq_naive π t h

/-- Nodes before the spot do not move (any `tail`/`head`). -/
theorem before_fixed (π : Params) (p : Pos) (hw : p.wf = true) (hb : endsBefore π p = true) : offsetPos π p = p :=
  offsetPos_of_endsBefore π p hw hb

/-- Nodes after the spot move by exactly the size of the change (any `tail`/`head`). -/
theorem after_shift (π : Params) (p : Pos) (hw : p.wf = true) (ha : startsAfter π p) :
    offsetPos π p = ⟨shiftL π p.lno, shiftC π p.lno p.col, shiftL π p.elno, shiftC π p.elno p.ecol⟩ := by
  rw [Pos.wf_iff] at hw
  unfold startsAfter at ha
  have he : π.lno < p.elno ∨ (p.elno = π.lno ∧ π.colo < p.ecol) := by omega
  simp only [offsetPos_eq, endMoves_of_after π p he, startMoves_of_after π p ha, if_true, true_and]
  rfl

/-- The containing nodes grow or shrink by the change: start fixed, end shifted. -/
theorem container_grows (π : Params) (p : Pos) (hi : strictlyInside π p) :
    offsetPos π p = ⟨p.lno, p.col, shiftL π p.elno, shiftC π p.elno p.ecol⟩ := by
  simp only [offsetPos_eq, endMoves_of_after π p hi.2, startMoves_of_before π p hi.1, if_true, true_and,
    Bool.false_eq_true, if_false, false_and]
  rfl

/-- `_params_offset` computes byte deltas such that a byte column `b` at or after the end of the replaced span, on the
last replaced line, lands where the same character sits in the new line:
`new line = (lines[ln][:col] if single-line put else "") ++ put_lines[-1] ++ lines[end_ln][end_col:]`. -/
theorem params_bytes (nPut ln endLn ePre putLast sPre b : Int) :
    let r := paramsOffset nPut ln endLn ePre putLast sPre
    r.1 = endLn ∧ r.2.1 = -ePre ∧ r.2.2.1 = (nPut - 1) - (endLn - ln) ∧
    b + r.2.2.2 = (if nPut = 1 then sPre else 0) + putLast + (b - ePre) := by
  simp only [paramsOffset]
  refine ⟨by trivial, by trivial, by trivial, ?_⟩
  by_cases h : nPut = 1
  · subst h; simp; omega
  · have : (nPut - 1 == 0) = false := by simp; omega
    simp [this, h]; omega

private def P (dcol : Int) (tail head : Tri) : Params :=
  { lno := 1, colo := 4, dln := 0, dcol := dcol, tail := tail, head := head }
private def A : Pos := ⟨1, 0, 1, 4⟩   -- |===| ends at the point
private def B : Pos := ⟨1, 4, 1, 8⟩   -- |---| starts at the point
private def Z : Pos := ⟨1, 4, 1, 4⟩   -- zero-length at the point

/-- The diagrams of the `_offset` docstring (behaviour at exactly the offset point), transcribed; the two with
`tail=None`, `head=None` are not among them. -/
theorem offsetNode_table :
    -- +2 tail=False head=True
    (offsetPos (P 2 .f .t) A, offsetPos (P 2 .f .t) B, offsetPos (P 2 .f .t) Z) = (⟨1,0,1,4⟩, ⟨1,6,1,10⟩, ⟨1,4,1,4⟩) ∧
    -- -2 tail=False head=True
    (offsetPos (P (-2) .f .t) A, offsetPos (P (-2) .f .t) B, offsetPos (P (-2) .f .t) Z) = (⟨1,0,1,4⟩, ⟨1,2,1,6⟩, ⟨1,2,1,4⟩) ∧
    -- +2 tail=None head=True
    (offsetPos (P 2 .n .t) A, offsetPos (P 2 .n .t) B, offsetPos (P 2 .n .t) Z) = (⟨1,0,1,4⟩, ⟨1,6,1,10⟩, ⟨1,6,1,6⟩) ∧
    -- -2 tail=False head=None
    (offsetPos (P (-2) .f .n) A, offsetPos (P (-2) .f .n) B, offsetPos (P (-2) .f .n) Z) = (⟨1,0,1,4⟩, ⟨1,4,1,6⟩, ⟨1,4,1,4⟩) ∧
    -- +2 tail=True head=True
    (offsetPos (P 2 .t .t) A, offsetPos (P 2 .t .t) B, offsetPos (P 2 .t .t) Z) = (⟨1,0,1,6⟩, ⟨1,6,1,10⟩, ⟨1,6,1,6⟩) ∧
    -- -2 tail=True head=True
    (offsetPos (P (-2) .t .t) A, offsetPos (P (-2) .t .t) B, offsetPos (P (-2) .t .t) Z) = (⟨1,0,1,2⟩, ⟨1,2,1,6⟩, ⟨1,2,1,2⟩) ∧
    -- +2 tail=None head=False
    (offsetPos (P 2 .n .f) A, offsetPos (P 2 .n .f) B, offsetPos (P 2 .n .f) Z) = (⟨1,0,1,4⟩, ⟨1,4,1,10⟩, ⟨1,4,1,4⟩) ∧
    -- -2 tail=True head=None
    (offsetPos (P (-2) .t .n) A, offsetPos (P (-2) .t .n) B, offsetPos (P (-2) .t .n) Z) = (⟨1,0,1,2⟩, ⟨1,4,1,6⟩, ⟨1,2,1,2⟩) ∧
    -- +2 tail=False head=False
    (offsetPos (P 2 .f .f) A, offsetPos (P 2 .f .f) B, offsetPos (P 2 .f .f) Z) = (⟨1,0,1,4⟩, ⟨1,4,1,10⟩, ⟨1,4,1,4⟩) ∧
    -- -2 tail=False head=False
    (offsetPos (P (-2) .f .f) A, offsetPos (P (-2) .f .f) B, offsetPos (P (-2) .f .f) Z) = (⟨1,0,1,4⟩, ⟨1,4,1,6⟩, ⟨1,4,1,4⟩) ∧
    -- +2 tail=True head=False
    (offsetPos (P 2 .t .f) A, offsetPos (P 2 .t .f) B, offsetPos (P 2 .t .f) Z) = (⟨1,0,1,6⟩, ⟨1,4,1,10⟩, ⟨1,4,1,6⟩) ∧
    -- -2 tail=True head=False
    (offsetPos (P (-2) .t .f) A, offsetPos (P (-2) .t .f) B, offsetPos (P (-2) .t .f) Z) = (⟨1,0,1,2⟩, ⟨1,4,1,6⟩, ⟨1,4,1,4⟩) := by
  decide +kernel

/-! ### non-vacuity: the hypotheses are met by concrete, non-trivial data -/

private def sampleTree : Node :=
  .mk 0 none none [ .mk 1 (some ⟨1,0,1,9⟩) none [ .mk 2 (some ⟨1,0,1,1⟩) none [], .mk 3 (some ⟨1,4,1,9⟩) none
    [ .mk 4 (some ⟨1,4,1,5⟩) none [], .mk 5 (some ⟨1,8,1,9⟩) none [] ] ],
    .mk 6 (some ⟨3,0,4,7⟩) (some 2) [ .mk 7 (some ⟨2,1,2,5⟩) none [], .mk 8 (some ⟨4,2,4,7⟩) none [] ] ]

private def π0 : Params := { lno := 1, colo := 6, dln := 0, dcol := 3, tail := .f, head := .t }

example : geo sampleTree = true := by decide +kernel
example : flatten (offsetTree π0 sampleTree) ≠ flatten sampleTree := by decide +kernel
example : (⟨1,4,1,9⟩ : Pos).wf = true ∧ strictlyInside π0 ⟨1,4,1,9⟩ := by unfold strictlyInside; decide +kernel
example : startsAfter π0 ⟨1,8,1,9⟩ := by unfold startsAfter; decide +kernel
example : endsBefore π0 ⟨1,4,1,5⟩ = true := by decide +kernel

end Pfst.C11
