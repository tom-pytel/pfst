import Pfst.ScopeLemmas

/-!
# C16 — scope analysis agrees with Python's own symbol table

Statements are about the executable model in `Pfst/Scope.lean` (`walkRoot` = `FST.walk(scope=True, self_=False)`,
`symbols` = `FST.scope_symbols(full=True)`), against the declarative spec there (`owned`, `ownedWalk`, `scopeOf`,
`classify`).  The model is tied to /repo on every run by the correspondence in `harness/props/C16.py`; the spec is tied
to CPython's `symtable` and to a reference implementation written from the language reference by the sweep there.

The property at full strength would read

    ∀ r, walkRoot false r = owned r        and        ∀ r, symbols r = classify r

The first is FALSE of the code (`scopeWalk_false_lambdaWalrus`, finding C16-F3); what holds is proved under the computable
side condition `goodRoot`, which the driver evaluates on every real tree.  The two former counterexamples for the second
(capture binders, C16-F1; non-Name first iterable of a nested comprehension, C16-F2) were repaired in the code; the trees
that witnessed them are kept below as positive examples.
-/
namespace Pfst.C16
open Pfst.Scope

/-- **Scope walk = spec.**  With `all=True`, on every scope `r` whose tree passes the side-by-side check `goodRoot`
(argument/generator/header children sit in the fields the grammar gives them, and no walrus target is reached by
`walk_Comp`'s unscoped walk below a lambda body), the model's scope walk yields, in this order, exactly the nodes the spec
assigns to the scope of `r`: not the decorators, defaults, annotations, returns, bases, keywords, type-parameter bounds of
`r` itself nor the first iterable of `r` if it is a comprehension; the scope-defining nodes of directly nested scopes and
those same header parts of them, but nothing else of them; walrus targets from nested comprehensions, at any depth.
If `r` is itself a comprehension the walk additionally yields its walrus targets (`ownedWalk`; documented quirk of
`walk`).  Partial: the unconditional statement is false, see `scopeWalk_false_lambdaWalrus`. -/
theorem scopeWalk_eq_spec_partial (r : Node) (hg : goodRoot r = true) : walkRoot false r = ownedWalk r := by
  rw [(walkRoot_eq false r hg).1]
  exact List.filter_eq_self.mpr (fun _ _ => rfl)

/-- For every scope that is not a comprehension the documented walk set is exactly the scope (`ownedWalk = owned`). -/
theorem ownedWalk_eq_owned (r : Node) (hc : isComp r = false) : ownedWalk r = owned r := by
  obtain ⟨i, k, ro, ns, kids⟩ := r
  cases k <;> first | rfl | (simp [isComp, Node.kind, Kind.kc] at hc)

/-- The same through any `all` filter, in particular the one `scope_symbols` walks with
(`all=_ASTS_LEAF_SCOPE_SYMBOLS`): under the same side condition the walk yields exactly the nodes of the scope that pass
the filter, whether or not the first iterable of a nested comprehension (or anything above the names in it) passes. -/
theorem scopeWalk_filtered (r : Node) (hg : goodRoot r = true) :
    walkRoot true r = (ownedWalk r).filter (fun n => n.kind.isSym) := by
  have h := (walkRoot_eq true r hg).1
  simpa using h

/-- **Direction independence.**  For every tree, scope and `all` filter the backward scope walk (`back=True`) yields the
same nodes as the forward one (as a permutation: parents before children, siblings reversed).  In the model this holds by
construction - one table `mStep` decides for both directions which children of a nested def / class / lambda /
comprehension are pushed - so it is a statement about the code exactly as far as the correspondence ties BOTH directions
of `stack_funcdef`, `stack_ClassDef`, `stack_Lambda`, `stack_arguments`, `stack_comprehension`, `create` and `walk_Comp` to
that one table (it does, on every run). -/
theorem scopeWalk_back_perm (flt : Bool) (r : Node) : (walkRootB flt r).Perm (walkRoot flt r) :=
  travLB_perm (mStep flt) r.kids (mInit r.kind)

/-- and under `goodRoot` the backward walk yields the nodes of the spec's scope, in some order (the order, the backward
traversal of the spec table, is the second part of `walkRoot_eq`) -/
theorem scopeWalk_back_eq_spec (r : Node) (hg : goodRoot r = true) :
    (walkRootB false r).Perm (ownedWalk r) :=
  (scopeWalk_back_perm false r).trans (by rw [scopeWalk_eq_spec_partial r hg])

/-- **Explicit node lists.**  `r.walk(scope=True, asts=<children of r>)` excludes nothing of `r` itself (decorators, defaults,
annotations, type-parameter bounds, the first iterable are walked) and still does not enter nested scopes: it yields
exactly the nodes below `r` that belong to the scope of `r` or to the scope `r` is defined in. -/
theorem scopeWalk_asts (r : Node) (hg : goodAsts r = true) : walkAsts false r = ownedAsts r := by
  rw [walkAsts_eq false r hg]
  exact List.filter_eq_self.mpr (fun _ _ => rfl)

/-- **Replacement during the walk.**  If the consumer replaces nodes it is handed (`old i k` = the class node `i` had when
it was popped), the walk of the final tree in which the rule for a node's children is the rule of the class the node has
WHEN ITS CHILDREN ARE PUSHED (after the yield) is exactly the scope walk of the final tree: with `all=True` the decision to
yield a node does not depend on its class, everything else is read after the yield. -/
theorem scopeWalk_replace (old : Nat → Kind → Kind) (r : Node) : walkRootO old false r = walkRoot false r :=
  travLO_eq old (mStep false) (fun s k k' ro => mStep_emit s k k' ro) r.kids (mInit r.kind)

/-- **Every node belongs to exactly one scope**: the global labelling `scopeOf` lists every node below the root exactly
once, in preorder, each with one scope id.  (That the per-scope view `owned r` used by the other theorems is the fibre
`{n | scopeOf n = r.id}` needs unique node ids; it is evaluated by the driver on every tree of every run and compared
in the correspondence, not proved.) -/
theorem scopes_partition (t : Node) : (scopeOf t).map (·.1) = (preorderL t.kids).map Node.id := by
  unfold scopeOf
  exact labelsL_fst (rootSS t) t.kids

/-- **scope_symbols = classification**, for scopes that are not comprehensions and whose tree passes `goodRoot`: the
seven classes the model of `scope_symbols(full=True)` computes are the spec's: load / store / del / global / nonlocal from
the binding forms of the nodes of the scope (including `except … as`, capture patterns, imports, parameters, type
parameters, def/class names, augmented assignment), local = store − declared, free = load − store − del − declared.
Partial: comprehension roots (where pfst documents walrus targets as store + free) are covered by the correspondence and the
sweep only; `goodRoot` fails in the situation of `scopeWalk_false_lambdaWalrus`. -/
theorem symbols_partial (r : Node) (hc : isComp r = false) (hg : goodRoot r = true) : symbols r = classify r := by
  have hw := scopeWalk_filtered r hg
  rw [ownedWalk_eq_owned r hc] at hw
  have hs := symStep_fields
  have hwal : (List.foldl (symStep false) {} ((owned r).filter fun n => n.kind.isSym)).walrus = [] :=
    fold_sym_walrus (owned r) {}
  unfold symbols classify
  simp only [hw, hc, finish, keysOf, hwal, Bool.false_eq_true, if_false, List.append_nil,
    fold_sym Acc.load reads (fun a n => (hs a n).1), fold_sym Acc.store binds (fun a n => (hs a n).2.1),
    fold_sym Acc.del dels (fun a n => (hs a n).2.2.1), fold_sym Acc.glob globs (fun a n => (hs a n).2.2.2.1),
    fold_sym Acc.nonl nonls (fun a n => (hs a n).2.2.2.2.1)]

/-! ### the former counterexamples, now instances of the theorems -/

private def nm (i : Nat) (k : Kind) (x : Nat) (r : Role := .plain) : Node := .mk i k r [x] []
private def oth (i : Nat) (kids : List Node) (r : Role := .plain) : Node := .mk i .other r [] kids

/-- `try: pass` / `except E as e: pass` (names: E = 0, e = 1) -/
def tCapture : Node :=
  .mk 0 .module .plain [] [oth 1 [oth 2 [], .mk 3 .handler .plain [1] [nm 4 .nameLoad 0, oth 5 []]]]

/-- (was C16-F1) `except E as e`: `e` is a store and a local of the scope, not a free name -/
example : goodRoot tCapture = true ∧ symbols tCapture = classify tCapture ∧ (symbols tCapture).store = [1] ∧
    (symbols tCapture).loc = [1] ∧ (symbols tCapture).free = [0] := by decide +kernel

/-- `match x:` / `case [a, *b]: …` / `case {1: c, **d}: …` / `case C(k=y) as z: …`  (x=0 a=1 b=2 c=3 d=4 C=5 y=6 z=7) -/
def tMatch : Node :=
  .mk 0 .module .plain [] [oth 1 [nm 2 .nameLoad 0,
    oth 3 [oth 4 [.mk 5 .matchAs .plain [1] [], .mk 6 .matchStar .plain [2] []]],
    oth 7 [.mk 8 .matchMap .plain [4] [oth 9 [], .mk 10 .matchAs .plain [3] []]],
    oth 11 [.mk 12 .matchAs .plain [7] [oth 13 [nm 14 .nameLoad 5, .mk 15 .matchAs .plain [6] []]]]]]

example : goodRoot tMatch = true ∧ symbols tMatch = classify tMatch ∧ (symbols tMatch).store = [1, 2, 4, 3, 7, 6] := by
  decide +kernel

/-- `def f(n): xs = [i for i in range(n)]`  (f=0 n=1 xs=2 i=3 range=4) -/
def tFirstIter : Node :=
  .mk 0 .module .plain [] [
    .mk 1 .funcdef .plain [0] [
      .mk 2 .arguments .args [] [.mk 3 .arg .argr [1] []],
      .mk 4 .other .body [] [nm 5 .nameStore 2,
        .mk 6 .comp .plain [] [nm 7 .nameLoad 3 .elt,
          .mk 8 .gen .gen0 [] [nm 9 .nameStore 3 .target,
            .mk 10 .other .iter [] [nm 11 .nameLoad 4, nm 12 .nameLoad 1]]]]]]

def tFirstIter_f : Node := match tFirstIter with | .mk _ _ _ _ (f :: _) => f | n => n

/-- (was C16-F2) `range` and `n` are read in the scope of `f` although the call node `range(n)` does not pass the filter -/
example : goodRoot tFirstIter_f = true ∧ symbols tFirstIter_f = classify tFirstIter_f ∧
    (symbols tFirstIter_f).load = [4, 1] ∧ (symbols tFirstIter_f).free = [4] ∧
    (walkRoot true tFirstIter_f).map Node.id = [3, 5, 11, 12] := by decide +kernel

/-- `def f(): return [(lambda: (y := 1)) for _ in z]`  (f=0 y=1 _=2 z=3) -/
def tLamWalrus : Node :=
  .mk 0 .module .plain [] [
    .mk 1 .funcdef .plain [0] [
      .mk 2 .arguments .args [] [],
      .mk 3 .other .body [] [
        .mk 4 .comp .plain [] [
          .mk 5 .lambda .elt [] [.mk 6 .arguments .args [] [],
            .mk 7 .namedexpr .body [] [nm 8 .nameStore 1 .wtarget, oth 9 []]],
          .mk 10 .gen .gen0 [] [nm 11 .nameStore 2 .target, nm 12 .nameLoad 3 .iter]]]]]

def tLamWalrus_f : Node := match tLamWalrus with | .mk _ _ _ _ (f :: _) => f | n => n

/-- **C16-F3.** A walrus inside a lambda that sits inside a comprehension binds in the *lambda*; `walk_Comp` walks
the comprehension without regard to scopes and hands the target to the enclosing function: the model's walk of `f` contains
node 8 (`y`), the spec's scope of `f` does not, and `scope_symbols` reports `y` as a local of `f`. -/
theorem scopeWalk_false_lambdaWalrus :
    8 ∈ (walkRoot false tLamWalrus_f).map Node.id ∧ 8 ∉ (owned tLamWalrus_f).map Node.id ∧
    1 ∈ (symbols tLamWalrus_f).loc ∧ 1 ∉ (classify tLamWalrus_f).loc ∧ goodRoot tLamWalrus_f = false := by decide +kernel

/-! ### non-vacuity: a tree with every header part, nested scopes, a walrus in nested comprehensions -/

/-- ```
@d
def f(a: A = da, *, k=kd) -> R:
    global g
    class C(B, m=M): x = a
    h = lambda p=a: p
    return [[(w := j) for j in i] for i in a]
``` names: d0 f1 a2 A3 da4 k5 kd6 R7 g8 C9 B10 M11 x12 h13 p14 w15 j16 i17 -/
def tBig : Node :=
  .mk 0 .module .plain [] [
    .mk 1 .funcdef .plain [1] [
      nm 2 .nameLoad 0 .deco,
      .mk 3 .arguments .args [] [.mk 4 .arg .argr [2] [nm 5 .nameLoad 3 .ann], nm 6 .nameLoad 4 .dflt,
                                 .mk 7 .arg .argr [5] [], nm 8 .nameLoad 6 .dflt],
      nm 9 .nameLoad 7 .returns,
      .mk 10 .global .body [8] [],
      .mk 11 .classdef .body [9] [nm 12 .nameLoad 10 .base, .mk 13 .other .kw [] [nm 14 .nameLoad 11],
        .mk 15 .other .body [] [nm 16 .nameStore 12, nm 17 .nameLoad 2]],
      .mk 18 .other .body [] [nm 19 .nameStore 13,
        .mk 20 .lambda .plain [] [.mk 21 .arguments .args [] [.mk 22 .arg .argr [14] [], nm 23 .nameLoad 2 .dflt],
                                  nm 24 .nameLoad 14 .body]],
      .mk 25 .other .body [] [
        .mk 26 .comp .plain [] [
          .mk 27 .comp .elt [] [
            .mk 28 .namedexpr .elt [] [nm 29 .nameStore 15 .wtarget, nm 30 .nameLoad 16],
            .mk 31 .gen .gen0 [] [nm 32 .nameStore 16 .target, nm 33 .nameLoad 17 .iter]],
          .mk 34 .gen .gen0 [] [nm 35 .nameStore 17 .target, nm 36 .nameLoad 2 .iter]]]]]

def tBig_f : Node := match tBig with | .mk _ _ _ _ (f :: _) => f | n => n

example : goodRoot tBig = true := by decide +kernel
example : goodRoot tBig_f = true ∧ isComp tBig_f = false := by decide +kernel
/-- what the theorems then say for `f`: defaults/annotation/decorator/returns are not in the scope, the class's base and
keyword value, the lambda's default, the outer comprehension's first iterable and the walrus target two comprehensions
down are -/
example : (walkRoot false tBig_f).map Node.id = [3, 4, 7, 10, 11, 12, 13, 14, 18, 19, 20, 23, 25, 26, 29, 36] := by decide +kernel
example : (walkRootB false tBig_f).map Node.id = [25, 26, 36, 29, 18, 20, 23, 19, 11, 13, 14, 12, 10, 3, 7, 4] := by decide +kernel
example : goodAsts tBig_f = true ∧ (walkAsts false tBig_f).map Node.id =
    [2, 3, 4, 5, 6, 7, 8, 9, 10, 11, 12, 13, 14, 18, 19, 20, 23, 25, 26, 29, 36] := by decide +kernel
/-- replacement: node 19 (`h`) was a comprehension when popped, node 26 a plain call: same walk -/
example : (walkRootO (fun i k => if i = 26 then .other else if i = 19 then .comp else k) false tBig_f).map Node.id =
    (walkRoot false tBig_f).map Node.id := by decide +kernel
example : symbols tBig_f =
    { load := [10, 11, 2], store := [2, 5, 9, 13, 15], del := [], glob := [8], nonl := [], loc := [2, 5, 9, 13, 15],
      free := [10, 11] } := by decide +kernel
/-- the module scope of the same tree: decorator, annotation, defaults, returns -/
example : (walkRoot false tBig).map Node.id = [1, 2, 5, 6, 8, 9] := by decide +kernel
/-- the partition on the same tree: 36 nodes below the root, each listed once -/
example : (scopeOf tBig).length = 36 ∧ (scopeOf tBig).lookup 29 = some 1 ∧ (scopeOf tBig).lookup 36 = some 1 ∧
    (scopeOf tBig).lookup 33 = some 26 ∧ (scopeOf tBig).lookup 30 = some 27 ∧ (scopeOf tBig).lookup 6 = some 0 := by decide +kernel

/-! ### type parameters that are not the walk root's own (`type A[T: B] = v` in a def body) -/

/-- `def f[G: GB](): type A[T: B] = v`  (names: f0 G1 GB2 A3 T4 B5 v6) -/
def tAlias : Node :=
  .mk 0 .module .plain [] [
    .mk 1 .funcdef .plain [0] [
      .mk 2 .tparam .tparam [1] [nm 3 .nameLoad 2 .bound],
      .mk 4 .arguments .args [] [],
      .mk 5 .other .body [] [nm 6 .nameStore 3, .mk 7 .tparam .tparam [4] [nm 8 .nameLoad 5 .bound], nm 9 .nameLoad 6]]]

def tAlias_f : Node := match tAlias with | .mk _ _ _ _ (f :: _) => f | n => n

/-- the bound `GB` of the def's own type parameter is outside its scope, the bound `B` of the alias' type parameter - an
ordinary statement of the body - is inside: `stack_type_param` must not stop at a type parameter whose parent is not the
walk root -/
example : goodRoot tAlias_f = true ∧ (walkRoot false tAlias_f).map Node.id = [2, 4, 5, 6, 7, 8, 9] ∧
    (walkRootB false tAlias_f).map Node.id = [5, 9, 7, 8, 6, 4, 2] ∧
    (symbols tAlias_f).load = [5, 6] ∧ (symbols tAlias_f).store = [1, 3, 4] ∧
    (walkRoot false tAlias).map Node.id = [1, 3] := by decide +kernel

end Pfst.C16
