import Pfst.ParseWrapLemmas
import Pfst.Gen.Modes
import Pfst.SeqFix
import Pfst.TrailSepLemmas

/-!
# C05 — parsing is lossless and agrees with Python's parser in every parse mode

CPython's parser is an external parameter (trusted; it is the judge in the sweep of `harness/props/C05.py`).  The
theorems below are about everything `fst.parsex` adds around it (model: `Pfst/ParseWrap.lean`):

* `wrap_positions`, `embed_text`, `rebase_embed`, `rebase_embed_at`, `match_cases_undo_indent` — the positions algebra of
  a fragment embedded in a wrapper and moved back;
* `astloc_whole` — `_astloc_from_src` is the span of the whole source, in bytes;
* `no_escape`, `verify_sound`, `escape_detected` — the counting loop of `_verify_no_close_delimiters` (`scanDepth`) run
  over one string says where the wrapper's opening delimiter is matched (`matchClose`).  Which text the loop is run on
  (`verifyNoClose`) is covered by `verify_comments_irrelevant` and the examples only: no theorem ties the verdict of
  `verifyNoClose` to `matchClose` on the wrapper text;
* `arg_single`, `importfrom_no_own_parens` — the acceptance tests of `parse_arg` and of the ImportFrom name parsers;
* `b2c_c2b_boundary`, `fixSeq_trailing`, `fixSeq_no_trailing` — the end that `_fix_undelimited_seq_parsed_delimited` stores
  is a byte offset (model: `Pfst/SeqFix.lean`);
* `trailing_comma_spec`, `trailing_semicolon_spec`, `trailing_sep_same_language`, `trailing_sep_blanks` — the single-pass
  search for a trailing separator decides its pattern (model: `Pfst/TrailSep.lean`);
* `mode_total`, `modes_match_spec`, `class_modes_match_spec`, `wrappers_sound`, `wrappers_observed` — facts about the mode
  table and the wrapper families **regenerated from the working tree on every run** (`Pfst/Gen/Modes.lean`), checked by
  the kernel.
-/
namespace Pfst.C05
open Pfst.ParseWrap

/-- **A span inside the source lines of a wrapper denotes the same text as the span shifted up in the source.**
For every wrapper `pre ++ "\n" ++ src ++ "\n" ++ post` (any prefix, any suffix, any source — multi-line prefixes such as
`match _:\n case (` included) and every span lying inside the lines of `src`: the text CPython sees at the span moved down
by the number of prefix lines is exactly the text of the span in `src`; columns are untouched.  This is why
`_offset_linenos(ast, -k)` with `k` = number of lines of the prefix (`countNl pre + 1`) is the whole position fix-up of
the `parse_*` functions (`wrappers_sound` checks that each parser uses exactly that `k`). -/
theorem wrap_positions (pre src post : List Char) (s : Span)
    (h1 : 1 ≤ s.ln) (h2 : s.ln ≤ s.eln) (h3 : s.eln ≤ (splitLines src).length) :
    getSpan (splitLines (wrapText pre src post)) (s.shift (countNl pre + 1)) = getSpan (splitLines src) s := by
  rw [wrapText, splitLines_append_nl, splitLines_append_nl, ← splitLines_length pre]
  simp only [getSpan, Span.shift]
  have e1 : s.ln + (splitLines pre).length - 1 = (splitLines pre).length + (s.ln - 1) := by omega
  have e2 : s.eln + (splitLines pre).length + 1 - (s.ln + (splitLines pre).length) = s.eln + 1 - s.ln := by omega
  rw [e1, e2, List.drop_length_add_append, take_drop_append _ _ _ _ (by omega)]

/-- **First-line column shift is the prefix length in BYTES.**  A fragment line `l` that sits behind a prefix `p` on its
line (and before any suffix `q`): the text between byte columns `a..b` of `l` is the text between byte columns
`|p|+a .. |p|+b` of the host line, where `|p|` is the UTF-8 length of `p` (any characters, multi-byte included). -/
theorem embed_text (p l q : Line) (a b : Nat) (hb : b ≤ blen l) :
    sliceB (blen p + a) (blen p + b) (p ++ l ++ q) = sliceB a b l := by
  simp only [sliceB]
  have e : blen p + b - (blen p + a) = b - a := by omega
  rw [e, List.append_assoc, (takeB_dropB_prefix p _ a).2]
  by_cases ha : a ≤ blen l
  · rw [(takeB_dropB_append_le a l q ha).2, (takeB_dropB_append_le _ _ q _).1]
    have := blen_dropB a l
    omega
  · have : b - a = 0 := by omega
    rw [this, takeB_zero, takeB_zero]

/-- **rebase ∘ embed = id, for every tree.**  CPython reports a fragment that sits `k ≥ 0` lines down with every line
number `k` larger; `_offset_linenos(ast, -k)` (the code, including its "skip when `end_lineno` is falsy" test) gives back
exactly the fragment's own positions, for every tree whose line numbers are 1-based. -/
theorem rebase_embed (k : Int) (hk : 0 ≤ k) (t : PTree) (h : linesPos t = true) :
    offsetLinenos (-k) (mapTree (embedLines k) t) = t :=
  offset_embed_tree k hk t h

/-- The harness-side rebasing of a fragment cut out at `(line l0, byte column c0)` of a program ("lines minus start line,
first-line byte columns minus start column") inverts the embedding, for every tree and every origin. -/
theorem rebase_embed_at (l0 c0 : Int) (t : PTree) : mapTree (rebaseAt l0 c0) (mapTree (embedAt l0 c0) t) = t :=
  mapTree_comp_id _ _ (rebaseAt_embedAt l0 c0) t

/-- **`_astloc_from_src` is the span of the whole source, in bytes.**  Start `(lineno, 0)`, end on the last line
(`lineno +` number of newlines) at the UTF-8 length of the last line; and the text that span denotes (for `lineno = 1`)
is the whole source, whatever characters it contains. -/
theorem astloc_whole (src : List Char) (n : Int) :
    astlocFromSrc src n
      = ⟨n, 0, n + (((splitLines src).length - 1 : Nat) : Int),
         (blen ((splitLines src).getLast (splitLines_ne_nil src)) : Nat)⟩
    ∧ getSpan (splitLines src) ⟨1, 0, (splitLines src).length, (astlocFromSrc src 1).endCol.toNat⟩ = splitLines src := by
  have hl := splitLines_getLast? src
  have hlast : (splitLines src).getLast (splitLines_ne_nil src) = lastLine src :=
    (List.getLast_eq_iff_getLast?_eq_some _).mpr hl
  constructor
  · simp only [astlocFromSrc, hlast, splitLines_length]
    congr 1
  · simp only [getSpan, astlocFromSrc]
    have e : (splitLines src).length + 1 - 1 = (splitLines src).length := by omega
    simp only [Nat.sub_self, List.drop_zero, e, List.take_length, Int.toNat_natCast]
    rw [mapLast_id]
    · cases hs : splitLines src with
      | nil => rfl
      | cons l ls => simp [mapHead, dropB_zero]
    · intro l hl'
      rw [hl] at hl'
      cases hl'
      exact takeB_blen _

/-- **No escape.**  In `o ++ src ++ c` (e.g. `"(" ++ src ++ ")"`) the first delimiter is matched by the last one **iff**
the delimiter depth of `src` never goes negative and ends at zero — which is what the counting loop of
`_verify_no_close_delimiters` computes (`scanDepth … = some 0`). -/
theorem no_escape (o c : Char) (src : List Char) :
    matchClose o c (src ++ [c]) 0 = some src.length ↔ scanDepth o c src 0 = some 0 := by
  constructor
  · intro h
    cases hs : scanDepth o c src 0 with
    | none =>
      obtain ⟨i, hi, hm⟩ := matchClose_append_none o c src 0 hs
      rw [hm] at h
      simp at h; omega
    | some e =>
      rw [matchClose_append_some o c src [c] 0 e hs] at h
      cases e with
      | zero => rfl
      | succ e => simp [matchClose] at h
  · intro h
    rw [matchClose_append_some o c src [c] 0 0 h]
    simp [matchClose]

/-- **The counting loop is sound.**  If it passes over `src` (depth never negative), then whatever follows,
the wrapper's opening delimiter is not closed inside `src`: its match, if any, lies at or after the end of `src`. -/
theorem verify_sound (o c : Char) (src rest : List Char) (e i : Nat)
    (h : scanDepth o c src 0 = some e) (hm : matchClose o c (src ++ rest) 0 = some i) : src.length ≤ i := by
  rw [matchClose_append_some o c src rest 0 e h] at hm
  cases hr : matchClose o c rest e with
  | none => simp [hr] at hm
  | some j => simp [hr] at hm; omega

/-- **…and complete.**  If the counting loop raises on `src`, the wrapper's opening delimiter really is closed inside
`src` (at the same place whatever follows): the source escapes the wrapper. -/
theorem escape_detected (o c : Char) (src : List Char) (h : scanDepth o c src 0 = none) :
    ∃ i, i < src.length ∧ ∀ rest, matchClose o c (src ++ rest) 0 = some i :=
  matchClose_append_none o c src 0 h

/-- **Text inside comments never influences the verdict of `_verify_no_close_delimiters`.**  Two sources whose lines agree
after comment stripping (`l[:l.find('#')]`) and agree on the two lines the first element starts and ends on get the same
verdict, for any element position, scan end and delimiter pair: whatever stands after a `#` on the lines before the
element and on the lines between the element and the next one — commas, closing delimiters, quotes — is never scanned. -/
theorem verify_comments_irrelevant (lines lines' : List Line) (e0Ln : Int) (e0Col e0EndLn e0EndCol endLn : Nat) (o c : Char)
    (hmap : lines.map stripComment = lines'.map stripComment)
    (h0 : lines.getD e0Ln.toNat [] = lines'.getD e0Ln.toNat [])
    (h1 : lines.getD e0EndLn [] = lines'.getD e0EndLn []) :
    verifyNoClose lines e0Ln e0Col e0EndLn e0EndCol endLn o c = verifyNoClose lines' e0Ln e0Col e0EndLn e0EndCol endLn o c := by
  have hlen : lines.length = lines'.length := by simpa using congrArg List.length hmap
  have htake : (lines.take e0Ln.toNat).map stripComment = (lines'.take e0Ln.toNat).map stripComment := by
    rw [List.map_take, List.map_take, hmap]
  have hrest : restLines ((lines.drop (e0EndLn + 1)).take (endLn + 1 - (e0EndLn + 1)))
      = restLines ((lines'.drop (e0EndLn + 1)).take (endLn + 1 - (e0EndLn + 1))) := by
    apply restLines_congr
    rw [List.map_take, List.map_take, List.map_drop, List.map_drop, hmap]
  simp only [verifyNoClose, hlen, htake, h0, h1, hrest]

/-- a comment with a comma and a closing parenthesis between two elements changes nothing: `a\n# 2) second, optional\n, b` -/
example : verifyNoClose ["a".toList, "# 2) second, optional".toList, ", b".toList] 0 0 0 1 2 '(' ')' = true
    ∧ verifyNoClose ["a".toList, "# x, y".toList, "),(b".toList] 0 0 0 1 2 '(' ')' = false := by decide +kernel

/-- **`parse_arg` returns a node only for exactly one parameter without default**, on both of its paths: after the normal
wrapper the single parameter is a plain one, after the star wrapper (`name: *annotation`) it is the vararg; anything else in
any other slot of the `arguments` node (positional-only, keyword-only, `*args`, `**kwargs`, a default) is refused.
(`kw_defaults` has one entry per keyword-only parameter, so `kwDefaults = kwonly` in what CPython returns.) -/
theorem arg_single (s : ArgsShape) (hk : s.kwDefaults = s.kwonly) :
    (argNormalOk s = true ↔ nParams s = 1 ∧ s.args = 1 ∧ s.defaults = 0)
    ∧ (argStarOk s = true ↔ nParams s = 1 ∧ s.vararg = true ∧ s.defaults = 0) := by
  obtain ⟨po, ar, va, ko, kd, kw, de⟩ := s
  simp only at hk
  subst hk
  cases va <;> cases kw <;> simp [argNormalOk, argStarOk, nParams] <;> omega

example : argStarOk ⟨0, 0, true, 0, 0, true, 0⟩ = false ∧ argStarOk ⟨0, 0, true, 0, 0, false, 0⟩ = true
    ∧ argNormalOk ⟨0, 1, false, 0, 0, true, 0⟩ = false := by decide +kernel

/-- **The "no parentheses of their own" test of the ImportFrom name parsers is exact.**  The last alias lies inside the wrapper
statement, so its end is at or before the statement's end; the test passes iff nothing of the statement lies after the
alias (end positions equal as (line, column) pairs) — in particular a closing parenthesis on a LATER line, at whatever
column, fails it. -/
theorem importfrom_no_own_parens (a s : Loc) (hin : posLt s.endLineno s.endCol a.endLineno a.endCol = false) :
    endsWithStmt a s = true ↔ posLt a.endLineno a.endCol s.endLineno s.endCol = false := by
  obtain ⟨_, _, al, ac⟩ := a
  obtain ⟨_, _, sl, sc⟩ := s
  simp only [posLt, endsWithStmt, Bool.or_eq_false_iff, Bool.and_eq_false_iff, Bool.and_eq_true, decide_eq_false_iff_not,
    beq_iff_eq, beq_eq_false_iff_ne] at *
  constructor
  · rintro ⟨h1, h2⟩; subst h1; subst h2; simp
  · intro h; omega

/-- `(\nab\n )`: the alias `ab` ends at (3, 2), the statement `from . import \\⏎(⏎ab⏎ )` at (4, 2): same column, later line — refused;
comparing columns alone would accept it -/
example : importFromNameOk 1 ⟨3, 0, 3, 2⟩ ⟨1, 0, 4, 2⟩ = false ∧ importFromNameOk 1 ⟨2, 0, 2, 6⟩ ⟨1, 0, 2, 6⟩ = true := by decide +kernel

/-- **Undoing the wrapper indentation of `parse__match_cases` is exact, for every tree**: whichever lines are indented
(multi-line strings leave some lines as they are), start and end of every node come back to the fragment's own positions —
also for a node that starts on an un-indented line and ends on an indented one, or the other way round. -/
theorem match_cases_undo_indent (k : Int) (ind : List Int) (t : PTree) :
    mapTree (undoIndent k ind) (mapTree (indentEmbed k ind) t) = t :=
  mapTree_comp_id _ _ (undoIndent_indentEmbed k ind) t

/-- a node starting on a string's tail line (3, not indented) and ending on an ordinary line (4, indented) -/
example : undoIndent 2 [1, 2, 4] (indentEmbed 2 [1, 2, 4] ⟨3, 7, 4, 9⟩) = ⟨3, 7, 4, 9⟩
    ∧ indentEmbed 2 [1, 2, 4] ⟨3, 7, 4, 9⟩ = ⟨5, 7, 6, 10⟩ := by decide +kernel

/-! ## location repair of an undelimited sequence (`_fix_undelimited_seq_parsed_delimited`, model `Pfst/SeqFix.lean`) -/

section SeqFix
open Pfst.SeqFix
open Pfst.Scan (byteLen c2bRaw prevFrag nextFrag Frag LCont hugeCol lineAt)

theorem blen_eq_byteLen (l : Line) : blen l = byteLen l := by
  induction l with
  | nil => rfl
  | cons c cs ih => simp [blen, byteLen, ih]

/-- **Byte → character → byte is the identity on character boundaries** (any characters): the two conversions
`_fix_undelimited_seq_parsed_delimited` performs cancel on the offsets CPython reports. -/
theorem b2c_c2b_boundary (l : Line) (k : Nat) :
    b2cTake l (c2bRaw l k) = min k l.length ∧ c2bRaw l (b2cTake l (c2bRaw l k)) = c2bRaw l k := by
  have h : takeB (c2bRaw l k) l = l.take k := by
    have := (takeB_dropB_prefix (l.take k) (l.drop k) 0).1
    rw [List.take_append_drop, Nat.add_zero, takeB_zero, List.append_nil, blen_eq_byteLen] at this
    exact this
  constructor
  · simp [b2cTake, h]
  · simp only [b2cTake, h, List.length_take]
    simp only [c2bRaw]
    congr 1
    rw [List.take_eq_take_iff]
    omega

theorem fixSeq_end {lines : List Line} {e0 en : Loc} {e1 : Option Int} {ae ln : Int} {o c : Char} {loc : Loc}
    (h : fixSeq lines e0 en e1 ae ln o c = some loc) :
    ∃ eLn eCol,
      endPos lines (en.endLineno - ln).toNat (b2cTake (lineAt lines (en.endLineno - ln).toNat) en.endCol.toNat)
        = some (eLn, eCol)
      ∧ loc.endLineno = (eLn : Int) + ln ∧ loc.endCol = c2bRaw (lineAt lines eLn) eCol := by
  unfold fixSeq at h
  split at h
  · simp only [] at h
    split at h
    · rename_i sLn sCol eLn eCol hs he
      cases h
      exact ⟨eLn, eCol, he, rfl, rfl⟩
    · cases h
  · cases h

/-- **The repaired end is a BYTE offset.**  Whenever the repair succeeds and a trailing comma / closing parenthesis
fragment `f` follows the last element, the stored end is the line of that fragment and the UTF-8 byte offset
(`c2bRaw`) of the character position just after it — not the character column. -/
theorem fixSeq_trailing (lines : List Line) (e0 en : Loc) (e1 : Option Int) (ae ln : Int) (o c : Char) (loc : Loc) (f : Frag)
    (h : fixSeq lines e0 en e1 ae ln o c = some loc)
    (hf : prevFrag lines (en.endLineno - ln).toNat (b2cTake (lineAt lines (en.endLineno - ln).toNat) en.endCol.toNat)
            (lines.length - 1) hugeCol false LCont.f = some f) :
    loc.endLineno = (f.ln : Int) + ln ∧ loc.endCol = c2bRaw (lineAt lines f.ln) (f.col + f.src.length) := by
  obtain ⟨eLn, eCol, he, h1, h2⟩ := fixSeq_end h
  simp only [endPos, hf] at he
  split at he
  · cases he; exact ⟨h1, h2⟩
  · cases he

/-- without a trailing fragment the end stays the last element's end (byte offset → character column → byte offset) -/
theorem fixSeq_no_trailing (lines : List Line) (e0 en : Loc) (e1 : Option Int) (ae ln : Int) (o c : Char) (loc : Loc)
    (h : fixSeq lines e0 en e1 ae ln o c = some loc)
    (hf : prevFrag lines (en.endLineno - ln).toNat (b2cTake (lineAt lines (en.endLineno - ln).toNat) en.endCol.toNat)
            (lines.length - 1) hugeCol false LCont.f = none) :
    loc.endLineno = ((en.endLineno - ln).toNat : Int) + ln
    ∧ loc.endCol = c2bRaw (lineAt lines (en.endLineno - ln).toNat)
                     (b2cTake (lineAt lines (en.endLineno - ln).toNat) en.endCol.toNat) := by
  obtain ⟨eLn, eCol, he, h1, h2⟩ := fixSeq_end h
  simp only [endPos, hf] at he
  cases he; exact ⟨h1, h2⟩

/-- `a,\n"é",` parsed as `(\na,\n"é",\n)`: elements at lines 2 and 3, the tuple ends after the comma at BYTE 5 (character 4) -/
example : fixSeq ["a,".toList, "\"é\",".toList] ⟨2, 0, 2, 1⟩ ⟨3, 0, 3, 4⟩ (some 3) 4 2 '(' ')' = some ⟨2, 0, 3, 5⟩ := by decide +kernel

/-- `a),(b` is refused -/
example : fixSeq ["a),(b".toList] ⟨2, 0, 2, 1⟩ ⟨2, 4, 2, 5⟩ (some 2) 3 2 '(' ')' = none := by decide +kernel

end SeqFix

/-! ## trailing separator search (`_has_trailing_comma` / `_has_trailing_semicolon`, model `Pfst/TrailSep.lean`) -/

section TrailSep
open Pfst.TrailSep

/-- **The trailing-separator search is a single deterministic pass and decides exactly the pattern.**  For a separator that
is not itself skippable (`,` and `;` are not): the scan — structural recursion, one step per character, no backtracking —
answers `true` iff the text starts with any sequence of `)` / blanks / line continuations / whole comment lines followed by
the separator (the language of `(?: [)\s] | \\\n | \#[^\n]*\n )* sep`). -/
theorem trailing_sep_spec (sep : Char) (hs : isSkip sep = false) (h1 : sep ≠ '\\') (h2 : sep ≠ '#') (s : List Char) :
    scanSep sep s = true ↔ Matches sep s := by
  constructor
  · exact (matches_of_scan sep s).1
  · rintro ⟨pre, rest, hp, rfl⟩
    exact scan_of_matches sep hs h1 h2 pre rest hp

theorem trailing_comma_spec (s : List Char) : scanSep ',' s = true ↔ Matches ',' s :=
  trailing_sep_spec ',' (by decide) (by decide) (by decide) s

theorem trailing_semicolon_spec (s : List Char) : scanSep ';' s = true ↔ Matches ';' s :=
  trailing_sep_spec ';' (by decide) (by decide) (by decide) s

/-- **The repair changed no answer**: the pattern before the repair (`(?: [)\s]* (?: (?: \\ | \#[^\n]* ) \n )? )*`, a star
over a starred class — exponential backtracking, finding C05-F7) and the repaired one match exactly the same strings. -/
theorem trailing_sep_same_language (s : List Char) : TriviaOld s ↔ Trivia s := triviaOld_iff s

/-- any number of blanks with no separator after them: answered `false` (by the single pass — this is the input on which
the old pattern needed time exponential in `n`) -/
theorem trailing_sep_blanks (sep : Char) (hs : sep ≠ ' ') (n : Nat) : scanSep sep (List.replicate n ' ') = false := by
  induction n with
  | zero => rfl
  | succ n ih =>
    have h1 : ¬ (' ' = sep) := fun e => hs e.symm
    have h2 : isSkip ' ' = true := by decide
    simpa [scanSep, List.replicate_succ, scan, h1, h2] using ih

example : scanSep ',' "  ) # c, \n \\\n ,x".toList = true ∧ scanSep ',' "  ) # c, \n x,".toList = false
    ∧ scanSep ';' "  # c ;".toList = false := by decide +kernel
/-- `_has_trailing_comma('é, b\n"ü" # c\n ,', 2, 4)`: line 2, BYTE column 4 is after `"ü"` (3 characters) -/
example : hasTrailingSep ',' "é, b\n\"ü\" # c\n ,".toList 2 4 = true ∧ hasTrailingSep ',' "é, b\n\"ü\" # c\n ,".toList 2 3 = false := by
  decide +kernel

end TrailSep

/-! ## the regenerated mode table and wrapper families (`Pfst/Gen/Modes.lean`) -/

open Pfst.Gen.Modes

/-- the parser the `Mode` documentation assigns to each string mode: `parse_<mode>`, except the three `ast.parse` modes -/
def specParser (m : String) : String :=
  if m == "exec" then "parse_Module" else if m == "eval" then "parse_Expression"
  else if m == "single" then "parse_Interactive" else "parse_" ++ m

/-- the parser the `Mode` documentation / `_PARSE_MODE_FUNCS` comments assign to a node class used as mode, by category -/
def specClassParser (cls cat : String) : Option String :=
  if cls == "FunctionType" || cls == "FormattedValue" || cls == "Interpolation" || cls == "TypeIgnore" then some ""
  else if cat == "_ASTDummy" then none                      -- class does not exist in this Python version
  else if cat == "stmt" then some "parse_stmt"
  else if cat == "expr" then
    (if cls == "Starred" then some "parse_expr_arglike" else if cls == "Slice" then some "parse_expr_slice"
     else if cls == "Tuple" || cls == "List" || cls == "Set" then some ("parse_" ++ cls) else some "parse_expr")
  else if cat == "mod" then some ("parse_" ++ cls)
  else if cat == "expr_context" then some "const"
  else if cat == "excepthandler" then some "parse_ExceptHandler"
  else if cat == "boolop" || cat == "operator" || cat == "unaryop" || cat == "cmpop" || cat == "pattern" || cat == "type_param"
    then some ("parse_" ++ cat)
  else some ("parse_" ++ cls)                                -- own category (arg, keyword, …) and SPECIAL SLICE containers

def modeNames : List String := modes.map (·.1)

/-- every mode literal occurs once, has a parser and at least one result kind, probes never raised anything but
`SyntaxError`/`ParseError`; modes that name a node type return only that type; every leaf node class resolves to a parser
(the same one for the class and for its name) or is explicitly prohibited. -/
def modeTotal : Bool :=
  decide modeNames.Nodup
  && modes.all (fun m => m.2.1 != "" && !m.2.2.2.isEmpty && m.2.2.2.all (fun k => !k.startsWith "!")
                 && (m.2.2.1 == "" || (m.2.2.1 == m.1 && m.2.2.2 == [m.1])))
  && classes.all (fun c => c.2.2.2.1 == c.2.2.2.2
                   && (c.2.2.2.1.isSome || c.2.1 == "_ASTDummy"))

/-- **Mode table is total and functional** (kernel-checked on the table regenerated from the working tree). -/
theorem mode_total : modeTotal = true := by decide +kernel

/-- **Every string mode is served by the parser the documentation names.** -/
theorem modes_match_spec : (modes.all fun m => m.2.1 == specParser m.1) = true := by decide +kernel

/-- **Every node class used as a mode is served by the parser of its category** (with the documented exceptions
`Starred`, `Slice`, `Tuple`, `List`, `Set` and the four prohibited classes). -/
theorem class_modes_match_spec :
    (classes.all fun c => c.2.2.2.1 == specClassParser c.1 c.2.1 || (c.2.1 == "_ASTDummy" && c.2.2.2.1 == some "")) = true := by
  decide +kernel

def endsNl (s : String) : Bool := s.toList.getLast? == some '\n'
def nlCount (s : String) : Nat := countNl s.toList

/-- shape the positions algebra needs of a wrapper: the source starts on a line of its own (prefix empty or ending in a
newline — so first-line columns are not shifted), and the lines subtracted afterwards are exactly the prefix lines.
`parse__match_cases` (used by `parse_match_case`) indents every source line by one blank and undoes that itself. -/
def wrapOk (w : String × String × String × Option Int) : Bool :=
  (if w.1 == "parse__match_cases" || w.1 == "parse_match_case" then w.2.1 == "match x:\n case None: pass\n "
   else w.2.1 == "" || endsNl w.2.1)
  && (match w.2.2.2 with | none => true | some d => d == (nlCount w.2.1 : Int))

/-- **Every wrapper actually handed to CPython has the shape `wrap_positions`/`rebase_embed` need**, and every parser
that shifts line numbers back shifts by the number of lines of its prefix (kernel-checked on the regenerated families). -/
theorem wrappers_sound : (wrappers.all wrapOk) = true := by decide +kernel

/-- each extended parser was observed succeeding through a wrapper with a known line delta -/
def observed (p : String) : Bool := wrappers.any (fun w => w.1 == p && w.2.2.2.isSome && w.2.1 != "")

theorem wrappers_observed :
    (["parse__ExceptHandlers", "parse_expr", "parse_expr_arglike", "parse_expr_slice", "parse_List", "parse_Set",
      "parse__Assign_targets", "parse__arglike", "parse__arglikes", "parse_comprehension", "parse__comprehensions",
      "parse__comprehension_ifs", "parse_arguments", "parse_arguments_lambda", "parse_arg", "parse_keyword",
      "parse_Import_name", "parse__Import_names", "parse_ImportFrom_name", "parse__ImportFrom_names", "parse_withitem",
      "parse__withitems", "parse_pattern", "parse__pattern_attrlikes", "parse_type_param", "parse__type_params"].all observed)
    = true := by decide +kernel

/-! ## non-vacuity: concrete states that meet the hypotheses -/

/-- `"a[\n" ++ "é,\nb" ++ "\n]"`: the span of `b` (line 2 of the source) is found on line 3 of the wrapper. -/
example :
    getSpan (splitLines (wrapText "a[".toList "é,\nb".toList "]".toList)) (Span.shift ⟨2, 0, 2, 1⟩ 1) = [['b']]
    ∧ getSpan (splitLines "é,\nb".toList) ⟨2, 0, 2, 1⟩ = [['b']] := by decide +kernel

/-- a two-line prefix (`match _:\n case (`) shifts by two lines -/
example : getSpan (splitLines (wrapText "match _:\n case (".toList "x |\ny".toList "): pass".toList))
            (Span.shift ⟨1, 0, 2, 1⟩ 2) = [['x', ' ', '|'], ['y']] := by decide +kernel

/-- multi-byte prefix: `ü = ` is 5 bytes; the `b` of `a+b` is at byte column 2 in the fragment, 7 in the line -/
example : sliceB (blen "ü = ".toList + 2) (blen "ü = ".toList + 3) ("ü = ".toList ++ "a+b".toList ++ " # c".toList) = ['b']
    ∧ blen "ü = ".toList = 5 := by decide +kernel

example : astlocFromSrc "é = 1\nñé".toList 2 = ⟨2, 0, 3, 4⟩ := by decide +kernel

/-- a tree that meets `linesPos`, embedded one line down and moved back -/
def exTree : PTree := PTree.node (some ⟨1, 0, 2, 3⟩) [PTree.node none [PTree.node (some ⟨2, 1, 2, 3⟩) []]]
example : linesPos exTree = true ∧ offsetLinenos (-1) (mapTree (embedLines 1) exTree) = exTree
    ∧ mapTree (embedLines 1) exTree
      = PTree.node (some ⟨2, 0, 3, 3⟩) [PTree.node none [PTree.node (some ⟨3, 1, 3, 3⟩) []]] := ⟨rfl, rfl, rfl⟩

/-- the skip on a falsy `end_lineno` is real: such a node is NOT moved (so `linesPos` is needed in `rebase_embed`) -/
example : offPos (-1) (some ⟨1, 0, 0, 0⟩) = some ⟨1, 0, 0, 0⟩ := by decide +kernel

/-- `)+(` escapes `(`…`)`; `(a)+(b)` does not -/
example : scanDepth '(' ')' ")+(".toList 0 = none ∧ matchClose '(' ')' (")+(".toList ++ [')']) 0 = some 0 := by decide +kernel
example : scanDepth '(' ')' "(a)+(b)".toList 0 = some 0
    ∧ matchClose '(' ')' ("(a)+(b)".toList ++ [')']) 0 = some 7 := by decide +kernel

/-- `_verify_no_close_delimiters` on `a),(b` (first element `a` at 0..1): raises; on `(a),(b)` with element `(a)`: passes -/
example : verifyNoClose ["a),(b".toList] 0 0 0 1 0 '(' ')' = false := by decide +kernel
example : verifyNoClose ["(a),(b)".toList] 0 1 0 2 0 '(' ')' = true := by decide +kernel

end Pfst.C05
