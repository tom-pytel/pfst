import Pfst.GrammarLemmas
import Pfst.Prec

/-!
# C09 — replacing an operand never changes how the surrounding expression groups

* `pr_derives`: for EVERY abstract syntax tree (any depth, any arity) and every parenthesisation policy that covers what
  the grammar needs, the printed token list derives exactly that tree in the spec grammar (`Pfst/Grammar.lean`).
* `table_sound`: pfst's own decision function, re-extracted from `/repo` on every run over its whole domain
  (`Pfst/Gen/Precedence.lean`), requires parentheses in every (slot, child kind, flags) cell where the grammar needs them.
* `not_derives_sub_right`: the grammar is discriminating (a wrongly grouped reading is NOT derivable).

Trusted: the transcription of the grammar (`Kind.cls`, `Kind.slot`, `Kind.render`) and of pfst's vocabulary
(`Prec.clsOf`, `Prec.slotOf`), both validated against CPython by the correspondence harness on every run; unambiguity of
the grammar (a derivation is *the* parse) is proved on the operator fragment in `Props/C09c.lean` and validated the same
way outside it.
-/
namespace Pfst.C09
open Pfst.Grammar Pfst.Prec

/-- Printing with any policy `P` that parenthesises at least where the grammar needs it (and only things that can be
parenthesised) derives the intended tree — for every tree and every slot. -/
theorem pr_derives (P : Slot → Cls → Bool)
    (hneed : ∀ s c, specNeed s c = true → P s c = true)
    (hpar : ∀ s c, P s c = true → accepts s c = true → parenable c = true)
    (s : Slot) (e : E) (hw : wf s e = true) : Derives s (pr P s e) e :=
  derives_pr P hneed hpar s e hw

/-- The minimal policy (parenthesise exactly when needed) is such a policy on well-formed trees: corollary used by the
correspondence (Lean prints, CPython parses). -/
theorem pr_minimal_derives (s : Slot) (e : E) (hw : wf s e = true) : Derives s (pr minimal s e) e :=
  pr_derives minimal (fun _ _ h => h) (fun s c h ha => by simp [minimal, specNeed, ha] at h) s e hw

def setKid (e : E) (i : Nat) (r : E) : E :=
  match e with
  | .leaf t c => .leaf t c
  | .node k kids => .node k (kids.set i r)

/-- Replacing an operand by ANY replacement expression and printing with a covering policy yields a phrase that derives
the parent with exactly that replacement in that position (whatever the depth of parent and replacement). -/
theorem replace_groups (P : Slot → Cls → Bool)
    (hneed : ∀ s c, specNeed s c = true → P s c = true)
    (hpar : ∀ s c, P s c = true → accepts s c = true → parenable c = true)
    (s : Slot) (e r : E) (i : Nat) (hw : wf s (setKid e i r) = true) :
    Derives s (pr P s (setKid e i r)) (setKid e i r) :=
  pr_derives P hneed hpar s _ hw

/-! ### the extracted table

`tableSound` looks at the grammar sixteen times per cell, once per flag set, although the flags change the slot only at
`Starred.value` and `Dict.values` and the class only of `Constant` and `MatchAs`; evaluated as it stands it is slow to
check.  `table_sound` evaluates a checker in its place: `rowSound'` tests, by evaluation, that the flags do not matter
(`flagConst`) and then looks once (`need`); `rowSound'_eq` shows that it computes `rowSound`. -/

section
open Pfst.Gen.Precedence

/-- the grammar needs parentheses around class `co` in slot `so` (both as looked up by `slotOf`, `clsOf`) -/
def need (so : Option (Slot × Bool)) (co : Option (Cls × Bool)) : Bool :=
  match so, co with
  | some (s, sp), some (cl, cp) => sp == cp && parenable cl && specNeed s cl
  | _, _ => false

theorem cellSound_eq (p : K) (f : F) (c : K) (mask fl : Nat) :
    cellSound p f c mask fl = (mask == 65536 || (!need (slotOf p f fl) (clsOf c fl) || bit mask fl)) := by
  unfold cellSound need
  rcases slotOf p f fl with _ | ⟨s, sp⟩ <;> rcases clsOf c fl with _ | ⟨cl, cp⟩ <;> simp [bne, Bool.not_and]

def flagConst [BEq β] (k : Nat → β) : Bool := flagsAll.all fun fl => k fl == k 0

theorem eq_of_flagConst [BEq β] [LawfulBEq β] {k : Nat → β} (h : flagConst k = true) : ∀ fl ∈ flagsAll, k fl = k 0 :=
  fun fl hfl => eq_of_beq (List.all_eq_true.1 h fl hfl)

def rowSound' (r : K × F × List Nat) : Bool :=
  if flagConst (slotOf r.1 r.2.1) then
    match slotOf r.1 r.2.1 0 with
    | none => true
    | so => (List.zip children r.2.2).all fun (c, mask) => mask == 65536 ||
      if flagConst (clsOf c) then !need so (clsOf c 0) || flagsAll.all (bit mask)
      else flagsAll.all fun fl => !need so (clsOf c fl) || bit mask fl
  else rowSound r

theorem all_congr_mem {l : List α} {f g : α → Bool} (h : ∀ x ∈ l, f x = g x) : l.all f = l.all g := by
  simp +contextual only [List.all_eq, h]

theorem cells_eq {p : K} {f : F} {so : Option (Slot × Bool)} (hs : ∀ fl ∈ flagsAll, slotOf p f fl = so) (c : K)
    (mask : Nat) :
    flagsAll.all (cellSound p f c mask) = (mask == 65536 ||
      if flagConst (clsOf c) then !need so (clsOf c 0) || flagsAll.all (bit mask)
      else flagsAll.all fun fl => !need so (clsOf c fl) || bit mask fl) := by
  split
  · next hc =>
    rw [List.or_all_distrib_left, List.or_all_distrib_left]
    exact all_congr_mem fun fl hfl => by rw [cellSound_eq, hs fl hfl, eq_of_flagConst hc fl hfl]
  · rw [List.or_all_distrib_left]
    exact all_congr_mem fun fl hfl => by rw [cellSound_eq, hs fl hfl]

theorem rowSound'_eq (r : K × F × List Nat) : rowSound' r = rowSound r := by
  unfold rowSound'
  split
  · next hs =>
    simp only [rowSound, cells_eq (eq_of_flagConst hs)]
    split
    · next hso => simp [hso, need]
    · rfl
  · rfl

/-- **pfst's extracted decision table covers the grammar's need** on every mapped (slot, child kind, flags) cell.
Re-checked by the kernel against the table regenerated from the working tree. -/
theorem table_sound : tableSound = true := by
  have h : rows.all rowSound' = true := by decide +kernel
  rwa [funext rowSound'_eq] at h

end

/-! ### the grammar is discriminating -/

private def a : E := .leaf (.name 0) (.lad ATOM)
private def b : E := .leaf (.name 1) (.lad ATOM)
private def c : E := .leaf (.name 2) (.lad ATOM)
private def subR : E := .node (.bin 6) [a, .node (.bin 6) [b, c]]      -- a - (b - c)
private def subL : E := .node (.bin 6) [.node (.bin 6) [a, b], c]      -- (a - b) - c
private def toks : List Tok := [.name 0, .sym 6, .name 1, .sym 6, .name 2]   -- a - b - c

/-- `a - b - c` derives the left-grouped tree … -/
example : Derives (sl TEST) toks subL := by
  have h : pr minimal (sl TEST) subL = toks := by decide
  exact h ▸ pr_minimal_derives (sl TEST) subL (by decide)

/-- … and does NOT derive the right-grouped tree. -/
theorem not_derives_sub_right : ¬ Derives (sl TEST) toks subR := by
  intro h
  rcases Derives.node_inv (k := .bin 6) (kids := [a, .node (.bin 6) [b, c]]) h with ⟨-, tss, hL, ht⟩ | ⟨ts', ht⟩
  · cases hL with
    | cons _ _ _ _ t1 _ h1 hL =>
      cases hL with
      | cons _ _ _ _ t2 _ h2 hL =>
        cases hL
        -- the right operand `b - c` is not accepted at `sl (ARITH + 1)`, so its phrase begins with a parenthesis
        rcases h2.node_inv with ⟨hacc, -⟩ | ⟨_, rfl⟩
        · exact absurd hacc (by decide)
        · rcases Derives.leaf_inv (t := .name 0) (c := .lad ATOM) h1 with rfl | ⟨_, rfl⟩ <;>
            simp [toks, Kind.render] at ht
  · simp [toks] at ht

/-- The printer parenthesises the right-grouped one: `a - (b - c)`. -/
example : pr minimal (sl TEST) subR = [.name 0, .sym 6, .lp, .name 1, .sym 6, .name 2, .rp] := by decide

/-- non-vacuity of `pr_derives`: the minimal policy satisfies both hypotheses, and a non-trivial tree is well formed -/
example : (∀ s c, specNeed s c = true → minimal s c = true) := fun _ _ h => h
example : wf (sl TEST) (.node .ifexp [subR, .node (.boolop true) [a, b, .node .lambda [c]], .node (.named 3) [subL]]) = true := by
  decide

end Pfst.C09
