import Pfst.TableCheckLemmas
import Pfst.Gen.SyntaxOrder
/-! C14, tables: static field orders, second half of the shapes. -/
namespace Pfst.C14
open Pfst

theorem static_field_order_B :
    Gen.SyntaxOrder.shapesEncB.all (TableCheck.staticOk Gen.SyntaxOrder.fieldOrder) = true :=
  TableCheck.all_imp (TableCheck.staticOk_of _) (by decide +kernel)

end Pfst.C14
