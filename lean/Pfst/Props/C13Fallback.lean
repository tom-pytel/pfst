import Pfst.ReconcileCorrect
import Pfst.Gen.ReconcileCatch
/-!
C13 — the retry-at-parent fallback of `Reconcile.recurse_node` over the REFUSAL ALPHABET of the put layer.

`Pfst/Gen/ReconcileCatch.lean` is regenerated on every run: `caught` is the exception tuple of the handler around
`self.recurse_children(node, outa)` (read from the source of the imported module), `battery` the exception class each of a
fixed set of refused direct puts raises (valid edited AST, "cannot ... in this state / at this location", wrong category,
does not parse, not implemented), `retried` the observed behaviour of `reconcile()` when such an exception is injected.
-/
namespace Pfst.C13
open Pfst.Reconcile Pfst.Gen.ReconcileCatch

/-- the handler catches an exception of a class whose MRO is `mro` -/
def isCaught (mro : List String) : Bool := mro.any (fun c => caught.contains c)

/-- Every refusal the put layer produces (battery) is of a class the handler catches. -/
theorem battery_caught : battery.all (fun e => isCaught e.2.2) = true := by decide +kernel

/-- ... and the injected refusal of every such class was observed to be retried at the parent. -/
theorem battery_retried : retried.all (fun e => e.2) = true ∧ retried.length = 4 := by decide +kernel

/-- The `try: recurse_children(...) except <caught>: put_node(node)` step of `recurse_node` for an in-tree node `n`, as a
function of what happened below: `none` = nothing raised, `some mro` = a put below raised an exception of that class after
the operations `ops` had been done.  An exception that is not caught leaves `reconcile()` (failure flag). -/
def fallbackStep (refusal : Option (List String)) (pre ops : List Op) (n : T) : R :=
  match refusal with
  | none => ⟨pre ++ ops, false⟩
  | some mro => if isCaught mro then ⟨pre ++ ops ++ [⟨[], .put .ast (erase n)⟩], false⟩ else ⟨pre ++ ops, true⟩

/-- TOTAL over the refusal alphabet: whichever refusal of the battery occurs below an in-tree node, after whatever
operations, `reconcile()` does not raise and the slot ends up holding exactly the edited node. -/
theorem fallback_total (e : String × String × List String) (he : e ∈ battery) (pre ops : List Op) (n t : T) :
    (fallbackStep (some e.2.2) pre ops n).fail = false ∧ applyOps (fallbackStep (some e.2.2) pre ops n).ops t = erase n := by
  have h : isCaught e.2.2 = true := (List.all_eq_true.mp battery_caught) e he
  refine ⟨by simp [fallbackStep, h], ?_⟩
  simp only [fallbackStep, h, if_true]
  exact applyOps_put_last (pre ++ ops) .ast (erase n) t

/-- The result does not depend on WHICH kind of refusal occurred. -/
theorem fallback_kind_independent (e₁ e₂ : String × String × List String) (h₁ : e₁ ∈ battery) (h₂ : e₂ ∈ battery)
    (pre ops : List Op) (n : T) : fallbackStep (some e₁.2.2) pre ops n = fallbackStep (some e₂.2.2) pre ops n := by
  have a : isCaught e₁.2.2 = true := (List.all_eq_true.mp battery_caught) e₁ h₁
  have b : isCaught e₂.2.2 = true := (List.all_eq_true.mp battery_caught) e₂ h₂
  simp [fallbackStep, a, b]

/-- The model's `recurse_node` on an in-tree node IS this step: the only refusal the model itself generates is the
`NotImplementedError('different length slice fields')` of `recurse_children` (failure flag of `recFields`). -/
theorem recNode_is_fallbackStep (mark : T) (np : NP) (rel : Path) (outa : T) (l : Option Loc) (k : Nat) (cs : List T)
    (hn : (if !(inPlace np rel l) then erase (markAt mark (qOf l)) else outa).isNode = true) :
    recNode mark np rel outa (.node (.tree l) k cs) =
      (let outa' := if !(inPlace np rel l) then erase (markAt mark (qOf l)) else outa
       let r := recFields mark (.fst 0 (qOf l)) 0 outa'.kids cs
       fallbackStep (if r.fail then some ["NotImplementedError", "RuntimeError"] else none)
         (if !(inPlace np rel l) then [⟨[], .put (.mark (qOf l)) (erase (markAt mark (qOf l)))⟩] else []) r.ops
         (.node (.tree l) k cs)) := by
  have hc : isCaught ["NotImplementedError", "RuntimeError"] = true := by decide +kernel
  rw [recNode_tree]
  cases hin : inPlace np rel l
  · simp only [hin, Bool.not_false, if_true] at hn ⊢
    simp only [hn, Bool.not_true, Bool.false_eq_true, if_false]
    split <;> simp_all [fallbackStep, erase]
  · simp only [hin, Bool.not_true, Bool.false_eq_true, if_false] at hn ⊢
    simp only [hn, Bool.not_true, Bool.false_eq_true, if_false]
    split <;> simp_all [fallbackStep, erase]

/-- non-vacuity: the four classes are there, `ValueError` among them -/
example : ("ImportFrom.module deleted at level 0", "ValueError", ["ValueError"]) ∈ battery := by decide +kernel
example : (battery.map (fun e => e.2.1)).eraseDups.length = 4 := by decide +kernel
example : isCaught ["KeyError", "LookupError"] = false := by decide +kernel

end Pfst.C13
