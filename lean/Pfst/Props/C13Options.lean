import Pfst.Gen.ReconcileOptions
/-!
C13 — "fixed option set during reconcile": the tables of `Pfst/Gen/ReconcileOptions.lean` are regenerated on every run from
the imported modules (the keyword names of the `with FST.options(...)` block that `FST.reconcile` enters, the options it
refuses as keywords, the global options, and the options the put machinery reads from the THREAD DEFAULT during the replay).
The theorems say that the result of the replay cannot see a caller default it is not supposed to see.
-/
namespace Pfst.C13
open Pfst.Gen.ReconcileOptions

/-- Every option `reconcile()` refuses as a keyword ("managed during the process") is pinned by its `FST.options` block:
the caller can influence it neither by keyword nor through the thread defaults. -/
theorem refused_pinned : ∀ o ∈ refused, o ∈ pinned := by decide +kernel

/-- Nothing else is pinned: what the caller may pass as keyword is not overridden behind his back. -/
theorem pinned_refused : ∀ o ∈ pinned, o ∈ refused := by decide +kernel

/-- Pinned names are real global options (a misspelt keyword would raise in `FST.options`, and would pin nothing). -/
theorem pinned_global : ∀ o ∈ pinned, o ∈ globalOptions := by decide +kernel

/-- Every global option that the put handlers read from the thread default during the replay is either pinned or one the
caller is allowed to control (accepted by `reconcile()` as keyword: `elif_`, `pep8space`, ...). -/
theorem read_controlled : ∀ o ∈ readDefault, o ∈ pinned ∨ (o ∈ globalOptions ∧ o ∉ refused) := by decide +kernel

/-- the options whose default value decides parenthesisation are read, and pinned (non-vacuity) -/
example : "pars" ∈ readDefault ∧ "pars" ∈ pinned ∧ "pars" ∈ refused := by decide +kernel
example : ("pars", "'auto'") ∈ pinnedValues := by decide +kernel
example : "elif_" ∈ readDefault ∧ "elif_" ∉ pinned ∧ "elif_" ∉ refused := by decide +kernel

end Pfst.C13
