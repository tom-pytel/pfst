import Pfst.Gen.ReconcilePrims
/-!
C13 — "changing primitive values": the two places where reconcile decides whether a primitive changed.

* in-tree nodes: `Reconcile.recurse_children` (`child != o or child.__class__ is not o.__class__`, model `pyNe`);
* nodes taken from ANOTHER tree: the reparse of the copy (`copy().verify()` / `get_slice().verify()`), which compares
  primitives with `astutil.compare_asts` (`_compare_primitive_type_comments_func`).

`Pfst/Gen/ReconcilePrims.lean` evaluates both on every ordered pair of a value battery (ints, bools, floats, complex, str,
bytes, None) on every run.  The judge is Python `==` together with identity of type; `1 == True == 1.0` must not pass.
-/
namespace Pfst.C13
open Pfst.Gen.ReconcilePrims

/-- exact equality of two primitives: same value under `==` AND same type -/
def exact (r : String × String × Bool × Bool × Bool × Bool × Bool) : Bool := r.2.2.1 && r.2.2.2.1

/-- 13 values, every ordered pair, with conflating pairs among them (equal under `==`, other type) -/
theorem prims_battery_complete :
    rows.length = 169 ∧ (rows.filter (fun r => r.2.2.1 && !r.2.2.2.1)).length ≥ 10 := by decide +kernel

/-- The comparison used to validate a copy from another tree says "equal" exactly for the same value of the same type, with
type comments off and on. -/
theorem verify_compares_exactly :
    rows.all (fun r => r.2.2.2.2.1 == exact r && r.2.2.2.2.2.1 == exact r) = true := by decide +kernel

/-- `reconcile()` of an in-tree Constant returns the new value exactly when it differs in value or in type. -/
theorem reconcile_compares_exactly : rows.all (fun r => r.2.2.2.2.2.2 == !exact r) = true := by decide +kernel

/-- The two sites agree on every pair: what the in-tree diff treats as a change is what invalidates a copy. -/
theorem comparison_sites_agree : rows.all (fun r => r.2.2.2.2.1 == !r.2.2.2.2.2.2) = true := by decide +kernel

/-- non-vacuity: `1` vs `True` is in the battery, conflated by `==`, told apart by both sites -/
example : ("1", "True", true, false, false, false, true) ∈ rows := by decide +kernel

end Pfst.C13
