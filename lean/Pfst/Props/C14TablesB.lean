import Pfst.TableCheckLemmas
import Pfst.Gen.SyntaxOrder
import Pfst.Gen.NextPrev
/-! C14, tables, second half of the shapes. -/
namespace Pfst.C14
open Pfst

theorem table_consistent_B : TableCheck.allOk Gen.SyntaxOrder.shapesEncB Gen.NextPrev.tablesEncB = true := by
  rw [TableCheck.allOk_eq_zip, Bool.and_eq_true]
  refine ⟨by decide +kernel, TableCheck.all_imp (fun st => TableCheck.rowOk_of st.1 st.2) ?_⟩
  decide +kernel

end Pfst.C14
