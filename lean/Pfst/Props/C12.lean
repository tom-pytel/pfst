import Pfst.ModifyingLemmas

/-!
# C12 — a failed edit leaves the target tree untouched and still editable

Property theorems about the model of the modification registry (`Pfst/Modifying.lean`: `_MODIFYING`, `_Modifying.enter /
success / fail / __exit__`, the skeletons of `FST.unpar`, `_put_one`, `_put_slice` and of the root branch of `FST.replace`)
and about the abstract edit step `validate ≫ apply`.

What is proved here is (1) for every well-nested history of registry events — `with` blocks that complete, `with`
blocks in which an exception is raised at any depth and position, the manual `enter … fail | success` of `unpar`, the
`try … except` + second `with` of the raw fallback, exceptions caught by a caller and editing continued — the registry
afterwards is exactly the registry before, so from the empty registry no lock survives; (2) an edit whose handler
validates before it mutates is the identity on (tree state, registry) when it raises, also through the raw fallback.
WHICH handlers have that shape is not provable from a model: it is evaluated on the real code by the sweep of
`harness/props/C12.py` (source, tree dump with positions, registry and the following valid edit, per failing call).
-/
namespace Pfst.C12
open Pfst.Modifying

/-! ## The registry -/

mutual
/-- Every history restores the registry it started from (any well-formed registry: every depth ≥ 1), and never hits
the `TypeError` of `success()`/`fail()` on a missing entry: each constructor is one of the skeletons, which pass
`Restores` from their bodies to themselves. -/
theorem run_restores : ∀ p : Prog, Restores (run p)
  | .raise c => fun r _ => ⟨rfl, by simp [run]⟩
  | .withM n raw force body => withRun_restores n raw force _ (runList_restores body)
  | .unpar n do1 body1 do2 body2 => unparRun_restores n do1 do2 _ _ (runList_restores body1) (runList_restores body2)
  | .try_ c body => fun r h => tryRun_restores c _ r (runList_restores body r h)
  | .put n raw force g handler rawBody =>
    putRun_restores n raw force g _ _ (runList_restores handler) (runList_restores rawBody)
  | .rootReplace n g body => rootReplaceRun_restores n g _ (runList_restores body)

theorem runList_restores : ∀ ps : List Prog, Restores (runList ps)
  | [] => fun r _ => ⟨rfl, by simp [runList]⟩
  | p :: ps => by
    intro r h
    obtain ⟨a1, a2⟩ := run_restores p r h
    simp only [runList]
    split
    · exact ⟨a1, a2⟩
    · rw [a1]; exact runList_restores ps r h
end

/-- For EVERY well-nested history — exceptions raised anywhere, `RuntimeError`s of nested
modification of a different node, raw fallbacks, exceptions caught and editing continued — that starts with the empty
registry, the registry is empty afterwards. -/
theorem registry_balanced (ps : List Prog) : (runList ps []).reg = [] :=
  (runList_restores ps [] rfl).1

/-- The general form: from any well-formed registry (this history may itself run inside an outer modification) the
registry afterwards is exactly the registry before: same roots, same nodes, same depths, same order. -/
theorem registry_restored (ps : List Prog) (reg : Reg) (h : reg.wf = true) : (runList ps reg).reg = reg :=
  (runList_restores ps reg h).1

/-- `success()` / `fail()` never find their entry missing in a well-nested history (no `TypeError` out of `__exit__`
masking the user's exception). -/
theorem no_internal_error (ps : List Prog) (reg : Reg) (h : reg.wf = true) : (runList ps reg).exc ≠ some .internal :=
  (runList_restores ps reg h).2

/-- An exception `x` raised by the body of a `with` block entered at any depth (the registry
may already hold this root at depth k−1, or other roots) propagates as `x` and leaves the registry exactly as it was
before the block was entered: `__exit__` unwinds its own level; by `registry_restored` every enclosing level then does
the same, down to depth 0. -/
theorem registry_no_stale (n : NodeRef) (raw force : Bool) (body : List Prog) (reg reg1 : Reg) (x : Exc)
    (h : reg.wf = true) (he : enter n raw force reg = .ok reg1) (hx : (runList body reg1).exc = some x) :
    (run (.withM n raw force body) reg).reg = reg ∧ (run (.withM n raw force body) reg).exc = some x := by
  obtain ⟨hw, hexit⟩ := enter_then_exit n raw force reg reg1 h he
  refine ⟨(run_restores _ reg h).1, ?_⟩
  simp [run, withRun, he, withExit, (runList_restores body reg1 hw).1, hexit, hx]

/-- …and therefore after any history whatsoever from the empty registry — failed or not — a modification of ANY node
of ANY tree can be entered (no "nested modification of different nodes not allowed" from a stale entry). -/
theorem next_enter_ok (ps : List Prog) (m : NodeRef) (raw force : Bool) :
    enter m raw force (runList ps []).reg = .ok [(m.root, (m.node, 1))] := by
  rw [registry_balanced]
  rfl

/-- The same for the skeleton of `_put_one` / `_put_slice` alone, spelled out: whatever the handler and the raw
fallback do (as long as they are themselves well-nested), whichever of them raises, the registry is restored. -/
theorem put_skeleton_restores (n : NodeRef) (raw : RawOpt) (force g : Bool) (handler rawBody : List Prog) (reg : Reg)
    (h : reg.wf = true) : (run (.put n raw force g handler rawBody) reg).reg = reg :=
  (run_restores _ reg h).1

/-- The same for the root branch of `FST.replace` as repaired by C12-F2/F3 (all guards, including "own root" and
"already consumed", before the `with`): a refused request has not touched the registry — nor, in the code, the lines —
and whatever `code_as_all` / `_set_ast` do inside, the registry is restored. -/
theorem root_replace_skeleton_restores (n : NodeRef) (g : Bool) (body : List Prog) (reg : Reg) (h : reg.wf = true) :
    (run (.rootReplace n g body) reg).reg = reg :=
  (run_restores _ reg h).1

/-- A refused root replace is a no-op of the model: no registry event at all. -/
theorem root_replace_guard_first (n : NodeRef) (body : List Prog) (reg : Reg) :
    run (.rootReplace n true body) reg = ⟨reg, some .guard, []⟩ := by
  simp [run, rootReplaceRun]

/-- The same for the manual skeleton of `FST.unpar`. -/
theorem unpar_skeleton_restores (n : NodeRef) (do1 do2 : Bool) (b1 b2 : List Prog) (reg : Reg) (h : reg.wf = true) :
    (run (.unpar n do1 b1 do2 b2) reg).reg = reg :=
  (run_restores _ reg h).1

/-! ## The abstract edit step -/

section step
variable {σ ρ π ε : Type}

/-- If validation refuses the request, the step returns the state it was given. -/
theorem failed_is_identity (op : Op σ ρ π ε) (s : σ) (r : ρ) (e : ε) (h : op.validate s r = .error e) :
    op.step s r = (s, some e) := by
  simp [Op.step, h]

/-- A step that reports an error (in whatever way we learn of it) did not change the state. -/
theorem failed_state_eq (op : Op σ ρ π ε) (s : σ) (r : ρ) (e : ε) (h : (op.step s r).2 = some e) :
    (op.step s r).1 = s := by
  unfold Op.step at h ⊢
  split
  · rfl
  · next hv => simp [hv] at h

/-- After a failed edit the next edit behaves exactly as it does on the tree that never saw the
failed one (the "fresh twin"). -/
theorem next_edit_ok (op : Op σ ρ π ε) (s : σ) (r₁ r₂ : ρ) (e : ε) (h : (op.step s r₁).2 = some e) :
    op.step (op.step s r₁).1 r₂ = op.step s r₂ := by
  rw [failed_state_eq op s r₁ e h]

/-- Sequences mixing failing and succeeding edits: a run of failing edits in front of a sequence can be dropped. -/
theorem failed_prefix_dropped (op : Op σ ρ π ε) (s : σ) (fs rs : List ρ)
    (h : ∀ r ∈ fs, ∃ e, op.validate s r = .error e) :
    (op.runSeq s (fs ++ rs)).1 = (op.runSeq s rs).1 := by
  induction fs with
  | nil => rfl
  | cons f fs ih =>
    obtain ⟨e, he⟩ := h f (by simp)
    simp only [List.cons_append, Op.runSeq, failed_is_identity op s f e he]
    exact ih (fun r hr => h r (by simp [hr]))

/-- What every call under the registry protocol satisfies, `w` being (tree state, registry) before the call and `out`
its result: the registry is restored, and if the call reports an error the tree state is what it was. -/
def Atomic (w : σ × Reg) (out : (σ × Reg) × Option (Err ε)) : Prop :=
  out.1.2 = w.2 ∧ ∀ e, out.2 = some e → out.1 = w

theorem withStep_atomic (op : Op σ ρ π ε) (n : NodeRef) (raw force : Bool) (w : σ × Reg) (r : ρ)
    (hw : w.2.wf = true) : Atomic w (withStep op n raw force w r) := by
  unfold withStep
  cases he : enter n raw force w.2 with
  | error x => exact ⟨rfl, fun _ _ => rfl⟩
  | ok reg1 =>
    simp only [(enter_then_exit n raw force w.2 reg1 hw he).2]
    refine ⟨rfl, fun e h => ?_⟩
    cases hs : (op.step w.1 r).2 with
    | none => simp [hs] at h
    | some e' => rw [failed_state_eq op w.1 r e' hs]

/-- One edit under `with`: if it reports an error, state AND registry are what they were. -/
theorem withStep_failed (op : Op σ ρ π ε) (n : NodeRef) (raw force : Bool) (w : σ × Reg) (r : ρ) (e : Err ε)
    (hw : w.2.wf = true) (h : (withStep op n raw force w r).2 = some e) : (withStep op n raw force w r).1 = w :=
  (withStep_atomic op n raw force w r hw).2 e h

/-- One edit under `with`: the registry is restored whether the edit succeeded or not. -/
theorem withStep_registry (op : Op σ ρ π ε) (n : NodeRef) (raw force : Bool) (w : σ × Reg) (r : ρ)
    (hw : w.2.wf = true) : (withStep op n raw force w r).1.2 = w.2 :=
  (withStep_atomic op n raw force w r hw).1

/-- `_put_one` with both handlers of validate-then-apply shape is atomic: the raw fallback is only ever entered from
the state the call started with, because the non-raw attempt that failed was itself atomic. -/
theorem putOne_atomic (handler rawHandler : Op σ ρ π ε) (catchable : ε → Bool) (guard : ρ → Bool) (n : NodeRef)
    (raw : RawOpt) (force : Bool) (w : σ × Reg) (r : ρ) (hw : w.2.wf = true) :
    Atomic w (putOne handler rawHandler catchable guard n raw force w r) := by
  have h1 := withStep_atomic handler n false force w r hw
  have h2 := withStep_atomic rawHandler n true force w r hw
  unfold putOne
  by_cases hg : guard r = true
  · simp only [hg, if_true]; exact ⟨rfl, fun _ _ => rfl⟩
  · by_cases hr : (raw == .on) = true
    · simpa [hg, hr] using h2
    · simp only [hg, hr, Bool.false_eq_true, if_false]
      split
      · next e he =>
        split
        · simpa [h1.2 _ he] using h2
        · exact h1
      · exact h1

/-- `_put_one` with both handlers of validate-then-apply shape: if the call raises — by a
guard, by the non-raw handler (`raw=False`), by the raw handler (`raw=True`), or by the non-raw handler AND then the raw
fallback (`raw='auto'`) — tree state and registry are exactly what they were before the call. -/
theorem raw_fallback_atomic (handler rawHandler : Op σ ρ π ε) (catchable : ε → Bool) (guard : ρ → Bool) (n : NodeRef)
    (raw : RawOpt) (force : Bool) (w : σ × Reg) (r : ρ) (e : Err ε) (hw : w.2.wf = true)
    (h : (putOne handler rawHandler catchable guard n raw force w r).2 = some e) :
    (putOne handler rawHandler catchable guard n raw force w r).1 = w :=
  (putOne_atomic handler rawHandler catchable guard n raw force w r hw).2 e h

/-- `_put_one`: the registry is restored on every path, success included. -/
theorem putOne_registry (handler rawHandler : Op σ ρ π ε) (catchable : ε → Bool) (guard : ρ → Bool) (n : NodeRef)
    (raw : RawOpt) (force : Bool) (w : σ × Reg) (r : ρ) (hw : w.2.wf = true) :
    (putOne handler rawHandler catchable guard n raw force w r).1.2 = w.2 :=
  (putOne_atomic handler rawHandler catchable guard n raw force w r hw).1

end step

/-! ## Non-vacuity: concrete histories and a concrete operation -/

def nA : NodeRef := ⟨0, 3⟩
def nB : NodeRef := ⟨0, 7⟩     -- another node of the same tree
def nC : NodeRef := ⟨1, 2⟩     -- a node of another tree

/-- An exception three `with` levels deep on the same node: depths go 1,2,3 then 2,1,0. -/
example : (run (nest nA 2 [.raise false]) []).trace
    = [[(0, (3, 1))], [(0, (3, 2))], [(0, (3, 3))], [(0, (3, 2))], [(0, (3, 1))], []] := by decide +kernel

example : (run (nest nA 2 [.raise false]) []).exc = some (.user false) := by decide +kernel

/-- A different node of the same tree inside a modification: `RuntimeError`, and it unwinds cleanly. -/
example : run (.withM nA false false [.withM nB false false []]) []
    = ⟨[], some .nested, [[(0, (3, 1))], [(0, (3, 1))], []]⟩ := by decide +kernel

/-- `force=True` lets the different node in; the entry keeps the FIRST node. -/
example : (run (.withM nA false false [.withM nB false true [.raise true]]) []).trace
    = [[(0, (3, 1))], [(0, (3, 2))], [(0, (3, 1))], []] := by decide +kernel

/-- Two trees at once (target and code), exception in the inner one, caught, then a raw-fallback put whose handler and
raw attempt both raise: registry empty at the end, the last exception propagates. -/
example : run (.withM nA false false
    [.try_ true [.withM nC false false [.raise false]],
     .put nA .auto false false [.raise true] [.raise false]]) []
    = ⟨[], some (.user false),
       [[(0, (3, 1))], [(0, (3, 1)), (1, (2, 1))], [(0, (3, 1))], [(0, (3, 2))], [(0, (3, 1))], [(0, (3, 2))],
        [(0, (3, 1))], []]⟩ := by decide +kernel

/-- root replace whose `code_as_all` raises (unparsable code): entered, failed, registry empty. -/
example : run (.rootReplace nA false [.raise true]) [] = ⟨[], some (.user true), [[(0, (3, 1))], []]⟩ := by decide +kernel

/-- `unpar` skeleton: phase 1 entered, phase 2 raises: one `fail()`, registry empty. -/
example : run (.unpar nA true [] true [.raise false]) [] = ⟨[], some (.user false), [[(0, (3, 1))], []]⟩ := by decide +kernel

/-- The hypothesis `wf` of `registry_restored` is needed and is what `enter` produces: from a registry with a depth-0
entry (unreachable) an enter/exit pair would delete the entry. -/
example : (run (.withM nA false false []) [(0, (3, 0))]).reg = [] := by decide +kernel

/-- A concrete validate-then-apply operation: replace element `i` of a list, refusing an out-of-range index. -/
def setOp : Op (List Nat) (Nat × Nat) (Nat × Nat) String where
  validate := fun s r => if r.1 < s.length then .ok r else .error "index out of range"
  apply := fun s p => s.set p.1 p.2

example : setOp.step [1, 2, 3] (5, 9) = ([1, 2, 3], some "index out of range") := by decide +kernel
example : setOp.step [1, 2, 3] (1, 9) = ([1, 9, 3], none) := by decide +kernel
example : (setOp.runSeq [1, 2, 3] [(5, 9), (1, 9), (7, 0), (0, 4)]).1 = [4, 9, 3] := by decide +kernel

/-- `raw='auto'`: handler refuses, raw handler refuses too: state and registry unchanged, error reported. -/
example : putOne setOp setOp (fun _ => true) (fun _ => false) nA .auto false ([1, 2, 3], []) (5, 9)
    = (([1, 2, 3], []), some (.op "index out of range")) := by decide +kernel

end Pfst.C12
