import Pfst.WalkLemmas
import Pfst.NavLemmas
import Pfst.SynOrderLemmas
import Pfst.Props.C14Tables
import Pfst.Props.C14TablesB
import Pfst.Props.C14Covers
import Pfst.Props.C14Static
import Pfst.Props.C14StaticB

/-!
# C14 — traversal visits every node once, in source order, consistently across APIs

Property theorems about the model of `FST.walk`, the sibling/child/step navigation and the path functions
(`Pfst/Walk.lean`), about the model of the position-dependent child orders (`Pfst/SynOrder.lean`) and about the tables
extracted from the generated `traverse_next.py` / `traverse_prev.py` and from `syntax_ordered_children`
(`Pfst/Gen/*.lean`, re-extracted every run; theorems `table_consistent`, `order_covers`, `static_field_order` here, their
kernel evaluations by halves of the shapes, `non_static_classes` and `field_order_pinned` in `Props/C14Tables*.lean`,
`Props/C14Covers.lean`, `Props/C14Static*.lean`).  Helper lemmas: `Pfst/WalkLemmas.lean`, `Pfst/NavLemmas.lean`,
`Pfst/SynOrderLemmas.lean`, `Pfst/TableCheckLemmas.lean`.

`p` is the `all` filter (any predicate on nodes; `checkAll m` for the four kinds of `all` values).
-/
namespace Pfst.C14
open Pfst.Walk Pfst.SynOrder

/-! ## the three stack machines equal their recursive specifications, for every tree -/

/-- `walk(all, 'enter', back=, self_=)`: the explicit-stack loop yields exactly the preorder list (children reversed at
every level when `back`) filtered by `all`; with `self_=False` without the root. -/
theorem walkEnter_preorder (p : Node → Bool) (back self_ : Bool) (t : Node) :
    walkEnter p back true self_ t = ids (((if self_ then [t] else []) ++ preL back t.kids).filter p) :=
  walkEnter_eq p back self_ t

/-- `recurse=False`: the root (if `self_`) and its direct children only. -/
theorem walkEnter_norecurse (p : Node → Bool) (back self_ : Bool) (t : Node) :
    walkEnter p back false self_ t = ids (((if self_ then [t] else []) ++ orient back t.kids).filter p) :=
  walkEnter_norec_eq p back self_ t

/-- `walk(all, 'leave')`: exactly the postorder list filtered by `all` — children before parents — for every filter,
direction and tree; with `self_=False` without the root.  (Before the repair of finding C14-F1 the root was yielded
regardless of the filter and this statement was false.) -/
theorem walkLeave_postorder (p : Node → Bool) (back self_ : Bool) (t : Node) :
    walkLeave p back true self_ t = ids ((postL back t.kids ++ (if self_ then [t] else [])).filter p) := by
  rw [walkLeave_eq]
  cases self_ <;> cases h : p t <;> simp [h, ids]

/-- with `self_=True`: the filtered postorder of the whole tree -/
theorem walkLeave_postorder_self (p : Node → Bool) (back : Bool) (t : Node) :
    walkLeave p back true true t = ids ((post back t).filter p) :=
  walkLeave_self p back t

/-- `walk(all, 'both')`: every node that passes the filter is yielded on entering and on leaving, its descendants'
yields in between (the bracketed order filtered by `all`), for every filter, direction and tree — the root included. -/
theorem walkBoth_bracket (p : Node → Bool) (back : Bool) (t : Node) :
    walkBoth p back true true t = ids2 ((brk back t).filter (fun x => p x.1)) := by
  rw [walkBoth_eq, brk_eq]
  cases h : p t <;> simp [h, ids2]

theorem walkBoth_bracket_noself (p : Node → Bool) (back : Bool) (t : Node) :
    walkBoth p back true false t = ids2 ((brkL back t.kids).filter (fun x => p x.1)) := by
  rw [walkBoth_eq]; simp

/-- `recurse=False` for the other two modes -/
theorem walkLeave_norecurse (p : Node → Bool) (back self_ : Bool) (t : Node) :
    walkLeave p back false self_ t = ids ((orient back t.kids).filter p) ++ (if self_ && p t then [t.id] else []) := by
  simp only [walkLeave, cond_false, leaveLoop_eq, flatMap_itemPost_leave]

theorem walkBoth_norecurse (p : Node → Bool) (back self_ : Bool) (t : Node) :
    walkBoth p back false self_ t = (if self_ && p t then [(t.id, false)] else [])
      ++ ((orient back t.kids).flatMap (fun n => if p n then [(n.id, false), (n.id, true)] else []))
      ++ (if self_ && p t then [(t.id, true)] else []) := by
  have h := bothLoop_norecurse p back (orient back t.kids) []
  simp only [List.append_nil] at h
  simp only [walkBoth, h]
  simp [bothLoop]

/-- children before parents: the postorder is the reversed preorder of the opposite direction -/
theorem leave_is_reversed_enter (back : Bool) (t : Node) : post back t = (pre (!back) t).reverse :=
  post_eq_reverse_pre_flip back t

/-! ## every node exactly once -/

/-- `walk(all=True)` in any direction, entering or leaving, yields a permutation of the nodes of the tree; when the node
identities are distinct no node is yielded twice.  (For `on='both'`: `walkBoth_each_twice`.) -/
theorem walk_nodup_perm (back : Bool) (t : Node) (h : (ids (pre false t)).Nodup) :
    (walkEnter (fun _ => true) back true true t).Nodup
    ∧ (walkEnter (fun _ => true) back true true t).Perm (ids (pre false t))
    ∧ (walkLeave (fun _ => true) back true true t).Nodup
    ∧ (walkLeave (fun _ => true) back true true t).Perm (ids (pre false t)) := by
  have ⟨h1, h2⟩ := walk_perm (fun _ => true) back t
  rw [List.filter_eq_self.mpr fun _ _ => rfl] at h1 h2
  exact ⟨h1.nodup_iff.mpr h, h1, h2.nodup_iff.mpr h, h2⟩

/-- About the bracketed order `brk`, which `walk(all=True, on='both')` yields (`walkBoth_bracket`): its entering
yields and its leaving yields are each a permutation of the nodes of the tree. -/
theorem walkBoth_each_twice (back : Bool) (t : Node) :
    (((brk back t).filter (fun x => !x.2)).map Prod.fst).Perm (pre false t)
    ∧ (((brk back t).filter (fun x => x.2)).map Prod.fst).Perm (pre false t) :=
  ⟨brk_enter_perm back t, brk_leave_perm back t⟩

/-! ## `back=True` reverses sibling order only -/

/-- The backward walk is the forward walk of the tree with every child list reversed: parents still come before their
children, only the order among siblings is reversed (at every level). -/
theorem back_sibling_only (m : AllMode) (self_ : Bool) (t : Node) :
    walkEnter (checkAll m) true true self_ t = walkEnter (checkAll m) false true self_ (mirror t) :=
  walkEnter_back_mirror _ (checkAll_mirror m) self_ t

/-! ## step_fwd / step_back reproduce the walk -/

/-- Starting at the root and applying `step_fwd(all)` until it returns None visits exactly what
`walk(all, self_=False)` yields, in the same order (the internal fuel of the model is proved sufficient on the way:
`stepFwd_spec`). -/
theorem step_iter (p : Node → Bool) (t : Node) :
    ids (iter (stepFwd p true) (size t) (stepFwd p true (rootLoc t))) = walkEnter p false true false t := by
  rw [step_iter_fwd, walkEnter_eq]; simp

/-- the same for `step_back` and `walk(all, back=True, self_=False)` -/
theorem step_iter_back (p : Node → Bool) (t : Node) :
    ids (iter (stepBack p true) (size t) (stepBack p true (rootLoc t))) = walkEnter p true true false t := by
  rw [Pfst.Walk.step_iter_back, walkEnter_eq]; simp

/-- one step: `step_fwd` returns the first node after the current one (in preorder) that passes the filter, skipping
only nodes that do not, and None only if no later node passes -/
theorem step_fwd_first (p : Node → Bool) (l : Loc) :
    FirstSat p rest (rest l) (stepFwd p true l) := stepFwd_spec p l

/-! ## next/prev, next_child/prev_child -/

/-- `next()` and `prev()` are mutually inverse on nodes that pass the filter -/
theorem next_prev_inverse (p : Node → Bool) (a b : Loc) (ha : p a.focus = true) :
    (next p a = some b → prev p b = some a) ∧ (prev p a = some b → next p b = some a) :=
  ⟨Pfst.Walk.next_prev_inverse p a b ha, Pfst.Walk.prev_next_inverse p a b ha⟩

/-- iterating `next_child` from None enumerates exactly `walk(all, recurse=False, self_=False)`; `prev_child` the
backward one -/
theorem children_agree_with_walk (p : Node → Bool) (l : Loc) :
    ids (iter (fun c => nextChild p l (some c)) l.focus.kids.length (nextChild p l none))
      = walkEnter p false false false l.focus
    ∧ ids (iter (fun c => prevChild p l (some c)) l.focus.kids.length (prevChild p l none))
      = walkEnter p true false false l.focus := by
  rw [children_fwd, children_back, walkEnter_norec_eq, walkEnter_norec_eq]
  simp [orient]

/-! ## paths -/

/-- `child_path` / `child_from_path` are inverse bijections between the nodes below `s` and the valid paths:
(1) the path of the node reached by a valid path is that path (so different valid paths reach different nodes),
(2) following the path of a reachable node leads back to it,
(3) if sibling `pfield`s are distinct every node below `s` is reached by some path.
`hid`: the identity of `s` does not recur below it. -/
theorem path_bijection (s : Loc) (hid : s.focus.id ∉ descIds s.focus) :
    (∀ π c, childFromPath s π = some c → childPath s c = some π)
    ∧ (∀ π π' c, childFromPath s π' = some c → childPath s c = some π → childFromPath s π = some c)
    ∧ (labUnique s.focus = true → ∀ n ∈ pre false s.focus, ∃ π c, childFromPath s π = some c ∧ c.focus = n) :=
  ⟨fun π c h => path_roundtrip s π c hid h,
   fun π π' c hc h => by cases (path_roundtrip s π' c hid hc).symm.trans h; exact hc,
   fun h n hn => path_reaches_all s.focus s.ctx h n hn⟩

/-! ## the Call / ClassDef merge -/

/-- The merge of positional arguments (bases) and keywords by position is a permutation of both lists and is sorted by
start position, given that each list is sorted (CPython) and that, when the last positional argument is not starred,
all positional arguments precede all keywords (Python's syntax). -/
theorem merge_sorted (args kws : List PNode) (ha : Sorted args) (hk : Sorted kws)
    (hsep : ∀ last, args.getLast? = some last → last.star = false → ∀ a ∈ args, ∀ k ∈ kws, posLe a k) :
    Sorted (mergeArgsKws args kws) ∧ (mergeArgsKws args kws).Perm (args ++ kws) :=
  Pfst.SynOrder.merge_sorted args kws ha hk hsep

/-! ## the extracted tables (halves A and B are checked in separate modules) -/

/-- **NEXT is exactly "successor", PREV exactly "predecessor" in the syntax-ordered child list**, for every tabulated
parent shape (every node class; list lengths 0..3, optional fields present/absent, None entries in `Dict.keys` and
`arguments.kw_defaults`, every valid interleaving of ≤3 positional/starred and ≤3 keyword arguments of Call/ClassDef):
`NEXT_FUNCS[cls, None]` answers the first element of `syntax_ordered_children`, `NEXT_FUNCS[cls, field](parent, idx)` the
element after the child at (field, idx), None after the last; `PREV_FUNCS` the mirror image. -/
theorem table_consistent :
    Pfst.TableCheck.allOk Pfst.Gen.SyntaxOrder.shapesEncA Pfst.Gen.NextPrev.tablesEncA = true
    ∧ Pfst.TableCheck.allOk Pfst.Gen.SyntaxOrder.shapesEncB Pfst.Gen.NextPrev.tablesEncB = true :=
  ⟨table_consistent_A, table_consistent_B⟩

/-- `syntax_ordered_children` returns every AST child of the parent exactly once (nothing dropped, nothing twice), for
every tabulated parent shape.  The children are the `ast.AST` instances in the fields CPython's class docstring declares. -/
theorem order_covers : Pfst.Gen.SyntaxOrder.shapesEnc.all Pfst.TableCheck.coversOk = true := by
  simp only [Pfst.Gen.SyntaxOrder.shapesEnc, List.all_append, order_covers_A, order_covers_B, Bool.and_self]

/-- For every class listed in `Gen.SyntaxOrder.fieldOrder` the child list is, for every tabulated shape, the
concatenation of the field blocks in that one fixed order of fields (list fields in index order). -/
theorem static_field_order :
    Pfst.Gen.SyntaxOrder.shapesEnc.all (Pfst.TableCheck.staticOk Pfst.Gen.SyntaxOrder.fieldOrder) = true := by
  simp only [Pfst.Gen.SyntaxOrder.shapesEnc, List.all_append, static_field_order_A, static_field_order_B, Bool.and_self]

/-! ## non-vacuity -/

/-- `[a, [b, c], d]`-like tree: root 0 with kids 1, 2 (kids 3, 4), 5 -/
def ex : Node := .mk 0 0 0 0 [.mk 1 10 0 1 [], .mk 2 11 0 2 [.mk 3 10 0 1 [], .mk 4 11 1 3 []], .mk 5 12 0 1 []]

example : walkEnter (fun _ => true) false true true ex = [0, 1, 2, 3, 4, 5] := by
  rw [walkEnter_eq]; decide +kernel
example : walkEnter (fun _ => true) true true true ex = [0, 5, 2, 4, 3, 1] := by
  rw [walkEnter_eq]; decide +kernel
example : walkLeave (fun _ => true) false true true ex = [1, 3, 4, 2, 5, 0] := by
  rw [walkLeave_eq]; decide +kernel
example : walkBoth (fun _ => true) false true true ex
    = [(0, false), (1, false), (1, true), (2, false), (3, false), (3, true), (4, false), (4, true), (2, true),
       (5, false), (5, true), (0, true)] := by
  rw [walkBoth_eq]; decide +kernel
/-- the former witness of C14-F1 (`walk(Name, 'leave'|'both')` on `Module[Name]`): the root is filtered out now -/
example : walkLeave (fun n => n.kind == 1) false true true (.mk 0 0 0 0 [.mk 1 1 0 1 []]) = [1] := by
  rw [walkLeave_eq]; decide +kernel
example : walkBoth (fun n => n.kind == 1) false true true (.mk 0 0 0 0 [.mk 1 1 0 1 []]) = [(1, false), (1, true)] := by
  rw [walkBoth_eq]; decide +kernel
example : walkEnter (checkAll .dflt) false true true ex = [0, 1, 2, 3, 5] := by
  rw [walkEnter_eq]; decide +kernel
example : (ids (pre false ex)).Nodup := by decide +kernel
example : ex.id ∉ descIds ex := by decide +kernel
example : labUnique ex = true := by decide +kernel
example : (stepFwd (fun _ => true) true (rootLoc ex)).map (·.focus.id) = some 1 := by decide +kernel
example : ((childFromPath (rootLoc ex) [11, 10]).map (·.focus.id)) = some 3 := by decide +kernel
example : ((childFromPath (rootLoc ex) [11, 10]).bind (childPath (rootLoc ex))) = some [11, 10] := by decide +kernel

end Pfst.C14
