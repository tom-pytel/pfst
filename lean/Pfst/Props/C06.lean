import Pfst.ScanLemmas
import Pfst.ScanParsLemmas
import Pfst.ScanFindLemmas

/-!
# C06 — every reported location denotes exactly the text of its node

Property theorems about the model of the scanning layer (`Pfst/Scan.lean`): `bistr` coordinates, the fragment
scanners, `pars()` and the by-location search.  Helper lemmas live in `Pfst/ScanLemmas.lean` (bistr, `reMatch`,
`nextFrag`), `Pfst/ScanParsLemmas.lean` (`nextDelims` / `prevDelims` / `parsModel` on the parenthesis layout family)
and `Pfst/ScanFindLemmas.lean` (search = brute force).
-/
namespace Pfst.C06
open Pfst.Scan

/-! ## character and byte coordinates (`bistr`) -/

/-- Round trip: a character index converted to a byte offset and back is unchanged (ASCII and non-ASCII lines,
every index up to and including the end of the line). -/
theorem b2c_c2b (l : Line) (c : Nat) (hc : c ≤ l.length) : (c2b l c).bind (b2c l) = some c :=
  Pfst.Scan.b2c_c2b l c hc

/-- Additivity: the byte offset of a character index beyond a prefix is the byte length of the prefix plus the
offset inside the rest (text before a node only shifts the node's byte columns by its encoded length). -/
theorem c2b_append (l1 l2 : Line) (c : Nat) : c2bRaw (l1 ++ l2) (l1.length + c) = byteLen l1 + c2bRaw l2 c :=
  Pfst.Scan.c2bRaw_append l1 l2 c

/-- Byte offsets are monotone in the character index, strictly inside the line. -/
theorem c2b_mono {l : Line} {c c' : Nat} : (c ≤ c' → c2bRaw l c ≤ c2bRaw l c') ∧
    (c < c' → c' ≤ l.length → c2bRaw l c < c2bRaw l c') :=
  ⟨Pfst.Scan.c2bRaw_mono, Pfst.Scan.c2bRaw_strictMono⟩

/-- On an ASCII line both conversions are the identity. -/
theorem c2b_ascii {l : Line} {c : Nat} (h : isAscii l = true) : c2b l c = some c ∧ b2c l c = some c :=
  Pfst.Scan.c2b_b2c_ascii h

/-- A byte offset inside a multi-byte character maps to the index of that character (what the scatter and
forward-fill loops of `bistr.b2c` produce), and conversely whatever `b2c` answers brackets the byte offset. -/
theorem b2c_inside {l : Line} {c b : Nat} (hna : isAscii l = false) (hc : c < l.length)
    (h1 : c2bRaw l c ≤ b) (h2 : b < c2bRaw l (c + 1)) : b2c l b = some c :=
  Pfst.Scan.b2c_inside hna h1 h2

theorem b2c_bracket {l : Line} {b c : Nat} (hna : isAscii l = false) (h : b2c l b = some c) :
    c ≤ l.length ∧ c2bRaw l c ≤ b ∧ (b < byteLen l → b < c2bRaw l (c + 1)) :=
  Pfst.Scan.b2c_bracket hna h

example : c2b "aé日b".toList 3 = some 6 := by decide +kernel
example : b2c "aé日b".toList 4 = some 2 := by decide +kernel       -- inside `日` (bytes 3..5)
example : isAscii "aé".toList = false := by decide +kernel

/-! ## byte deltas of a source put (`_params_offset`) -/

/-- `_params_offset`, one-line put: the column delta is (bytes of the new text up to the end of the put, measured on the
START line: prefix before the span ++ put text) minus (bytes up to the end of the replaced span on the END line).  The
two prefixes live on different lines when the replaced span covers several lines; each is measured in bytes of its own
line. -/
theorem paramsOffset_dcol_single (lines : List Line) (p : Line) (ln col endLn endCol : Nat) :
    (paramsOffsetC lines [p] ln col endLn endCol).2.2.2 =
      ((byteLen ((lines.getD ln []).take col ++ p) : Nat) : Int) - ((byteLen ((lines.getD endLn []).take endCol) : Nat) : Int) := by
  simp only [paramsOffsetC, c2bRaw, byteLen_append, List.length_cons, List.length_nil, List.getLastD]
  simp
  omega

/-- the position handed to `_offset` is the BYTE column of the end of the replaced span on its own line -/
theorem paramsOffset_col (lines put : List Line) (ln col endLn endCol : Nat) :
    (paramsOffsetC lines put ln col endLn endCol).2.1 = -((c2bRaw (lines.getD endLn []) endCol : Nat) : Int) := rfl

example : paramsOffsetC ["r = [\"ééé\", [1,".toList, "  2], tail, other]".toList] ["X".toList] 0 12 1 4 = (1, -4, -1, 12) := by decide +kernel
/-! ## the fragment scanners -/

/-- One regex match, plain pattern (`_re_next_frag`): it succeeds exactly when the window `[pos, endpos)` (clipped
like `Pattern.match` clips) is `spaces ++ code ++ rest` with `code` a non-empty maximal run of characters that are
not space, `#` or backslash; the match is that run. -/
theorem reMatch_code_iff {l : Line} {pos ep : Nat} {m : M} :
    reMatch false false l pos ep = some m ↔
      min pos l.length ≤ min ep l.length ∧
      ∃ sp code rest, win l pos ep = sp ++ code ++ rest ∧ sp.all isSpace = true ∧ code ≠ [] ∧
        code.all isCode = true ∧ (∀ x, rest.head? = some x → isCode x = false) ∧
        m = ⟨min pos l.length + sp.length, min pos l.length + sp.length + code.length⟩ ∧ group l m = code :=
  Pfst.Scan.reMatch_code_iff

/-- One regex match, any of the four patterns: exact characterisation (`TokSpec`: a maximal code run, or with
`comment` a `#` up to the end, or with `lcont` a lone backslash at the end). -/
theorem reMatch_iff {cm lc : Bool} {l : Line} {pos ep : Nat} {m : M} :
    reMatch cm lc l pos ep = some m ↔
      min pos l.length ≤ min ep l.length ∧
      ∃ sp tok rest, win l pos ep = sp ++ tok ++ rest ∧ sp.all isSpace = true ∧ TokSpec cm lc tok rest ∧
        m = ⟨min pos l.length + sp.length, min pos l.length + sp.length + tok.length⟩ :=
  Pfst.Scan.reMatch_iff

/-- **`next_frag`, flags as used by `pars()` / `next_delims`** (`comment=False, lcont=False`): the returned fragment
lies in the bound, is a non-empty maximal run of code characters preceded on its line only by spaces, and every
earlier line of the bound holds (from the start column) nothing but spaces up to its end, a comment or a backslash. -/
theorem nextFrag_spec {lines : List Line} {ln col endLn endCol : Nat} {fr : Frag}
    (h : nextFrag lines ln col endLn endCol false .f = some fr) (hle : ln ≤ endLn) :
    ln ≤ fr.ln ∧ fr.ln ≤ endLn ∧
    (∃ sp rest, lineWin lines ln col endLn endCol fr.ln = sp ++ fr.src ++ rest ∧ sp.all isSpace = true ∧
      fr.src ≠ [] ∧ fr.src.all isCode = true ∧ (∀ x, rest.head? = some x → isCode x = false) ∧
      fr.col = min (if fr.ln = ln then col else 0) (lineAt lines fr.ln).length + sp.length) ∧
    ∀ i, ln ≤ i → i < fr.ln → ∃ sp rest, lineWin lines ln col endLn endCol i = sp ++ rest ∧ sp.all isSpace = true ∧
        (rest = [] ∨ (∃ t, rest = '#' :: t) ∨ (∃ t, rest = '\\' :: t)) :=
  Pfst.Scan.nextFrag_spec_decomp h hle

/-- `next_frag` answering `None` (same flags): no line of the bound has a code fragment. -/
theorem nextFrag_none {lines : List Line} {ln col endLn endCol : Nat}
    (h : nextFrag lines ln col endLn endCol false .f = none) (hle : ln ≤ endLn) :
    ∀ i, ln ≤ i → i ≤ endLn → lineMatch false false lines ln col endLn endCol i = none :=
  Pfst.Scan.nextFrag_none h hle

/-- `next_frag` for every `comment` and `lcont ∈ {False, True}`: sound and complete — it returns the match of the
FIRST line of the bound whose window has a match under the pattern chosen by the flags. -/
theorem nextFrag_first_match {lines : List Line} {ln col endLn endCol : Nat} {cm : Bool} {lcont : LCont}
    (hl : lcont ≠ .n) (hle : ln ≤ endLn) :
    (∀ fr, nextFrag lines ln col endLn endCol cm lcont = some fr →
      ln ≤ fr.ln ∧ fr.ln ≤ endLn ∧
      (∃ m, lineMatch cm (lcont == .t) lines ln col endLn endCol fr.ln = some m ∧ fr = fragOf (lineAt lines fr.ln) fr.ln m) ∧
      ∀ i, ln ≤ i → i < fr.ln → lineMatch cm (lcont == .t) lines ln col endLn endCol i = none) ∧
    (∀ k m, ln ≤ k → k ≤ endLn → lineMatch cm (lcont == .t) lines ln col endLn endCol k = some m →
      (∀ i, ln ≤ i → i < k → lineMatch cm (lcont == .t) lines ln col endLn endCol i = none) →
      nextFrag lines ln col endLn endCol cm lcont = some (fragOf (lineAt lines k) k m)) :=
  Pfst.Scan.nextFrag_first hl hle

/-- `next_frag(lcont=None)` (restricted to the logical line): a returned fragment is reached only through lines that
consist of a lone continuation backslash; comments are returned only when asked for. -/
theorem nextFrag_lcontNone_sound {lines : List Line} {ln col endLn endCol : Nat} {cm : Bool} {fr : Frag}
    (h : nextFrag lines ln col endLn endCol cm .n = some fr) (hle : ln ≤ endLn) :
    ln ≤ fr.ln ∧ fr.ln ≤ endLn ∧ (∀ j, ln ≤ j → j < fr.ln → IsCont lines ln col j) ∧
    (fr.ln < endLn → ∃ m, lineB lines ln col fr.ln = some m ∧ fr = fragOf (lineAt lines fr.ln) fr.ln m ∧
        group (lineAt lines fr.ln) m ≠ ['\\'] ∧ ((group (lineAt lines fr.ln) m).head? = some '#' → cm = true)) ∧
    (fr.ln = endLn → ∃ m, lineMatch cm false lines ln col endLn endCol endLn = some m ∧ fr = fragOf (lineAt lines endLn) endLn m) :=
  Pfst.Scan.nextFrag_lcontNone_sound h hle

/- Full statement wanted for `prev_frag`: the mirror of `nextFrag_first_match` for all flags, multi-line, with the
`state` cache.  Proved: the single-line case, empty cache, `comment=False, lcont=False`, on windows whose text before
the last code run has no `#` / backslash (the forward scan of `last_match` stops at those, so the general mirror
statement is FALSE of the code: a fragment after a `#` on the same line is never seen).  Multi-line `prevLoopA/B` and
the cache are covered by the correspondence (every position pair, every flag) and, for `prev_delims`, by
`prevDelims_single_line` below. -/
/-- `prev_frag` on one line: the last code run of the window. -/
theorem prevFrag_single_partial {lines : List Line} {ln col endCol : Nat} {pre code sp : Line}
    (hw : win (lineAt lines ln) col endCol = pre ++ code ++ sp)
    (hpre : pre.all (fun x => isSpace x || isCode x) = true)
    (hlast : ∀ x, pre.getLast? = some x → isSpace x = true)
    (hne : code ≠ []) (hcode : code.all isCode = true) (hsp : sp.all isSpace = true) :
    prevFrag lines ln col ln endCol false .f = some ⟨ln, min col (lineAt lines ln).length + pre.length, code⟩ :=
  Pfst.Scan.prevFrag_single_partial hw hpre hlast hne hcode hsp

example : nextFrag ["a  # c".toList, " \\".toList, "  (b".toList] 0 1 2 4 false .f = some ⟨2, 2, "(b".toList⟩ := by decide +kernel
example : nextFrag ["a  # c".toList, " \\".toList, "  (b".toList] 0 1 2 4 true .f = some ⟨0, 3, "# c".toList⟩ := by decide +kernel
example : prevFrag ["ab cd  ".toList] 0 0 0 7 false .f = some ⟨0, 3, "cd".toList⟩ := by decide +kernel

/-! ## `pars()` -/

/-- **`pars_min`**: for a parenthesizable node (no shared-parenthesis case) `pars()` reports
`n = min(#opening delimiters found leftwards, #closing delimiters found rightwards)` (both lists start with the node
position, hence the `- 1`) and the span of the n-th pair; `n = 0` gives the node's own location.  Any lines, any
bounds. -/
theorem pars_min (lines : List Line) (a : ParsIn)
    (hp : a.parenthesizable = true)
    (hg : a.shared = .t ∨ a.soloGenexp = false)
    (hs : a.shared = .n ∨ a.soloShared = false) :
    let rp := nextDelims lines a.loc.endLn a.loc.endCol a.nextBound.1 a.nextBound.2
    let lp := prevDelims lines a.prevBound.1 a.prevBound.2 a.loc.ln a.loc.col
    let n := min lp.length rp.length - 1
    parsModel lines a =
      (if n = 0 then a.loc
       else ⟨(pairAt lp n).1, (pairAt lp n).2, (pairAt rp n).1, (pairAt rp n).2⟩, (n : Int)) :=
  Pfst.Scan.pars_min lines a hp hg hs

/-- The shared-parenthesis adjustment (sole call argument / class base / MatchClass pattern): the opening
parenthesis of the parent is not counted when there are not more opening than closing ones. -/
theorem pars_min_soloShared (lines : List Line) (a : ParsIn)
    (hp : a.parenthesizable = true)
    (hg : a.shared = .t ∨ a.soloGenexp = false)
    (hs : a.shared ≠ .n) (hss : a.soloShared = true) :
    let rp := nextDelims lines a.loc.endLn a.loc.endCol a.nextBound.1 a.nextBound.2
    let lp := prevDelims lines a.prevBound.1 a.prevBound.2 a.loc.ln a.loc.col
    let ll' := if lp.length ≤ rp.length then lp.length - 1 else lp.length
    let n := min ll' rp.length - 1
    parsModel lines a =
      (if n = 0 then a.loc
       else ⟨(pairAt lp n).1, (pairAt lp n).2, (pairAt rp n).1, (pairAt rp n).2⟩, (n : Int)) :=
  Pfst.Scan.pars_min_soloShared lines a hp hg hs hss

/-- `next_delims` on one line IS the character scan "skip spaces, count `)`, stop at anything else" (any text). -/
theorem nextDelims_single_line (A w : Line) :
    nextDelims [A ++ w] 0 A.length 0 (A ++ w).length = (0, A.length) :: scanClose A.length w :=
  Pfst.Scan.nextDelims_single_line A w

/-- `prev_delims` on one line (through the `state` cache: one forward scan, then pops) IS the backward character scan
"skip spaces, count `(`, stop at anything else", provided the text before the node has no `#` / backslash. -/
theorem prevDelims_single_line (W B : Line) (hsc : ∀ x ∈ W, isSpace x = true ∨ isCode x = true) :
    prevDelims [W ++ B] 0 0 0 W.length = (0, W.length) :: scanOpenK W.length W.reverse [] :=
  Pfst.Scan.prevDelims_single_line W B hsc

/-- **`pars()` is exact on the layout family** `pre ++ ("(" spaces)^g ++ node ++ (spaces ")")^g ++ post`, any `g`, any
spacing `s`, ANY node text, context without an adjacent parenthesis (the last non-blank of `pre` is not `(`, the first
non-blank of `post` is not `)`; `pre` free of `#` / backslash): exactly `g` pairs are reported and the span is that of
the outermost pair. -/
theorem pars_layout (pre node post : Line) (g s : Nat)
    (hpre : ∀ x ∈ pre, isSpace x = true ∨ isCode x = true)
    (hpre' : (pre.reverse.dropWhile isSpace).head? ≠ some '(')
    (hpost : (post.dropWhile isSpace).head? ≠ some ')') :
    parsModel [pre ++ openRun g s ++ node ++ closeRun g s ++ post]
        ⟨⟨0, (pre ++ openRun g s).length, 0, (pre ++ openRun g s ++ node).length⟩,
         (0, (pre ++ openRun g s ++ node ++ closeRun g s ++ post).length), (0, 0), .t, true, false, false⟩ =
      (if g = 0 then ⟨0, (pre ++ openRun g s).length, 0, (pre ++ openRun g s ++ node).length⟩
       else ⟨0, pre.length, 0, (pre ++ openRun g s ++ node ++ closeRun g s).length⟩, (g : Int)) :=
  Pfst.Scan.pars_layout pre node post g s hpre hpre' hpost

/-- Unbalanced context (`g1` opening, `g2` closing, own spacings): `min g1 g2` pairs, innermost ones. -/
theorem pars_layout_unbalanced (pre node post : Line) (g1 s1 g2 s2 : Nat)
    (hpre : ∀ x ∈ pre, isSpace x = true ∨ isCode x = true)
    (hpre' : (pre.reverse.dropWhile isSpace).head? ≠ some '(')
    (hpost : (post.dropWhile isSpace).head? ≠ some ')') :
    parsModel [pre ++ openRun g1 s1 ++ node ++ closeRun g2 s2 ++ post]
        ⟨⟨0, (pre ++ openRun g1 s1).length, 0, (pre ++ openRun g1 s1 ++ node).length⟩,
         (0, (pre ++ openRun g1 s1 ++ node ++ closeRun g2 s2 ++ post).length), (0, 0), .t, true, false, false⟩ =
      (if min g1 g2 = 0 then ⟨0, (pre ++ openRun g1 s1).length, 0, (pre ++ openRun g1 s1 ++ node).length⟩
       else ⟨0, pre.length + (g1 - min g1 g2) * (s1 + 1), 0, (pre ++ openRun g1 s1 ++ node).length + min g1 g2 * (s2 + 1)⟩,
       ((min g1 g2 : Nat) : Int)) :=
  Pfst.Scan.pars_layout_unbalanced pre node post g1 s1 g2 s2 hpre hpre' hpost

/- Not proved (full statement): exactness for multi-line layouts with comments / continuation lines between the
parentheses and for bounds other than the line ends.  Covered by `decide` examples below and by the correspondence
(every node of every corpus program) + the token-matcher sweep. -/
example : parsModel ["x = ((a))".toList] ⟨⟨0, 6, 0, 7⟩, (0, 9), (0, 0), .t, true, false, false⟩ = (⟨0, 4, 0, 9⟩, 2) := by decide +kernel
example : parsModel ["x = ( \\".toList, "  ( # comment".toList, "a".toList, ") # c2".toList, " )".toList]
    ⟨⟨2, 0, 2, 1⟩, (4, 2), (0, 0), .t, true, false, false⟩ = (⟨0, 4, 4, 2⟩, 2) := by decide +kernel
example : parsModel ["f((a))".toList] ⟨⟨0, 3, 0, 4⟩, (0, 6), (0, 0), .t, true, false, true⟩ = (⟨0, 2, 0, 5⟩, 1) := by decide +kernel
example : parsModel ["f(i for i in j)".toList] ⟨⟨0, 1, 0, 15⟩, (0, 15), (0, 0), .f, true, true, true⟩ = (⟨0, 2, 0, 14⟩, -1) := by decide +kernel

/-! ## `bloc` = `loc` ∪ trailing line comment of the last line -/

/-- When the text after the end of `loc` on the last line is blanks followed by a comment, `bloc` ends at the end of
the line (= the end of the comment token, a comment runs to the end of its line). -/
theorem bloc_covers_comment (pre sp c : Line) :
    blocEndCol (pre ++ sp ++ '#' :: c) pre.length = (pre ++ sp ++ '#' :: c).length := by
  unfold blocEndCol
  have h : ((pre ++ sp ++ '#' :: c).drop pre.length) = sp ++ '#' :: c := by
    rw [List.append_assoc, List.drop_left]
  rw [h]
  simp

/-- ... and when no `#` follows the end of `loc` on the last line, `bloc` ends where `loc` ends. -/
theorem bloc_eq_loc_of_no_comment (l : Line) (endCol : Nat) (h : ∀ ch ∈ l.drop endCol, ch ≠ '#') :
    blocEndCol l endCol = endCol := by
  unfold blocEndCol
  exact if_neg fun hc => h '#' (List.contains_iff_mem.mp hc) rfl

/-- After the comment is replaced (`pre ++ old` becomes `pre ++ new`, both holding a comment) the bounding location
is that of the NEW line: an answer remembered from before the edit is wrong exactly when the lengths differ. -/
theorem bloc_after_comment_edit (pre sp c sp' c' : Line) :
    blocEndCol (pre ++ sp' ++ '#' :: c') pre.length = (pre ++ sp' ++ '#' :: c').length ∧
    ((sp ++ '#' :: c).length ≠ (sp' ++ '#' :: c').length →
      blocEndCol (pre ++ sp ++ '#' :: c) pre.length ≠ blocEndCol (pre ++ sp' ++ '#' :: c') pre.length) := by
  refine ⟨bloc_covers_comment pre sp' c', fun hne => ?_⟩
  rw [bloc_covers_comment, bloc_covers_comment]
  simp only [List.length_append, List.length_cons] at *
  omega

/-- deleting the comment (only blanks remain after the node) brings `bloc` back to `loc` -/
theorem bloc_after_comment_delete (pre sp : Line) (hsp : ∀ ch ∈ sp, ch ≠ '#') :
    blocEndCol (pre ++ sp) pre.length = pre.length := by
  apply bloc_eq_loc_of_no_comment
  rw [List.drop_left]; exact hsp

example : blocEndCol "    call(i)  # old".toList 11 = 18 := by decide +kernel
example : blocEndCol "    call(i)  # a much longer comment".toList 11 = 36 := by decide +kernel
example : blocEndCol "    call(i)".toList 11 = 11 := by decide +kernel
example : blocEndCol "    x = '#'".toList 11 = 11 := by decide +kernel
/-! ## by-location search = brute force over all nodes (repaired `find_contains_loc` / `find_loc`) -/

/-- **`find_contains_loc` on real walk lists, decorated definitions included** (all three `allow_exact` values): on
every list that is well-formed in the sense `wfListD` (children inside parents, later subtrees after earlier ones,
decorators before their definition — evaluated by the driver on every real list) and every non-empty rectangle, the pass
with its `continue`, its early exits, the `'top'` exit and the decorator search returns what a brute-force scan over all
nodes returns: the LAST candidate of the subtree in walk order (= the deepest node containing the rectangle), for
`'top'` the FIRST candidate that matches exactly (= the highest of the nodes sharing the location), else the start
node.  (For an EMPTY rectangle at the end of a decorator the statement is false of the code, see
`Pfst.Scan.exDecoEmpty`.) -/
theorem findContains_bruteforce (decos : List Nat) (nodes : List FNode) (q : Loc) (ae : AllowExact)
    (hwf : wfListD decos nodes = true) (hq : nonEmpty q) :
    (findContainsD decos nodes q ae).map (·.1) = bruteContains nodes q ae :=
  Pfst.Scan.findContainsD_bruteforce decos nodes q ae hwf hq

/-- The same on plainly well-formed lists (`wfList`: no node outside its parent), any rectangle, empty ones
included. -/
theorem findContains_bruteforce_wf (decos : List Nat) (nodes : List FNode) (q : Loc) (ae : AllowExact)
    (hwf : wfList nodes = true) :
    (findContainsD decos nodes q ae).map (·.1) = bruteContains nodes q ae :=
  Pfst.Scan.findContainsD_bruteforce_wf decos nodes q ae hwf

/-- The decorator search changes nothing where no node lies outside its parent. -/
theorem findContains_decorators_inert (decos : List Nat) (nodes : List FNode) (q : Loc) (ae : AllowExact)
    (hwf : wfList nodes = true) : findContainsD decos nodes q ae = findContains nodes q ae :=
  Pfst.Scan.findContainsD_eq_of_wf decos nodes q ae hwf

/-- "last candidate in walk order" is "deepest candidate": on a well-formed list the candidates form a chain of
strictly increasing depth, so the brute-force pick is the unique deepest one. -/
theorem bruteContains_deepest (nodes : List FNode) (q : Loc) (ax : Bool) (r : FNode) (hwf : wfList nodes = true)
    (hlast : (((subtree nodes).drop 1).filter (candContains q ax)).getLast? = some r) :
    candContains q ax r = true ∧ r ∈ (subtree nodes).drop 1 ∧
    ∀ c ∈ (subtree nodes).drop 1, candContains q ax c = true → c.depth ≤ r.depth ∧ (c.depth = r.depth → c = r) :=
  Pfst.Scan.bruteContains_deepest nodes q ax r hwf hlast

/-- "first exact candidate in walk order" is "highest of the nodes sharing the location" (`'top'`). -/
theorem bruteContains_top_highest (nodes : List FNode) (q : Loc) (r : FNode) (hwf : wfList nodes = true)
    (hfirst : (((subtree nodes).drop 1).filter (candContains q true)).find? (fun f => exactQ f q) = some r) :
    exactQ r q = true ∧ candContains q true r = true ∧ r ∈ (subtree nodes).drop 1 ∧
    ∀ c ∈ (subtree nodes).drop 1, candContains q true c = true → exactQ c q = true →
      r.depth ≤ c.depth ∧ (c.depth = r.depth → c = r) :=
  Pfst.Scan.bruteContains_top_highest nodes q r hwf hfirst

/-- `find_in_loc`: on a well-formed list the pass returns the FIRST node of the subtree (walk order) that lies inside
the rectangle. -/
theorem findIn_bruteforce (nodes : List FNode) (q : Loc) (hwf : wfList nodes = true) :
    findIn nodes q = bruteIn nodes q :=
  Pfst.Scan.findIn_bruteforce nodes q hwf

/-- `find_loc` is the documented three-way composition of the two brute-force selections. -/
theorem findLoc_bruteforce (decos : List Nat) (nodes : List FNode) (q : Loc) (exactTop : Bool)
    (hwf : wfList nodes = true) : findLoc decos nodes q exactTop = bruteLoc nodes q exactTop :=
  Pfst.Scan.findLoc_bruteforce decos nodes q exactTop hwf

/- Full statement wanted: `findLoc decos nodes q t = bruteLoc nodes q t` under `wfListD`.  Proved: the contains-part is
the brute force; the inside-part is still the pass `findIn` (there is no brute-force theorem for `find_in_loc` on
lists with decorated definitions: the walk yields a definition before its decorators, so "first in walk order" and
"first in the text" differ there; the sweep compares with brute force on every real list). -/
/-- `find_loc` on lists with decorated definitions. -/
theorem findLoc_decorated_partial (decos : List Nat) (nodes : List FNode) (q : Loc) (exactTop : Bool)
    (hwf : wfListD decos nodes = true) (hq : nonEmpty q) :
    findLoc decos nodes q exactTop =
      match bruteContainsT nodes q (if exactTop then .top else .yes) with
      | none => findIn nodes q
      | some (f, ftail) =>
        if f.col == q.col && f.endCol == q.endCol && f.ln == q.ln && f.endLn == q.endLn then some f
        else match findIn (f :: ftail) q with
          | some g => some g
          | none => some f :=
  Pfst.Scan.findLoc_decorated_partial decos nodes q exactTop hwf hq

/-- Was finding C06-F1, now repaired: on `@deco\ndef f(): pass` (a list that is NOT plainly well-formed — the
definition's span starts after its decorator child — but is `wfListD`) the pass reaches the decorator name, like the
brute force, and `find_loc` answers it for a rectangle strictly inside it. -/
theorem findContains_decorated_witness :
    wfList exDeco = false ∧ wfListD [2] exDeco = true
    ∧ (findContainsD [2] exDeco ⟨0, 1, 0, 5⟩ .yes).map (·.1) = some ⟨2, 0, 1, 0, 5, 2⟩
    ∧ bruteContains exDeco ⟨0, 1, 0, 5⟩ .yes = some ⟨2, 0, 1, 0, 5, 2⟩
    ∧ findLoc [2] exDeco ⟨0, 2, 0, 4⟩ false = some ⟨2, 0, 1, 0, 5, 2⟩ :=
  Pfst.Scan.findContains_decorated_witness

/-- Was finding C06-F2, now repaired: on `'var\n'` (Module 0,0..1,0 > Expr 0,0..0,3 > Name 0,0..0,3) `exact_top=True`
/ `'top'` answer the `Expr` (highest of the nodes sharing the location), `exact_top=False` the `Name`. -/
theorem findLoc_exactTop_witness :
    wfList exVar = true
    ∧ findLoc [] exVar ⟨0, 0, 0, 3⟩ true = some ⟨1, 0, 0, 0, 3, 1⟩
    ∧ findLoc [] exVar ⟨0, 0, 0, 3⟩ false = some ⟨2, 0, 0, 0, 3, 2⟩
    ∧ (findContainsD [] exVar ⟨0, 0, 0, 3⟩ .top).map (·.1) = some ⟨1, 0, 0, 0, 3, 1⟩
    ∧ bruteContains exVar ⟨0, 0, 0, 3⟩ .top = some ⟨1, 0, 0, 0, 3, 1⟩ :=
  Pfst.Scan.findLoc_exactTop_witness

example : wfList exNodes = true := by decide +kernel
example : findLoc [] exNodes ⟨0, 4, 0, 5⟩ false = some ⟨5, 0, 4, 0, 5, 3⟩ := by decide +kernel
example : nonEmpty ⟨0, 1, 0, 5⟩ := by unfold nonEmpty; decide +kernel
example : (findContainsD [2] exDeco ⟨0, 1, 0, 5⟩ .yes).map (·.1) = bruteContains exDeco ⟨0, 1, 0, 5⟩ .yes :=
  findContains_bruteforce [2] exDeco ⟨0, 1, 0, 5⟩ .yes (by decide +kernel) (by unfold nonEmpty; decide +kernel)

end Pfst.C06
