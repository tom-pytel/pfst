import Pfst.TableCheckLemmas
import Pfst.Gen.SyntaxOrder
import Pfst.Gen.NextPrev
/-! C14, tables, first half of the shapes (the kernel evaluations are spread over five modules that build in
parallel: C14Tables, C14TablesB, C14Covers, C14Static, C14StaticB).  The tables are regenerated from the working tree on every run,
so these `decide`s are re-checked against the code that is there. -/
namespace Pfst.C14
open Pfst

theorem table_consistent_A : TableCheck.allOk Gen.SyntaxOrder.shapesEncA Gen.NextPrev.tablesEncA = true := by
  rw [TableCheck.allOk_eq_zip, Bool.and_eq_true]
  refine ⟨by decide +kernel, TableCheck.all_imp (fun st => TableCheck.rowOk_of st.1 st.2) ?_⟩
  decide +kernel

end Pfst.C14
