import Pfst.CoerceLemmas
import Pfst.Gen.Coerce

/-!
# C19 — coercion yields a valid node of the requested kind with the same content

Model: `Pfst/Coerce.lean` (`toPattern` = `_coerce_to_pattern_ast`, `toExpr` = `_coerce_to_expr_ast` on patterns,
`coerce` = `code_as(..., coerce=True)` for the modes `expr`, `pattern`, `Tuple`, `List`, `Set`).  `fmt` is Python's
`is_FST` (the operand carries source).  The matrix `Pfst/Gen/Coerce.lean` is regenerated from `/repo` on every run.

Trusted: the transcription of the Python functions into the model (validated differentially on every run against the
real functions and the public entry points, both routes) and the harness' translation of CPython trees to the model.
-/
namespace Pfst.C19
open Pfst.Coerce

/-- **Expression -> pattern keeps the content.**  Whenever the coercion returns, the pattern has exactly the names and
constants of the expression, in the same order (wildcard = the name `_`).  Any tree, any depth, both routes. -/
theorem toPattern_leaves (fmt : Bool) (e : Expr) (p : Pattern) (h : toPattern fmt e = some p) :
    p.leaves = e.leaves := toPattern_leaves' fmt e p h

/-- **Pattern -> expression keeps the content.** -/
theorem toExpr_leaves (fmt : Bool) (p : Pattern) (e : Expr) (h : toExpr fmt p = some e) :
    e.leaves = p.leaves := toExpr_leaves' fmt p e h

/-- **Round trip** (pure-AST route).  A converted expression converts back, and the result is the expression's normal
form `Expr.norm`: exactly the same tree except that every converted `Tuple`/`Set` has become a `List` (a pattern
sequence has no kind) and the source-only `lpar` annotation is gone.  In particular the wildcard `_`, `*_`, `**rest`,
keyword order, `None/True/False` and a flattened `(a | b) | c` all come back exactly.
(Exact equality `e' = e` is false: `toPattern false (.tuple []) = some (.seq .other [])`, which gives `.list []`.) -/
theorem roundtrip (e : Expr) (p : Pattern) (h : toPattern false e = some p) :
    toExpr false p = some e.norm := roundtrip' e p h

/-- the normal form differs from the expression in container kinds only: same leaves -/
theorem norm_leaves (e : Expr) : e.norm.leaves = e.leaves := norm_leaves' e

/-- **Already the requested kind: returned unchanged** (the guard of `_code_as` / `_code_as_expr`). -/
theorem same_kind_id (fmt : Bool) (t : Target) (n : Node) (h : kindOK n t = true) : coerce fmt t n = some n := by
  simp [coerce, h]

theorem wrap_kind (k : SeqKind) (es : List Expr) : (k.wrap es).seqKind = some k ∧ (k.wrap es).elts = es := by
  cases k <;> simp [SeqKind.wrap, Expr.seqKind, Expr.elts]

theorem secondStep_leaves (fmt : Bool) (r x : Expr) (hs : r.seqKind.isSome = true) (h : secondStep fmt r = some x) :
    x.leaves = r.leaves := by
  unfold secondStep at h
  split at h <;> simp at h
  subst h
  cases r <;> simp [Expr.seqKind] at hs <;> simp [Expr.leaves, Expr.elts]

theorem firstStep_leaves {fmt : Bool} {n : Node} {y : Expr} (h : firstStep fmt n = some y) : y.leaves = n.leaves := by
  cases n with
  | p q => exact toExpr_leaves' fmt q y h
  | e q =>
    cases q <;> simp [firstStep] at h <;> (try subst h) <;> simp [Node.leaves, Expr.leaves]
    next es => obtain ⟨_, h2⟩ := h; subst h2; simp [Expr.leaves]

theorem exprAst_some {fmt : Bool} {ts : TwoStep} {n : Node} {x : Expr} (h : exprAst fmt ts n = some x) :
    ∃ y, firstStep fmt n = some y ∧ (x = y ∨ (y.seqKind.isSome = true ∧ secondStep fmt y = some x)) := by
  unfold exprAst at h
  cases hy : firstStep fmt n with
  | none => simp [hy] at h
  | some y =>
    refine ⟨y, rfl, ?_⟩
    simp only [hy] at h
    cases hk : y.seqKind with
    | none => cases ts <;> simp [hk] at h <;> exact .inl h.symm
    | some k =>
      -- the second step runs only for a `List`/`Set` under `.yes`, or under `.to` another kind
      cases ts <;> cases k <;> simp only [hk] at h <;> (try split at h) <;>
        first | exact .inl (Option.some.inj h).symm | exact .inr ⟨rfl, h⟩

theorem exprAst_leaves {fmt : Bool} {ts : TwoStep} {n : Node} {x : Expr} (h : exprAst fmt ts n = some x) :
    x.leaves = n.leaves := by
  obtain ⟨y, hy, rfl | ⟨hs, h2⟩⟩ := exprAst_some h
  · exact firstStep_leaves hy
  · rw [secondStep_leaves fmt y x hs h2]; exact firstStep_leaves hy

theorem coerce_seq_some {fmt : Bool} {k : SeqKind} {n r : Node} (hk : kindOK n (.seq k) = false)
    (h : coerce fmt (.seq k) n = some r) :
    ∃ ts x, exprAst fmt ts n = some x ∧
      ((x.seqKind = some k ∧ r = .e x) ∨ ∃ es, x = .tuple es ∧ r = .e (k.wrap es)) := by
  cases k with
  | tuple =>
    simp only [coerce, hk, Bool.false_eq_true, if_false] at h
    split at h
    · next es hx => exact ⟨_, _, hx, .inl ⟨rfl, (Option.some.inj h).symm⟩⟩
    · simp at h
  | list | set =>
    simp only [coerce, hk, Bool.false_eq_true, if_false] at h
    split at h
    · simp at h
    · next x hx =>
      split at h
      · next hs => exact ⟨_, x, hx, .inl ⟨by simpa using hs, (Option.some.inj h).symm⟩⟩
      · split at h
        · exact ⟨_, _, hx, .inr ⟨_, rfl, (Option.some.inj h).symm⟩⟩
        · simp at h

/-- **Refuses or returns the requested kind.** -/
theorem refuses_or_kind (fmt : Bool) (t : Target) (n r : Node) (h : coerce fmt t n = some r) : kindOK r t = true := by
  by_cases hk : kindOK n t = true
  · rw [same_kind_id fmt t n hk] at h
    cases h; exact hk
  · have hk' : kindOK n t = false := by simpa using hk
    cases t with
    | pattern =>
      cases n with
      | e x => simp [coerce, hk'] at h; obtain ⟨p, _, rfl⟩ := h; rfl
      | p x => simp [kindOK] at hk'
    | expr => simp [coerce, hk'] at h; obtain ⟨x, _, rfl⟩ := h; rfl
    | seq k =>
      obtain ⟨ts, x, _, ⟨hs, rfl⟩ | ⟨es, rfl, rfl⟩⟩ := coerce_seq_some hk' h
      · simpa [kindOK] using hs
      · simp [kindOK, (wrap_kind k es).1]

/-- the crash of the second step on a pure AST -/
theorem coerce_seq_pure_twostep (k : SeqKind) (n : Node) (es : List Expr) (hk : kindOK n (.seq k) = false)
    (hf : firstStep false n = some (.list es)) (hne : k ≠ .list) : coerce false (.seq k) n = none := by
  cases k <;> simp [coerce, hk, exprAst, secondStep, hf, Expr.seqKind] at hne ⊢

theorem coerce_seq_elts {fmt : Bool} {k : SeqKind} {n r : Node} (hk : kindOK n (.seq k) = false)
    (h : coerce fmt (.seq k) n = some r) :
    ∃ y r', firstStep fmt n = some y ∧ y.seqKind.isSome = true ∧ r = .e r' ∧ r'.seqKind = some k ∧ r'.elts = y.elts := by
  obtain ⟨ts, x, hx, hr⟩ := coerce_seq_some hk h
  obtain ⟨y, hy, hxy⟩ := exprAst_some hx
  have hxs : x.seqKind.isSome = true := by
    rcases hr with ⟨hs, _⟩ | ⟨es, rfl, _⟩
    · simp [hs]
    · rfl
  have hx' : y.seqKind.isSome = true ∧ x.elts = y.elts := by
    rcases hxy with rfl | ⟨hs, h2⟩
    · exact ⟨hxs, rfl⟩
    · unfold secondStep at h2
      split at h2 <;> simp at h2
      subst h2; exact ⟨hs, rfl⟩
  rcases hr with ⟨hsk, rfl⟩ | ⟨es, rfl, rfl⟩
  · exact ⟨y, x, hy, hx'.1, rfl, hsk, hx'.2⟩
  · exact ⟨y, _, hy, hx'.1, rfl, (wrap_kind k es).1, (wrap_kind k es).2.trans hx'.2⟩

/-- **Sequence coercion keeps exactly the elements, in order**: a `Tuple`/`List`/`Set` coerced to any of the three
kinds is a node of the requested kind with the same element list (nothing dropped, duplicated or reordered,
whatever the length). -/
theorem seq_elements (fmt : Bool) (k : SeqKind) (e : Expr) (r : Node) (hs : e.seqKind.isSome = true)
    (h : coerce fmt (.seq k) (.e e) = some r) :
    ∃ r', r = .e r' ∧ r'.seqKind = some k ∧ r'.elts = e.elts := by
  by_cases hk : kindOK (.e e) (.seq k) = true
  · rw [same_kind_id fmt _ _ hk] at h
    cases h
    exact ⟨e, rfl, by simpa [kindOK] using hk, rfl⟩
  · obtain ⟨y, r', hy, _, rfl, hrk, hre⟩ := coerce_seq_elts (by simpa using hk) h
    refine ⟨r', rfl, hrk, hre.trans ?_⟩
    cases e <;> simp [Expr.seqKind] at hs <;> simp [firstStep] at hy
    all_goals simp [← hy, Expr.elts]

/-- **A sequence pattern coerced to `Tuple`/`List`/`Set`** has exactly the converted sub-patterns as elements, in order. -/
theorem seq_elements_pattern (fmt : Bool) (k : SeqKind) (d : Delim) (ps : List Pattern) (r : Node)
    (h : coerce fmt (.seq k) (.p (.seq d ps)) = some r) :
    ∃ r' es, r = .e r' ∧ r'.seqKind = some k ∧ toExprs fmt ps = some es ∧ r'.elts = es := by
  obtain ⟨y, r', hy, _, rfl, hrk, hre⟩ := coerce_seq_elts (by simp [kindOK]) h
  simp only [firstStep, toExpr] at hy
  cases hps : toExprs fmt ps <;> simp only [hps] at hy
  · simp at hy
  · next es =>
    refine ⟨r', es, rfl, hrk, rfl, hre.trans ?_⟩
    split at hy <;> cases hy <;> rfl

/-- **Whatever `coerce` returns has the operand's leaves** (all five modelled modes, both routes). -/
theorem coerce_leaves (fmt : Bool) (t : Target) (n r : Node) (h : coerce fmt t n = some r) : r.leaves = n.leaves := by
  by_cases hk : kindOK n t = true
  · rw [same_kind_id fmt t n hk] at h
    cases h; rfl
  · have hk' : kindOK n t = false := by simpa using hk
    cases t with
    | pattern =>
      cases n with
      | e x => simp [coerce, hk'] at h; obtain ⟨p, hp, rfl⟩ := h; exact toPattern_leaves' fmt x p hp
      | p x => simp [kindOK] at hk'
    | expr => simp [coerce, hk'] at h; obtain ⟨x, hx, rfl⟩ := h; exact exprAst_leaves hx
    | seq k =>
      obtain ⟨ts, x, hx, ⟨_, rfl⟩ | ⟨es, rfl, rfl⟩⟩ := coerce_seq_some hk' h
      · exact exprAst_leaves hx
      · rw [← exprAst_leaves hx]; cases k <;> rfl

/-! ### `arguments` operands of the special containers (`Pfst/CoerceArgs.lean`) -/

/-- **`arguments` -> `_type_params` keeps names and annotations in source order**: plain parameters, `*vararg`,
keyword-only parameters, `**kwarg` - in that order, whatever the lengths. -/
theorem args_type_params_leaves (a : Arguments) (ts : List TParam) (h : argsToTypeParams a = some ts) :
    leavesTs ts = a.leaves := argsToTypeParams_leaves' a ts h

/-- **`arguments` -> `_pattern_attrlikes` keeps the content**: positional patterns then keyword patterns have exactly the
parameter names (`_` = wildcard) and the leaves of the defaults, in source order (defaults come last in valid
`arguments`). -/
theorem args_attrlikes_leaves (fmt : Bool) (a : Arguments) (ps ks : List Pattern)
    (hs : defaultsSuffix a.args = true) (h : argsToAttrlikes fmt a = some (ps, ks)) :
    leavesP ps ++ leavesP ks = a.leaves := argsToAttrlikes_leaves' fmt a ps ks hs h

/-! ### formatted route vs pure-AST route

Full statement (property text: "coercing a formatted node and coercing its pure AST give structurally equal results"):
`∀ e, toPattern true e = toPattern false e` and `∀ p, toExpr true p = toExpr false p`.  Both are FALSE of the code. -/

/-- On expressions without a parenthesised left operand of `|` the two routes build the same pattern.
(The `toExpr` half - equal results when every `MatchSequence` is written with `[...]` - is not proved; the difference
itself is `routes_agree_false`.) -/
theorem routes_agree_partial (e : Expr) (h : e.plain = true) : toPattern true e = toPattern false e :=
  toPattern_routes' e h

/-- `(a | b) | c`: the formatted route keeps the nesting (`MatchOr[MatchOr[a, b], c]`), the pure route flattens
(`MatchOr[a, b, c]`).  `a, b` (a bare or parenthesised sequence pattern): formatted route gives a `Tuple`, pure route
a `List`. -/
theorem routes_agree_false :
    toPattern true (.binop (.binop (.name "a") .bitor (.name "b") false) .bitor (.name "c") true)
      ≠ toPattern false (.binop (.binop (.name "a") .bitor (.name "b") false) .bitor (.name "c") true)
    ∧ toExpr true (.seq .other [.capture (some "a"), .capture (some "b")])
      ≠ toExpr false (.seq .other [.capture (some "a"), .capture (some "b")]) := by
  constructor <;> simp [toPattern, toExpr, toExprs, Expr.isStarred, wild, unwild]

/-! ### the extracted coercion matrix (regenerated from /repo on every run) -/

open Pfst.Gen.Coerce

/-- outcome code is "returned a node of kind `o - 1`" -/
def isCoerces (o : Nat) : Bool := decide (0 < o) && decide (o < 1000)

def disabledNeverCoerces : Bool :=
  table.all fun (_, row) => row.all fun c => !(isCoerces (cellOff c))

def sameStable : Bool :=
  table.all fun (_, row) => row.all fun c => cellOff c != 0 || cellOn c == 0

/-- every kind a mode coerces to is a kind the same mode returns unchanged when it is given one -/
def coercesToAccepted : Bool :=
  table.all fun (_, row) => row.all fun c =>
    !(isCoerces (cellOn c)) || row.any fun c' => cellKind c' + 1 == cellOn c && cellOff c' == 0

/-- **`coerce=False` never changes anything**: every cell of the matrix with coercion disabled is "returned unchanged"
or "raised". -/
theorem matrix_disabled_never_coerces : disabledNeverCoerces = true := by decide +kernel

/-- **Already accepted ⇒ unchanged**: wherever a mode returns the witness unchanged with coercion disabled, it returns
it unchanged with coercion enabled. -/
theorem matrix_same_stable : sameStable = true := by decide +kernel

/-- **Refuses or requested kind** on the whole matrix: every result kind of a coercion into a mode is a kind that mode
accepts as it is. -/
theorem matrix_refuses_or_kind : coercesToAccepted = true := by
  -- search only the cells of the row that are "returned unchanged": the kernel filters a row once, instead of walking
  -- the whole row for each of its coercing cells
  have h (row : List Nat) (o : Nat) : (row.any fun c' => cellKind c' + 1 == o && cellOff c' == 0)
      = (row.filter (cellOff · == 0)).any (cellKind · + 1 == o) := by
    simp only [List.any_filter, Bool.and_comm]
  unfold coercesToAccepted
  simp only [h]
  decide +kernel

/-! ### non-vacuity: concrete trees meeting the hypotheses -/

/-- `{1: [a, *_], **rest}` -/
private def ex1 : Expr :=
  .dict [.kv (.const (.int false "1")) (.list [.name "a", .starred (.name "_")]), .dstar (.name "rest")]

/-- `cls(a, (b, None), k=x | -1 | 1+2j, l=m.n)` -/
private def ex2 : Expr :=
  .call (.name "cls")
    [.name "a", .tuple [.name "b", .const .none]]
    [.kw (some "k") (.binop (.binop (.name "x") .bitor (.unop .usub (.const (.int false "1"))) false) .bitor
        (.binop (.const (.int false "1")) .add (.const (.imag false "2j")) false) false),
     .kw (some "l") (.attr (.name "m") "n")]

example : toPattern false ex1 = some (.mapping
    [.mkv (.const (.int false "1")) (.seq .brackets [.capture (some "a"), .star none])] (some "rest")) := by rfl
example : (toPattern false ex1).map Pattern.leaves = some ex1.leaves := by decide +kernel
example : (toPattern true ex2).isSome = true := by decide +kernel
example : (toPattern false ex2).bind (toExpr false) = some ex2.norm := by rfl
example : ex2.norm ≠ ex2 := by simp [ex2, Expr.norm, normE]
-- refusals: `f(*a)`, `{**_}`, `a + b`, `_.x`, `{a | b: c}`
example : (toPattern false (.call (.name "f") [.starred (.name "a")] [])).isNone = true := by decide
example : (toPattern false (.dict [.dstar (.name "_")])).isNone = true := by decide
example : (toPattern false (.binop (.name "a") .add (.name "b") false)).isNone = true := by decide
example : (toPattern false (.attr (.name "_") "x")).isNone = true := by decide
example : (toPattern false (.dict [.kv (.binop (.name "a") .bitor (.name "b") false) (.name "c")])).isNone = true := by
  decide
-- `{...: c}`: an Ellipsis key is refused (repair C19-F3), `{None: c}` is not
example : (toPattern true (.dict [.kv (.const .ellipsis) (.name "c")])).isNone = true := by decide
example : (toPattern true (.dict [.kv (.const .none) (.name "c")])).isSome = true := by decide
-- `p as n` does not convert; `[a, *_]` converts to `[a, *_]`
example : (toExpr false (.asPat (.capture (some "a")) (some "n"))).isNone = true := by decide
example : toExpr true (.seq .brackets [.capture (some "a"), .star none])
    = some (.list [.name "a", .starred (.name "_")]) := by rfl
-- sequence re-wrapping: `(a, b)` to List; `[a, b]` pattern to Set (two steps); Tuple with a Slice refused
example : coerce true (.seq .list) (.e (.tuple [.name "a", .name "b"])) = some (.e (.list [.name "a", .name "b"])) := by
  rfl
example : coerce true (.seq .set) (.p (.seq .brackets [.capture (some "a"), .capture (some "b")]))
    = some (.e (.set [.name "a", .name "b"])) := by rfl
-- the same on a pure AST dies in the second step (`ast.f` of a node without `.f`: AttributeError), to List it works
example : (coerce false (.seq .set) (.p (.seq .brackets [.capture (some "a"), .capture (some "b")]))).isNone = true := by
  decide
example : coerce false (.seq .list) (.p (.seq .other [.capture (some "a"), .capture (some "b")]))
    = some (.e (.list [.name "a", .name "b"])) := by rfl
example : (coerce true (.seq .list) (.e (.tuple [.other "Slice" [], .name "b"]))).isNone = true := by decide +kernel
example : kindOK (.e (.list [])) (.seq .list) = true := by decide
example : (.binop (.name "a") .bitor (.name "b") false : Expr).plain = true := by decide
-- `x, *rest, key, **kw` as type parameters: `x, *rest, key, **kw`; `a, _, k=1` as class-pattern attributes: `a, _, k=1`
private def exArgs : Arguments :=
  { posonly := [], args := [⟨"x", none, none⟩], vararg := some ⟨"rest", none, none⟩, kwonly := [⟨"key", none, none⟩],
    kwarg := some ⟨"kw", none, none⟩ }
example : (argsToTypeParams exArgs).map leavesTs = some [.name "x", .name "rest", .name "key", .name "kw"] := by decide +kernel
private def exArgs2 : Arguments :=
  { posonly := [], args := [⟨"a", none, none⟩, ⟨"_", none, none⟩, ⟨"k", none, some (.const (.int false "1"))⟩],
    vararg := none, kwonly := [], kwarg := none }
example : (argsToAttrlikes true exArgs2).map (fun r => leavesP r.1 ++ leavesP r.2) = some exArgs2.leaves := by decide +kernel
example : defaultsSuffix exArgs2.args = true := by decide
example : (argsToAttrlikes true exArgs2).map (fun r => r.1.length) = some 2 := by decide
example : (argsToTypeParams { exArgs with vararg := none }).isNone = true := by decide

end Pfst.C19
