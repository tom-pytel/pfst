import Pfst.IndexLemmas
import Pfst.Gen.Handlers

/-!
# C03 — edits follow Python container semantics and change nothing else in the tree

Theorems about the executable model of pfst's index normalisation (`Pfst/Index.lean`), view windows
(`Pfst/View.lean`), virtual combined fields (`Pfst/Virt.lean`) and the extracted handler table
(`Pfst/Gen/Handlers.lean`).  The SPEC side (`pyClamp`, `pySliceIndices`, `pyIndex`, `List.take/drop`) is written
independently of the model.  What the handlers then do with the text is not modelled: the per-field law
"field after = old[:start] + new + old[stop:], everything else unchanged" is evaluated directly on the real code by the
harness sweep (`harness/props/C03.py`).
-/
namespace Pfst.C03
open Pfst.Index Pfst.View Pfst.Virt

/-! ## index normalisation -/

/-- **fixup_slice_indices agrees with Python's `slice.indices`** whenever it does not refuse: the pair it returns is
`slice(start, stop).indices(len)` (with `'end'` read as `len` for a start and as an omitted bound for a stop), and it is a
well-formed range of the list. -/
theorem fixupSlice_spec (n : Nat) (a b : Idx) (s e : Int) (h : fixupSlice n a b 0 = some (s, e)) :
    (s, e) = pySliceIndices n (a.pyStart n) b.pyStop ∧ 0 ≤ s ∧ s ≤ e ∧ e ≤ n := by
  rw [pySliceIndices_clip]
  obtain ⟨rfl, rfl, _⟩ := fixupSlice_eq_some.mp h
  exact ⟨rfl, fixupSlice_range n a b _ _ h⟩

/-- **fixup_slice_indices refuses exactly** when Python's clipped start lies after Python's clipped stop (the
documented `IndexError('start index must precede stop index')`; Python itself would treat that as an empty slice at
`start`). -/
theorem fixupSlice_refuses_only (n : Nat) (a b : Idx) :
    fixupSlice n a b 0 = none ↔
      (pySliceIndices n (a.pyStart n) b.pyStop).2 < (pySliceIndices n (a.pyStart n) b.pyStop).1 := by
  rw [pySliceIndices_clip]
  unfold fixupSlice
  simp only
  split <;> simp_all

/-- **Docstring offset** (`_body`): clipping in the real `body` of length `n + 1` with `start_at = 1` is clipping in
the docstring-less list of length `n`, shifted by one — so `_body` behaves like a Python list of the non-docstring
statements (refusals included). -/
theorem fixupSlice_startAt (n : Nat) (a b : Idx) :
    fixupSlice (n + 1) a b 1 = (fixupSlice n a b 0).map (fun p => (p.1 + 1, p.2 + 1)) := by
  unfold fixupSlice
  simp only [clipStart_eq_clipStop, clipStop_shift]
  -- both bounds have moved by one, so the two refusal tests `e < s` agree and the accepted pairs differ by `(1, 1)`
  split <;> split <;> simp <;> omega

/-- **fixup_one_index agrees with Python list indexing**: accepted exactly when `range(len)[i]` exists, and then it is
that position; `'end'` is never a valid single index. -/
theorem fixupOne_spec (n : Nat) (k : Int) : fixupOne n (.i k) 0 = pyIndex n k ∧ fixupOne n .end 0 = none := by
  constructor
  · simp only [fixupOne, pyIndex]; grind
  · simp [fixupOne]

/-- single index with the docstring offset: the same as indexing the docstring-less list, plus one -/
theorem fixupOne_startAt (n : Nat) (i : Idx) : fixupOne (n + 1) i 1 = (fixupOne n i 0).map (· + 1) := by
  cases i with
  | «end» => simp [fixupOne]
  | i k => simp only [fixupOne]; grind

/-! ## Python slice assignment on lists -/

/-- **Slice put law**: for a well-formed range, `xs[s:e] = new` is `xs[:s] + new + xs[e:]`, and the length changes by
`len(new) - (e - s)`. -/
theorem putSlice_law {α} (xs : List α) (s e : Nat) (new : List α) (h : s ≤ e) (he : e ≤ xs.length) :
    putSlice xs s e new = xs.take s ++ new ++ xs.drop e ∧
    (putSlice xs s e new).length + (e - s) = xs.length + new.length := by
  refine ⟨putSlice_eq xs s e new h, ?_⟩
  rw [length_putSlice xs s e new h he]
  omega

/-- reading back the slice that was put returns the new elements -/
theorem putSlice_get {α} (xs : List α) (s e : Nat) (new : List α) (h : s ≤ e) (he : e ≤ xs.length) :
    getSlice (putSlice xs s e new) s (s + new.length) = new := by
  rw [putSlice_eq xs s e new h]
  exact (parts_append _ _ _ (by rw [List.length_take]; omega) rfl).1

/-- **Frame (inside the field)**: positions before the slice keep their element, positions after it keep theirs,
shifted by the length change. -/
theorem putSlice_frame {α} (xs : List α) (s e : Nat) (new : List α) (h : s ≤ e) (he : e ≤ xs.length) :
    (∀ i, i < s → (putSlice xs s e new)[i]? = xs[i]?) ∧
    (∀ i, (putSlice xs s e new)[s + new.length + i]? = xs[e + i]?) := by
  rw [putSlice_eq xs s e new h]
  have hl : (xs.take s).length = s := by simp; omega
  constructor
  · intro i hi
    rw [List.append_assoc, List.getElem?_append_left (by omega)]
    simp [hi]
  · intro i
    rw [List.getElem?_append_right (by simp; omega)]
    simp only [List.length_append, hl, List.getElem?_drop]
    congr 1
    omega

/-- **Put-back law**: putting back the slice that was there changes nothing. -/
theorem putSlice_putback {α} (xs : List α) (s e : Nat) (h : s ≤ e) :
    putSlice xs s e (getSlice xs s e) = xs := by
  rw [putSlice_eq xs s e _ h, take_getSlice_drop xs s e h]

/-- deleting / replacing one element through the slice operation on `[j, j+1)` is `eraseIdx` / `set` -/
theorem putSlice_single {α} (xs : List α) (j : Nat) (x : α) (hj : j < xs.length) :
    putSlice xs j (j + 1) [] = xs.eraseIdx j ∧ putSlice xs j (j + 1) [x] = xs.set j x := by
  rw [putSlice_eq xs j (j + 1) _ (by omega), putSlice_eq xs j (j + 1) _ (by omega)]
  constructor
  · simp [List.eraseIdx_eq_take_drop_succ]
  · simp [List.set_eq_take_append_cons_drop, hj]

/-! ## entry-point equivalence (canonical normalisation) -/

/-- `insert(code, i, one)` is `put_slice(code, i, i, one)`, and so is `put(code, i, i, one)`: the `idx or 0` of `put`
leaves every int as it is. -/
theorem entry_insert (i : Int) (one : One) :
    canon (.insert (.int i) .omitted one) = canon (.putSlice (.int i) (.int i) .omitted one) ∧
    canon (.put (.int i) (.int i) .omitted one) = canon (.putSlice (.int i) (.int i) .omitted one) := by
  simp [canon, swizzle, orZero]

/-- `append(code)` = `insert(code, 'end')` = `put_slice(code, 'end', 'end', one=True)`; on a list of length `n` it is
the slice `[n, n)` — the same place as `insert(code, n)`. -/
theorem entry_append (n : Nat) :
    canon (.append .omitted) = canon (.insert .end .omitted (some true)) ∧
    resolve n 0 (canon (.append .omitted)) = some ((n : Int), (n : Int)) ∧
    resolve n 0 (canon (.insert (.int n) .omitted (some true))) = some ((n : Int), (n : Int)) := by
  refine ⟨by simp [canon, swizzle], by simp [canon, resolve, Arg.toIdx, fixupSlice, clipStart, clipStop], ?_⟩
  exact fixupSlice_inrange (Int.natCast_nonneg n) (Int.le_refl _) (Int.le_refl _)

/-- `prepend(code)` = `insert(code, 0)`, `extend` / `prextend` are the `one=False` forms at the same places. -/
theorem entry_prepend (n : Nat) (one : One) :
    canon (.prepend .omitted) = canon (.insert (.int 0) .omitted (some true)) ∧
    resolve n 0 (canon (.prepend .omitted)) = some (0, 0) ∧
    resolve n 0 (canon (.prextend .omitted one)) = some (0, 0) ∧
    resolve n 0 (canon (.extend .omitted one)) = some ((n : Int), (n : Int)) := by
  refine ⟨by simp [canon, swizzle], ?_, ?_, by simp [canon, resolve, Arg.toIdx, fixupSlice, clipStart, clipStop]⟩ <;>
    exact fixupSlice_inrange (Int.le_refl _) (Int.le_refl _) (Int.natCast_nonneg n)

/-- `put(code)` with no index is the whole-field slice `put_slice(code, 0, 'end')`; with only `'end'` it is an append
position; a field name may be passed in any positional slot. -/
theorem entry_put_forms (one : One) (f : String) :
    canon (.put .omitted .omitted .omitted one) = .slice (.int 0) .end .omitted one ∧
    canon (.put .end .omitted .omitted one) = .slice .end .end .omitted one ∧
    canon (.put (.name f) .omitted .omitted one) = canon (.put .omitted .omitted (.name f) one) ∧
    canon (.putSlice (.name f) .end .omitted one) = canon (.putSlice (.int 0) .end (.name f) one) ∧
    canon (.putSlice (.int 2) (.name f) .omitted one) = canon (.putSlice (.int 2) .end (.name f) one) := by
  simp [canon, swizzle]

/-- **Single-element form = slice form**: `put(code, i)` / `remove` on a sliceable field resolve to the slice
`[j, j+1)` where `j` is the position Python's `xs[i]` denotes — and to a refusal exactly when `xs[i]` raises. -/
theorem entry_put_one (n : Nat) (i : Int) :
    resolve n 0 (canon (.put (.int i) .omitted .omitted (some true))) = (pyIndex n i).map (fun j => (j, j + 1)) := by
  have h := (fixupOne_spec n i).1
  have hc : canon (.put (.int i) .omitted .omitted (some true)) = .one (.int i) .omitted := by
    simp [canon, swizzle]
  rw [hc]
  simp only [resolve, Arg.toIdx, h]
  cases hp : pyIndex n i with
  | none => rfl
  | some j =>
    have : 0 ≤ j ∧ j < n := by
      simp only [pyIndex] at hp
      grind
    exact fixupSlice_inrange this.1 (by omega) (by omega)

/-! ## view windows -/

/-- **Self-healing**: whatever `_start` / `_stop` a view carries and however the field length changed behind its back,
`_base_indices` returns a well-formed window of the field, and healing is idempotent. -/
theorem view_heal (v : View) (len : Nat) :
    let (s, e, v1) := baseIndices v len
    s ≤ e ∧ e ≤ len ∧ baseIndices v1 len = (s, e, v1) := by
  rcases hb : baseIndices v len with ⟨s, e, v1⟩
  obtain ⟨hse, hel, rfl, hstop⟩ := baseIndices_shape v len s e v1 hb
  exact ⟨hse, hel, baseIndices_healed v1 len e hse hel hstop⟩

/-- **View window law**: assigning `new` to `view[a:b]` — with the base node's slice put obeying the list law — makes
the window show exactly what a Python list of the old window shows after `window[a:b] = new`; the field outside the
window is untouched. -/
theorem view_setitem {α} (v : View) (xs new : List α) (a b : Option Int) (ed : Edit)
    (h : setItem v xs.length (.slice a b) = some ed) :
    let (s, e, _) := baseIndices v xs.length
    ∃ a' b' : Nat, fixupItem (e - s) (.slice a b) = some ((a' : Int), some (b' : Int)) ∧ a' ≤ b' ∧ b' ≤ e - s ∧
      ed.s = s + a' ∧ ed.e = s + b' ∧
      (let xs' := putSlice xs (s + a') (s + b') new
       window (ed.after xs'.length) xs' = putSlice (getSlice xs s e) a' b' new ∧
       xs'.take s = xs.take s ∧ xs'.drop (e + new.length - (b' - a')) = xs.drop e) := by
  revert h
  simp only [setItem, fixupItem]
  rcases hb : baseIndices v xs.length with ⟨s, e, v1⟩
  obtain ⟨hse, hel, _, _⟩ := baseIndices_shape v xs.length s e v1 hb
  simp only
  intro h
  rcases hf : fixupSlice (e - s) (keyStart a) (keyStop b) with _ | ⟨x, y⟩
  · simp [hf] at h
  · obtain ⟨hx0, hxy, hyn⟩ := fixupSlice_range _ _ _ _ _ hf
    obtain ⟨a', rfl⟩ := Int.eq_ofNat_of_zero_le hx0
    obtain ⟨b', rfl⟩ := Int.eq_ofNat_of_zero_le (Int.le_trans hx0 hxy)
    have hab : a' ≤ b' := Int.ofNat_le.mp hxy
    have hbn : b' ≤ e - s := Int.ofNat_le.mp hyn
    simp only [hf, Option.map_some, Option.some.injEq] at h
    subst h
    refine ⟨a', b', rfl, hab, hbn, rfl, rfl, ?_⟩
    have hlen := length_putSlice xs (s + a') (s + b') new (Nat.add_le_add_left hab s) (by omega)
    obtain ⟨w, hw⟩ := baseIndices_bump v xs.length new.length (b' - a') s e v1 hb (Nat.le_trans (Nat.sub_le _ _) hbn)
    simp only [window, hlen, Nat.add_sub_add_left, hw]
    exact putSlice_window xs new hse hel hab hbn

/-- **`view.insert` agrees with `FST.insert`** on a whole-field view: the view's own index arithmetic (clip to the view
length, negative from the end, floor at 0) gives the place `fixup_slice_indices` gives. -/
theorem view_insert_agrees (n : Nat) (idx : Idx) :
    some ((Pfst.View.insert ⟨0, none⟩ n idx).s, (Pfst.View.insert ⟨0, none⟩ n idx).e) = fixupSlice n idx idx 0 := by
  cases idx with
  | «end» => simp [Pfst.View.insert, baseIndices, fixupSlice, clipStart, clipStop]
  | i k => simp only [Pfst.View.insert, baseIndices, fixupSlice, clipStart, clipStop]; grind

/-- `del view[i]` addresses the element Python's `window[i]` denotes (`view[i] = x` takes its index from the same
`fixupItem`) -/
theorem view_item_index (v : View) (len : Nat) (k : Int) (ed : Edit) (h : delItem v len (.int k) = some ed) :
    let (s, e, _) := baseIndices v len
    ∃ j, pyIndex (e - s) k = some j ∧ ed.s = s + j ∧ ed.e = s + j + 1 := by
  revert h
  simp only [delItem, fixupItem]
  rcases baseIndices v len with ⟨s, e, v1⟩
  simp only
  rw [(fixupOne_spec (e - s) k).1]
  cases pyIndex (e - s) k with
  | none => simp
  | some j => simp only [Option.map_some, Option.some.injEq]; rintro rfl; exact ⟨j, rfl, rfl, rfl⟩

/-- **Name indexing = integer indexing**: when `view['name']` resolves to a direct child, the index it computes is a
valid non-negative index of the window (`_fixup_item_indices` of that int returns it unchanged, so `__getitem__`,
`__setitem__`, `__delitem__` and `at` by name are the same operation as by that int), the element it addresses in the real
field — view start, plus docstring offset for `_body` — is a definition of that name, and it is the first one in the
window.  Any window, with or without docstring offset. -/
theorem view_name_index (v : View) (names : List (Option String)) (off : Nat) (name : String) (j : Int) (r : Option Int)
    (h : nameItem v names off name = some (j, r)) :
    let (s, e, _) := baseIndices v (names.length - off)
    r = none ∧ 0 ≤ j ∧ j < (e : Int) - s ∧ fixupItem (e - s) (.int j) = some (j, none) ∧
      names[s + off + j.toNat]? = some (some name) ∧
      (∀ q, s + off ≤ q → q < s + off + j.toNat → names[q]? ≠ some (some name)) := by
  revert h
  simp only [nameItem]
  rcases hb : baseIndices v (names.length - off) with ⟨s, e, v1⟩
  obtain ⟨hse, _, _, _⟩ := baseIndices_shape v _ s e v1 hb
  simp only
  cases hf : findName names (s + off) (e + off) name with
  | none => simp
  | some p =>
    simp only [Option.some.injEq, Prod.mk.injEq]
    rintro ⟨rfl, rfl⟩
    -- `find?` over `range'` returns the first position satisfying the test
    obtain ⟨hpred, hmem, hfirst⟩ := List.find?_range'_eq_some.mp hf
    rw [List.mem_range'_1] at hmem
    obtain ⟨j, rfl⟩ : ∃ j, p = s + off + j := ⟨p - (s + off), by omega⟩
    have hj : ((s + off + j : Nat) : Int) - s - off = (j : Nat) := by omega
    rw [hj, Int.toNat_natCast]
    have hlt : j < e - s := by omega
    refine ⟨rfl, Int.natCast_nonneg j, by omega, ?_, by simpa using hpred, ?_⟩
    · rw [fixupItem, fixupOne_inrange (Int.natCast_nonneg j) (Int.ofNat_lt.mpr hlt), Option.map_some]
    · intro q hq1 hq2 hq
      simpa [hq] using hfirst q hq1 hq2

/-! ## virtual combined fields -/

/-- **Dict `_all`**: the virtual list and the pair of real fields determine each other, element `i` is
`(keys[i], values[i])`, and a slice put on `_all` is the same slice put on both real fields. -/
theorem virt_dict {κ ν} (ks : List κ) (vs : List ν) (h : ks.length = vs.length)
    (ks' : List κ) (vs' : List ν) (h' : ks'.length = vs'.length) (s e : Nat) (hse : s ≤ e) :
    dictOfAll (dictAll ks vs) = (ks, vs) ∧ (dictAll ks vs).length = dictLen ks ∧
    (∀ (i : Nat) (k : κ) (v : ν), (dictAll ks vs)[i]? = some (k, v) ↔ ks[i]? = some k ∧ vs[i]? = some v) ∧
    dictOfAll (putSlice (dictAll ks vs) s e (dictAll ks' vs')) = (putSlice ks s e ks', putSlice vs s e vs') := by
  refine ⟨List.unzip_zip h, by simp [dictAll, dictLen, h], ?_, ?_⟩
  · intro i k v
    simp only [dictAll, List.getElem?_zip_eq_some]
  · -- `unzip` is a pair of maps, and `map` commutes with `take`, `drop` and `++`
    simp only [putSlice_eq _ _ _ _ hse, dictOfAll, dictAll, List.unzip_eq_map, List.map_append, List.map_take,
      List.map_drop, List.map_fst_zip (Nat.le_of_eq h), List.map_snd_zip (Nat.le_of_eq h.symm),
      List.map_fst_zip (Nat.le_of_eq h'), List.map_snd_zip (Nat.le_of_eq h'.symm)]

/-- **Compare `_all`**: element 0 is `left`, element `i` is `comparators[i-1]`; the view's `_getitem` arithmetic is
list indexing of `left :: comparators`, and the map is invertible. -/
theorem virt_compare {α} (left : α) (cs : List α) :
    (∀ i, cmpGet left cs i = (cmpAll left cs)[i]?) ∧ (cmpAll left cs).length = cmpLen cs ∧
    cmpOfAll (cmpAll left cs) = some (left, cs) := by
  refine ⟨?_, by simp [cmpAll, cmpLen]; omega, rfl⟩
  intro i
  cases i with
  | zero => simp [cmpGet, cmpAll]
  | succ i => simp [cmpGet, cmpAll]

/-- **MatchMapping `_all`**: pairs first, `rest` (if any) last; invertible; length as the view computes it. -/
theorem virt_mapping {κ ν ρ} (ks : List κ) (ps : List ν) (r : Option ρ) (h : ks.length = ps.length) :
    mmOfAll (mmAll ks ps r) = (ks, ps, r) ∧ (mmAll ks ps r).length = mmLen ks r := by
  constructor
  · unfold mmAll
    rw [mmOfAll_kv_append, List.map_fst_zip (Nat.le_of_eq h), List.map_snd_zip (Nat.le_of_eq h.symm)]
    cases r <;> simp [mmOfAll]
  · cases r <;> simp [mmAll, mmLen, h]

/-- **arguments `_all`**: the virtual list is exactly `posonlyargs + args + [vararg] + kwonlyargs + [kwarg]` in that
order (that `argSlot` names the real field and index of every element is `virt_arguments_slot`). -/
theorem virt_arguments_order {α δ} (a : Arguments α δ) :
    (argsAll a).map (·.2.1) = allargs a ∧ (argsAll a).length = (allargs a).length := by
  have key : (argsAll a).map (·.2.1) = allargs a := by
    simp only [argsAll, allargs, List.map_append, List.map_map]
    cases a.vararg <;> cases a.kwarg <;> simp [Function.comp_def]
  exact ⟨key, by rw [← key, List.length_map]⟩

/-- `argSlot` is list indexing into the concatenation -/
theorem virt_arguments_slot {α δ} (a : Arguments α δ) (i : Nat) (k : ArgKind) (j : Nat)
    (h : argSlot a i = some (k, j)) :
    (allargs a)[i]? = (match k with
      | .posonly => a.posonly[j]? | .arg => a.args[j]? | .vararg => a.vararg
      | .kwonly => a.kwonly[j]? | .kwarg => a.kwarg) := by
  show (a.posonly ++ a.args ++ a.vararg.toList ++ a.kwonly ++ a.kwarg.toList)[i]? = _
  simp only [argSlot, ← Option.length_toList] at h
  simp only [List.append_assoc]
  -- each failed test of `argSlot` strips one segment off the front of the concatenation
  by_cases h1 : i < a.posonly.length
  · rw [if_pos h1] at h; cases h; exact List.getElem?_append_left h1
  rw [if_neg h1] at h; rw [List.getElem?_append_right (by omega)]
  by_cases h2 : i < a.posonly.length + a.args.length
  · rw [if_pos h2] at h; cases h; exact List.getElem?_append_left (by omega)
  rw [if_neg h2] at h; rw [List.getElem?_append_right (by omega), Nat.sub_sub]
  by_cases h3 : i < a.posonly.length + a.args.length + a.vararg.toList.length
  · rw [if_pos h3] at h; cases h; rw [List.getElem?_append_left (by omega)]; exact getElem?_toList _ _ (by omega)
  rw [if_neg h3] at h; rw [List.getElem?_append_right (by omega), Nat.sub_sub]
  by_cases h4 : i < a.posonly.length + a.args.length + a.vararg.toList.length + a.kwonly.length
  · rw [if_pos h4] at h; cases h; exact List.getElem?_append_left (by omega)
  rw [if_neg h4] at h; rw [List.getElem?_append_right (by omega), Nat.sub_sub]
  split at h
  · cases h; exact getElem?_toList _ _ (by omega)
  · cases h

/-- **Call `_args` / ClassDef `_bases`**: the merged list is a permutation of `args + keywords` sorted by source
position, and — the two real lists being in source order and all positions distinct, as in any parsed tree — it keeps the
relative order inside `args` and inside `keywords`: an order-preserving bijection onto the two real fields. -/
theorem virt_arglikes {α : Type} (key : α → Nat × Nat) (isKw : α → Bool) (exprs kws : List α)
    (he : ∀ x ∈ exprs, isKw x = false) (hk : ∀ x ∈ kws, isKw x = true)
    (hse : exprs.Pairwise (fun a b => posLe (key a) (key b) = true))
    (hsk : kws.Pairwise (fun a b => posLe (key a) (key b) = true))
    (hinj : ∀ a ∈ exprs ++ kws, ∀ b ∈ exprs ++ kws, key a = key b → a = b) :
    let m := mergeArglikes key exprs kws
    m.Perm (exprs ++ kws) ∧ m.Pairwise (fun a b => posLe (key a) (key b) = true) ∧
    m.filter (fun x => !isKw x) = exprs ∧ m.filter isKw = kws := by
  intro m
  let le := fun a b => posLe (key a) (key b)
  obtain ⟨hperm, hsorted⟩ : m.Perm (exprs ++ kws) ∧ m.Pairwise (fun a b => le a b = true) := by
    show (mergeArglikes key exprs kws).Perm _ ∧ (mergeArglikes key exprs kws).Pairwise _
    unfold mergeArglikes
    split
    · next h => rw [List.isEmpty_iff.mp h, List.append_nil]; exact ⟨.refl _, hse⟩
    · split
      · next h => rw [List.isEmpty_iff.mp h]; exact ⟨.refl _, hsk⟩
      · exact ⟨insSort_perm _ _, insSort_sorted le (fun _ _ _ => posLe_trans _ _ _) (fun _ _ => posLe_total _ _) _⟩
  have hfe : (exprs ++ kws).filter (fun x => !isKw x) = exprs := by
    rw [List.filter_append, List.filter_eq_self.mpr (by intro x hx; simp [he x hx]),
      List.filter_eq_nil_iff.mpr (by intro x hx; simp [hk x hx]), List.append_nil]
  have hfk : (exprs ++ kws).filter isKw = kws := by
    rw [List.filter_append, List.filter_eq_nil_iff.mpr (by intro x hx; simp [he x hx]),
      List.filter_eq_self.mpr (by intro x hx; exact hk x hx), List.nil_append]
  -- a sorted list with distinct keys is determined by its elements, so each filtered part is the real field
  have uniq : ∀ (p : α → Bool) (l : List α), l.Pairwise (fun a b => le a b = true) →
      (exprs ++ kws).filter p = l → m.filter p = l := by
    intro p l hl hf
    refine List.Perm.eq_of_pairwise (le := fun a b => le a b = true) ?_ (hsorted.filter p) hl (hf ▸ hperm.filter p)
    intro a b ha hb hab hba
    have ha' : a ∈ exprs ++ kws := hperm.mem_iff.mp (List.mem_filter.mp ha).1
    have hb' : b ∈ exprs ++ kws := (List.mem_filter.mp (hf ▸ hb : b ∈ (exprs ++ kws).filter p)).1
    exact hinj a ha' b hb' (posLe_antisymm _ _ hab hba)
  exact ⟨hperm, hsorted, uniq _ _ hse hfe, uniq _ _ hsk hfk⟩

/-! ## the handler table (extracted from the working tree on every run) -/

open Pfst.Gen.Handlers in
/-- Operations the README "TODO" section documents as not implemented: prescribed slices of `JoinedStr.values` /
`TemplateStr.values`, put-one to `FormattedValue.conversion/format_spec`, `Interpolation.str/conversion/format_spec`. -/
def documentedNotImplemented : List (String × String) :=
  [("JoinedStr", "values"), ("TemplateStr", "values"),
   ("FormattedValue", "conversion"), ("FormattedValue", "format_spec"),
   ("Interpolation", "str"), ("Interpolation", "conversion"), ("Interpolation", "format_spec")]

/-- "NOT DONE" block at the end of `_PUT_ONE_HANDLERS` in fst_put_one.py (node kind of the `func_type` parse mode). -/
def sourceNotDone : List (String × String) := [("FunctionType", "argtypes"), ("FunctionType", "returns")]

/-- real list fields that are edited through a virtual combined field (their own slice entry refuses and says so) -/
def coveredByVirtual : List (String × String × String) :=
  [("Dict", "keys", "_all"), ("Dict", "values", "_all"),
   ("MatchMapping", "keys", "_all"), ("MatchMapping", "patterns", "_all"),
   ("Compare", "ops", "_all"), ("Compare", "comparators", "_all"),
   ("arguments", "posonlyargs", "_all"), ("arguments", "args", "_all"), ("arguments", "defaults", "_all"),
   ("arguments", "kwonlyargs", "_all"), ("arguments", "kw_defaults", "_all"),
   ("MatchClass", "kwd_patterns", "_attrs"), ("_pattern_attrlikes", "kwd_patterns", "_attrs")]

open Pfst.Gen.Handlers in
def lookup (k f : String) : Option Row := rows.find? (fun r => r.kind == k && r.field == f)

open Pfst.Gen.Handlers in
def exempt (r : Row) : Bool := documentedNotImplemented.contains (r.kind, r.field) || sourceNotDone.contains (r.kind, r.field)

open Pfst.Gen.Handlers in
/-- single-element put is available: a handler, or delegation to a working slice handler -/
def putOneOk (r : Row) : Bool := r.putOne == .handler || (r.putOne == .viaSlice && r.putSlice == .handler)

open Pfst.Gen.Handlers in
/-- slice put is available: a working handler with a matching get handler, or coverage by a virtual field which has one -/
def putSliceOk (r : Row) : Bool :=
  (r.putSlice == .handler && r.getSlice == .handler)
  || coveredByVirtual.any (fun (k, f, vf) => k == r.kind && f == r.field &&
        (match lookup k vf with | some v => v.putSlice == .handler && v.getSlice == .handler | none => false))

open Pfst.Gen.Handlers in
def rowOk (r : Row) : Bool :=
  if r.astField || r.virt then
    exempt r || (putOneOk r && (!r.isList || putSliceOk r))
  else true

open Pfst.Gen.Handlers in
/-- **Totality of the dispatch tables**: every (kind, field) of `AST_FIELDS` and every virtual field has a working
single-element put, and every list-valued one a working slice put/get (directly or through its virtual combined field) —
or is in the explicit documented-not-implemented list.  Re-checked against the tables extracted from the working tree. -/
theorem handlers_total : rows.all rowOk = true := by decide +kernel

open Pfst.Gen.Handlers in
/-- the exemption list is not stale: each documented entry really is a refusing stub (or absent) in the tables, and
every default field names a field that can be edited -/
theorem handlers_exempt_exact :
    (documentedNotImplemented.all (fun (k, f) => match lookup k f with
        | some r => r.putOne == .notImpl || r.putSlice == .notImpl | none => false)) = true ∧
    (sourceNotDone.all (fun (k, f) => match lookup k f with
        | some r => r.putOne == .absent && r.putSlice == .absent | none => false)) = true ∧
    (defaultField.all (fun (k, f) => match lookup k f with
        | some r => putOneOk r || exempt r | none => false)) = true := by decide +kernel

/-! ## non-vacuity: the hypotheses are met by concrete, non-trivial data -/

example : fixupSlice 5 (.i (-3)) (.i 9) 0 = some (2, 5) := by decide
example : fixupSlice 5 (.i 4) (.i (-4)) 0 = none := by decide               -- the documented refusal
example : pySliceIndices 5 (some 4) (some (-4)) = (4, 1) := by decide       -- Python: empty slice at 4
example : fixupSlice 4 (.i 0) .end 1 = some (1, 4) := by decide             -- `_body[0:]` skips the docstring
example : fixupOne 4 (.i (-1)) 0 = some 3 ∧ fixupOne 4 (.i 4) 0 = none ∧ fixupOne 4 (.i 0) 1 = some 1 := by decide +kernel
example : putSlice [10, 11, 12, 13, 14] 1 3 [7, 8, 9] = [10, 7, 8, 9, 13, 14] := by decide +kernel
example : setItem ⟨1, some 4⟩ 6 (.slice (some (-2)) none) ≠ none := by decide
example : (baseIndices ⟨5, some 9⟩ 3) = (3, 3, ⟨3, some 3⟩) := by decide    -- healing after the field shrank
example : window ⟨1, some 4⟩ [0, 1, 2, 3, 4, 5] = [1, 2, 3] := by decide +kernel
example : nameItem ⟨1, none⟩ [none, some "f", none, some "g"] 1 "g" = some (1, none) := by decide +kernel   -- `_body[1:]['g']` with docstring
example : nameItem ⟨2, some 4⟩ [some "f", none, none, some "g"] 0 "f" = none := by decide +kernel           -- outside the window
example : mergeArglikes (fun (x : Nat × Nat × Bool) => (x.1, x.2.1)) [(1, 2, false), (1, 9, false)] [(1, 5, true), (2, 0, true)]
    = [(1, 2, false), (1, 5, true), (1, 9, false), (2, 0, true)] := by decide +kernel
example : argsOfAll (argsAll (⟨[1], [2, 3], some 4, [5, 6], [none, some 60], some 7, [20, 30]⟩ : Arguments Nat Nat))
    = ⟨[1], [2, 3], some 4, [5, 6], [none, some 60], some 7, [20, 30]⟩ := by decide +kernel
example : (argsAll (⟨[1], [2, 3], none, [], [], none, [20, 30]⟩ : Arguments Nat Nat))
    = [(.posonly, 1, none), (.arg, 2, some 20), (.arg, 3, some 30)] := by decide +kernel
example : canon (.put (.name "elts") .omitted .omitted (some false)) = .slice (.int 0) .end (.name "elts") (some false) := by
  decide +kernel

end Pfst.C03
