import Pfst.Clip

/-!
# C11b — the coordinate spellings accepted by `put_src` / `get_src` all denote the same location

`clip_src_loc` is what turns the caller's `(ln, col, end_ln, end_col)` (integers, negative integers counted from the end of
the source / of the line, or `'end'`) into the location every later step of `put_src(action='offset')` works on.  The
theorems say that a successful result is always inside the source, that a canonical location is a fixed point, and that
the negative and `'end'` spellings of a location resolve to exactly that location — each end column against ITS OWN line.
-/
namespace Pfst.C11b
open Pfst.Clip

theorem lineLen_nonneg (lens : List Nat) (i : Int) : 0 ≤ lineLen lens i := Int.natCast_nonneg _

theorem resolveCol_bounds (len : Int) (k : Coord) (h : 0 ≤ len) : 0 ≤ resolveCol len k ∧ resolveCol len k ≤ len := by
  cases k with
  | fin => exact ⟨h, Int.le_refl _⟩
  | idx i => simp only [resolveCol]; split <;> omega

theorem clamp_bounds {lo hi : Int} (x : Int) (h : lo ≤ hi) : lo ≤ clamp lo hi x ∧ clamp lo hi x ≤ hi := by
  unfold clamp; omega

theorem clamp_mono {lo hi x y : Int} (h : x ≤ y) : clamp lo hi x ≤ clamp lo hi y := by
  unfold clamp; omega

theorem clamp_eq {lo hi x : Int} (h1 : lo ≤ x) (h2 : x ≤ hi) : clamp lo hi x = x := by
  unfold clamp; omega

/-- a successful clip is inside the source: lines within `[0, n)`, columns within their own line, start not after end -/
theorem clip_bounds (lens : List Nat) (ln col endLn endCol : Coord) (l c e ec : Int) (hn : 0 < lens.length)
    (h : clip lens ln col endLn endCol = .ok l c e ec) :
    0 ≤ l ∧ l ≤ e ∧ e < (lens.length : Nat) ∧ 0 ≤ c ∧ c ≤ lineLen lens l ∧ 0 ≤ ec ∧ ec ≤ lineLen lens e ∧ (e = l → c ≤ ec) := by
  have hn' : (0 : Int) ≤ (lens.length : Nat) - 1 := by omega
  simp only [clip] at h
  split at h
  · cases h
  · next h1 =>
    split at h
    · cases h
    · next h2 =>
      injection h with hl hc he hec
      subst hl hc he hec
      have hc := resolveCol_bounds _ col (lineLen_nonneg lens (clamp 0 ((lens.length : Nat) - 1) (resolveLn (lens.length : Nat) ln)))
      have hec := resolveCol_bounds _ endCol (lineLen_nonneg lens (clamp 0 ((lens.length : Nat) - 1) (resolveLn (lens.length : Nat) endLn)))
      have he := (clamp_bounds (resolveLn (lens.length : Nat) endLn) hn').2
      exact ⟨(clamp_bounds _ hn').1, clamp_mono (by omega), by omega, hc.1, hc.2, hec.1, hec.2, fun e => by omega⟩

theorem clip_of_resolved (lens : List Nat) (kl kc ke kec : Coord) (l c e ec : Int)
    (rl : resolveLn (lens.length : Nat) kl = l) (re : resolveLn (lens.length : Nat) ke = e)
    (h0 : 0 ≤ l) (hle : l ≤ e) (h3 : e < (lens.length : Nat))
    (rc : resolveCol (lineLen lens l) kc = c) (rec' : resolveCol (lineLen lens e) kec = ec) (h8 : e = l → c ≤ ec) :
    clip lens kl kc ke kec = .ok l c e ec := by
  have hcol : ¬ (e = l ∧ c > ec) := fun ⟨x, y⟩ => Int.not_lt.mpr (h8 x) y
  simp only [clip, rl, re, if_neg (Int.not_lt.mpr hle), clamp_eq h0 (show l ≤ (lens.length : Nat) - 1 by omega),
    clamp_eq (Int.le_trans h0 hle) (show e ≤ (lens.length : Nat) - 1 by omega), rc, rec', if_neg hcol]
theorem resolveLn_neg (n l : Int) (h1 : l < n) : resolveLn n (.idx (l - n)) = l := by
  simp only [resolveLn]; rw [if_pos (by omega)]; omega

theorem resolveLn_fin (n : Int) : resolveLn n .fin = n - 1 := rfl

theorem resolveCol_neg (len c : Int) (h0 : 0 ≤ c) (h1 : c < len) : resolveCol len (.idx (c - len)) = c := by
  simp only [resolveCol]; rw [if_pos (by omega)]; omega

theorem resolveCol_fin (len : Int) : resolveCol len .fin = len := rfl

/-- the ways to spell column `x` of a line of length `len` -/
inductive Spells (len : Int) (x : Int) : Coord → Prop
  | plain : Spells len x (.idx x)
  | neg : x < len → Spells len x (.idx (x - len))
  | fin : x = len → Spells len x .fin

/-- the ways to spell line `x` of `n` lines -/
inductive SpellsLn (n : Int) (x : Int) : Coord → Prop
  | plain : SpellsLn n x (.idx x)
  | neg : SpellsLn n x (.idx (x - n))
  | fin : x = n - 1 → SpellsLn n x .fin

theorem resolveLn_of_spells {n x : Int} {k : Coord} (s : SpellsLn n x k) (h0 : 0 ≤ x) (h1 : x < n) :
    resolveLn n k = x := by
  cases s with
  | plain => simp only [resolveLn]; rw [if_neg (by omega)]
  | neg => exact resolveLn_neg n x h1
  | fin hx => simp only [resolveLn]; omega

theorem resolveCol_of_spells {len x : Int} {k : Coord} (s : Spells len x k) (h0 : 0 ≤ x) (h1 : x ≤ len) :
    resolveCol len k = x := by
  cases s with
  | plain => simp only [resolveCol]; rw [if_neg (by omega)]; omega
  | neg hx => exact resolveCol_neg len x h0 hx
  | fin hx => simp only [resolveCol]; omega

/-- **every spelling of a canonical location clips to that location**: each of the four coordinates may independently be
given plainly, from the end (negative), or as `'end'` where that names it. -/
theorem clip_spellings (lens : List Nat) (l c e ec : Int) (h : canonical lens l c e ec)
    (kl kc ke kec : Coord) (sl : SpellsLn (lens.length : Nat) l kl) (se : SpellsLn (lens.length : Nat) e ke)
    (sc : Spells (lineLen lens l) c kc) (sec : Spells (lineLen lens e) ec kec) :
    clip lens kl kc ke kec = .ok l c e ec := by
  obtain ⟨h1, h2, h3, h4, h5, h6, h7, h8⟩ := h
  exact clip_of_resolved lens kl kc ke kec l c e ec (resolveLn_of_spells sl h1 (by omega)) (resolveLn_of_spells se (by omega) h3) h1
    h2 h3 (resolveCol_of_spells sc h4 h5) (resolveCol_of_spells sec h6 h7) h8

/-- a canonical location is a fixed point -/
theorem clip_canonical (lens : List Nat) (l c e ec : Int) (h : canonical lens l c e ec) :
    clip lens (.idx l) (.idx c) (.idx e) (.idx ec) = .ok l c e ec :=
  clip_spellings lens l c e ec h _ _ _ _ .plain .plain .plain .plain

/-- the line-order refusal happens exactly when, after resolution, the start line lies after the end line -/
theorem clip_refuses_iff (lens : List Nat) (ln col endLn endCol : Coord) :
    (clip lens ln col endLn endCol = .errLine ↔ resolveLn (lens.length : Nat) ln > resolveLn (lens.length : Nat) endLn) := by
  simp only [clip]
  constructor
  · intro h
    split at h
    · assumption
    · split at h <;> cases h
  · intro h
    rw [if_pos h]

/-- non-vacuity: a three-line source; the span from (0,2) to (2,1) spelled with negative end coordinates -/
example : clip [5, 9, 3] (.idx 0) (.idx 2) (.idx (-1)) (.idx (-2)) = .ok 0 2 2 1 := by decide +kernel
example : canonical [5, 9, 3] 0 2 2 1 := by simp [canonical, lineLen]
/-- resolving the end column against the START line (the seeded slip) gives another column: 5 - 2 = 3, clipped to 3 -/
example : resolveCol (lineLen [5, 9, 3] 0) (.idx (-2)) ≠ resolveCol (lineLen [5, 9, 3] 2) (.idx (-2)) := by decide +kernel

end Pfst.C11b
