import Pfst.SubLemmas

/-!
# C18 — substitution rewrites exactly the matched nodes with the filled-in template

Property theorems about the model of `FST.subn` (`Pfst/Sub.lean`): the walk driven by `search` with its mutation
rules, the `dirty` set, `count`, `loop`, the slice-vs-one decision of every template slot and the index arithmetic of
`_sub_quantifier_list_edge_item`.  The matcher is a parameter (`P.mtch`; C17 is about the matcher).  Trees carry the
mark `dirty` (membership in the Python set `dirty`); `clean`/`cleanList` erase the marks, which is what `ast.dump`
sees.  The model is compared with the real `subn` on every run (harness/props/C18.py).
-/
namespace Pfst.C18
open Pfst.Sub

/-- `nested=False`, no `loop`, no `count`: the result of the driver (stack walk, `dirty` test, countdown,
`break`) is exactly the independent reference transformer: every outermost matching node replaced by the filled
template, nothing else touched, nothing inside a replacement looked at. Any tree, any matcher, any template. -/
theorem sub_spec (P : Params) (hn : P.nested = false) (hl : P.loop = none) (hf : Fills P)
    (fuel : Nat) (t : Tree) (hh : height t ≤ fuel) (hc : isClean t = true) :
    (run P false 0 fuel t).trees = rewriteOutermost P.mtch (fillD P) t ∧ (run P false 0 fuel t).err = 0 := by
  have p := enter_flat P hn hl hf fuel t ⟨0, 0, false, 0, []⟩ hh hc ⟨rfl, by decide⟩
  exact ⟨p.trees, p.err⟩

/-- In the same setting both reported counts equal the number of rewritten positions. -/
theorem sub_counts (P : Params) (hn : P.nested = false) (hl : P.loop = none) (hf : Fills P)
    (fuel : Nat) (t : Tree) (hh : height t ≤ fuel) (hc : isClean t = true) :
    (run P false 0 fuel t).unique = countOutermost P.mtch t ∧ (run P false 0 fuel t).total = countOutermost P.mtch t := by
  have p := enter_flat P hn hl hf fuel t ⟨0, 0, false, 0, []⟩ hh hc ⟨rfl, by decide⟩
  refine ⟨?_, ?_⟩
  · show uniqueOf 0 (enterNode P fuel t ⟨0, 0, false, 0, []⟩).2.count = _
    rw [p.count]; exact uniqueOf_zero _
  · exact p.total.trans (Nat.zero_add _)

/-- `count = k > 0` caps the number of unique substitutions at `k` — for every setting of
`nested`, `loop`, `on`, every template and matcher (the countdown never passes zero).
The full statement `unique = min k (number of matches in walk order)` is not proved; the equality is checked on every
correspondence case. -/
theorem sub_counts_cap (P : Params) (onLeave : Bool) (k : Int) (hk : 0 < k) (fuel : Nat) (t : Tree) :
    0 ≤ (run P onLeave k fuel t).unique ∧ (run P onLeave k fuel t).unique ≤ k := by
  have hck : clamp k = k := by simp only [clamp]; split <;> omega
  have h0 : CapInv k ⟨clamp k, 0, false, 0, []⟩ := by rw [hck]; exact ⟨Int.le_refl k, Or.inl hk⟩
  have key : ∀ st : St, CapInv k st → 0 ≤ uniqueOf (clamp k) st.count ∧ uniqueOf (clamp k) st.count ≤ k := by
    intro st ⟨h1, h2⟩
    rw [hck]; simp only [uniqueOf]
    split <;> omega
  cases onLeave with
  | false => exact key _ (enter_cap P k fuel t _ h0)
  | true => exact key _ (leave_cap P k fuel t _ h0)

/-- A subtree in which nothing matches is returned unchanged and costs no count — for every setting
(`nested`, `loop`, `count`, `on`), every template. -/
theorem sub_frame (P : Params) (onLeave : Bool) (count : Int) (fuel : Nat) (t : Tree) (hh : height t ≤ fuel)
    (hno : noMatch P.mtch t = true) :
    (run P onLeave count fuel t).trees = [t] ∧ (run P onLeave count fuel t).unique = 0
      ∧ (run P onLeave count fuel t).total = 0 := by
  cases onLeave with
  | false =>
    have p := enter_frame P fuel t ⟨clamp count, 0, false, 0, []⟩ hh hno
    refine ⟨p.trees, ?_, p.total⟩
    show uniqueOf (clamp count) (enterNode P fuel t ⟨clamp count, 0, false, 0, []⟩).2.count = 0
    rw [p.count]; simpa using uniqueOf_self (clamp_nonneg count)
  | true =>
    have p := leave_frame P fuel t ⟨clamp count, 0, false, 0, []⟩ hh hno
    refine ⟨p.trees, ?_, p.total⟩
    show uniqueOf (clamp count) (leaveNode P fuel t ⟨clamp count, 0, false, 0, []⟩).2.count = 0
    rw [p.count]; simpa using uniqueOf_self (clamp_nonneg count)

/-- While the children of a node are walked, every child in which nothing matches comes out
unchanged, whatever happens to its siblings (any setting). -/
theorem sub_frame_kids (P : Params) (f : Nat) (ks : List Tree) (st : St) (hh : heightL ks ≤ f)
    (hno : noMatchL P.mtch ks = true) : (mapKids (enterNode P f) ks st).1 = ks :=
  (mapKids_frame P.mtch f (enterNode P f) (enter_frame P f) ks st hh hno).trees

/-- A node that does not match keeps its label and mark; only its children are processed. -/
theorem sub_frame_node (P : Params) (hn : P.nested = false) (hl : P.loop = none) (hf : Fills P) (fuel : Nat)
    (l : Nat) (ks : List Tree) (hh : height (.node l false ks) ≤ fuel) (hc : isClean (.node l false ks) = true)
    (hm : P.mtch (.node l false ks) = none) :
    (run P false 0 fuel (.node l false ks)).trees = [.node l false (rewriteOutermostL P.mtch (fillD P) ks)] := by
  rw [(sub_spec P hn hl hf fuel _ hh hc).1]
  simp only [rewriteOutermost, hm]

/-- The wrapper is the identity on parameters: for every setting `sub p = (subn p).1`.  In the model this
holds by definition; that the real wrappers (`FST.sub`, `fst.match.sub`, the command line tool) forward every parameter
is checked on every run by the wrapper sweep (harness/c18_wrap.py). -/
theorem sub_wrapper (P : Params) (onLeave : Bool) (count : Int) (fuel : Nat) (t : Tree) :
    sub P onLeave count fuel t = (run P onLeave count fuel t).trees := rfl

/-- the whole-match template `__FST_` (any prefix letter) always fills, with a marked copy of the match -/
theorem fills_identity (P : Params) (il : Bool) (ov : Option Bool) (ht : P.tmpl = .single (.slot none il ov)) :
    Fills P ∧ fillD P = fun _ u => [markRoot true (clean u)] := by
  refine ⟨fun env u => ⟨[markRoot true (clean u)], false, by simp [fillRoot, ht, resolve]⟩, ?_⟩
  funext env u
  simp [fillD, fillRoot, ht, resolve]

/-- A template that is only the whole-match slot leaves the structure unchanged (marks erased =
what `ast.dump` shows) and both counts equal the number of matches visited. -/
theorem sub_identity (P : Params) (hn : P.nested = false) (hl : P.loop = none) (il : Bool) (ov : Option Bool)
    (ht : P.tmpl = .single (.slot none il ov)) (fuel : Nat) (t : Tree) (hh : height t ≤ fuel)
    (hc : isClean t = true) :
    cleanList (run P false 0 fuel t).trees = [t] ∧ (run P false 0 fuel t).unique = countOutermost P.mtch t
      ∧ (run P false 0 fuel t).total = countOutermost P.mtch t := by
  obtain ⟨hf, hd⟩ := fills_identity P il ov ht
  refine ⟨?_, sub_counts P hn hl hf fuel t hh hc⟩
  rw [(sub_spec P hn hl hf fuel t hh hc).1, hd, clean_rewrite_id, clean_of_isClean t hc]

/-- When the elements a quantifier captured are contiguous (`stop_i = start_{i+1}`), the first/last
index arithmetic of `_sub_quantifier_list_edge_item` followed by `_get_slice(first, last)` yields exactly the captured
elements, in order — through empty sub-lists, nested sub-sequence matches and one-element views. -/
theorem edge_item (field : List Tree) (q : List QItem) (p : Nat × Nat) (r : List (Nat × Nat))
    (hq : flatQ q = p :: r) (hc : Contig (p :: r)) : qSlice field q = some (segs field (flatQ q)) := by
  obtain ⟨e, he, _, hs⟩ := segs_contig field p r hc
  cases q with
  | nil => simp [flatQ] at hq
  | cons x xs =>
    simp only [qSlice, edgeItem_first, edgeItem_last, hq, he, List.head?_cons, Option.map_some]
    rw [hs]

/-- For elements living in `Call.args` / `Call.keywords` (`ClassDef.bases` /
`keywords`) the index used is the position in the virtual field `_args` (`_bases`), i.e. in SOURCE order.  When the
captured elements are consecutive in source order, the substituted slice is exactly the captured elements, in source
order — whatever mixture of positional, starred and keyword arguments they are. -/
theorem edge_item_virtual (field : List Tree) (order : List (Nat × Nat)) (q : List RItem) (p : Nat × Nat)
    (r : List (Nat × Nat)) (hq : flatR q = p :: r) (hc : Contig (virtPairs order (p :: r))) :
    qSlice field (virtQ order q) = some (elemsAt field order (flatR q)) := by
  have h1 : flatQ (virtQ order q) = virtPairs order (p :: r) := by rw [flatQ_virtQ, hq]
  have h2 := edge_item field (virtQ order q) _ _ (by rw [h1]; rfl) (by simpa [virtPairs] using hc)
  rw [h2, h1, segs_virtPairs, hq]

/-- no captured element: the slot is deleted (`repl_slot_new = None`) -/
theorem edge_item_empty (field : List Tree) (q : List QItem) (hq : flatQ q = []) : qSlice field q = none := by
  cases q with
  | nil => rfl
  | cons x xs => simp only [qSlice, edgeItem_first, hq, List.head?_nil, Option.map_none]

/-- **sub_nested (dirty nodes).** A node of the template (dirty) is never substituted, whatever the matcher says:
it keeps its label; only its children are walked. -/
theorem nested_dirty_kept (P : Params) (f : Nat) (l : Nat) (ks : List Tree) (st : St) :
    ∃ ks' st', enterNode P f (.node l true ks) st = ([.node l true ks'], st') := by
  cases f with
  | zero => exact ⟨ks, _, rfl⟩
  | succ f =>
    rw [enterNode]
    cases st.stop <;> cases P.mtch (.node l true ks) <;> cases P.nested <;> exact ⟨_, _, rfl⟩

/-- `nested=True`: every matching node at every depth is substituted exactly once,
top-down (the walk continues inside the replacement, the root of the copy is not substituted again), the structure is
unchanged and both counts equal the number of ALL matching nodes.

The statement for arbitrary templates is not proved (it is what the correspondence and the reference sweep check on
every run):
  `nested = true → loop = none → tmpl = single _ →
     clean (run …).trees = rewriteAll t` where `rewriteAll` replaces a matching node by the template whose captures
  have been rewritten recursively and leaves template nodes alone.
Proved here: this theorem, `nested_dirty_kept` (template nodes are never substituted, only walked through) and the
concrete instance `ex_nested` below. -/
theorem sub_nested_id (P : Params) (hn : P.nested = true) (hl : P.loop = none) (il : Bool) (ov : Option Bool)
    (ht : P.tmpl = .single (.slot none il ov)) (fuel : Nat) (t : Tree) (hh : height t ≤ fuel)
    (hc : isClean t = true) :
    cleanList (run P false 0 fuel t).trees = [t] ∧ (run P false 0 fuel t).unique = countAll P.mtch t
      ∧ (run P false 0 fuel t).total = countAll P.mtch t ∧ (run P false 0 fuel t).err = 0 := by
  have p := enter_nested_id P hn hl il ov ht fuel t ⟨0, 0, false, 0, []⟩ hh hc ⟨rfl, by decide⟩
  refine ⟨p.trees, ?_, p.total.trans (Nat.zero_add _), p.err⟩
  show uniqueOf 0 (enterNode P fuel t ⟨0, 0, false, 0, []⟩).2.count = _
  rw [p.count]; exact uniqueOf_zero _

/-! ## Non-vacuity: a concrete tree, matcher and template meet the hypotheses and give a non-trivial result

Labels: 1 = `Call`-like node whose children are its arguments, 3 4 9 = leaves.  `exT` is `f(g(a), b)`; the matcher
is `MCall(args=M(x=...))` (whole argument list as a slice capture); the template is `h(k, __FST_x, __FST_)`. -/

def exT : Tree := .node 1 false [.node 1 false [.node 3 false []], .node 4 false []]
def exM : Tree → Option Env := fun t => if t.lbl == 1 then some [(0, .view t.kids false)] else none
def exTmpl : TRoot := .single (.node 1 [.node 9 [], .slot (some 0) true none, .slot none true none])
def exP (nested : Bool) : Params := ⟨exM, fun _ => false, exTmpl, nested, none, 8⟩

example : isClean exT = true ∧ height exT ≤ 10 ∧ countOutermost exM exT = 1 ∧ countAll exM exT = 2 := by decide

example : Fills (exP false) := by
  intro env u
  simp only [exP, exTmpl, fillRoot, fillKids, fillT, fillSlot, resolve, decideOne, R.cat]
  cases List.lookup 0 env with
  | none => exact ⟨_, _, rfl⟩
  | some c =>
    cases c with
    | one t r => exact ⟨_, _, rfl⟩
    | view ts s => exact ⟨_, _, rfl⟩
    | qlist fl q s =>
      simp only []
      cases qSlice fl q with
      | none => exact ⟨_, _, rfl⟩
      | some ts => exact ⟨_, _, rfl⟩
    | qlistV fl o q s =>
      simp only []
      cases qSlice fl (virtQ o q) with
      | none => exact ⟨_, _, rfl⟩
      | some ts => exact ⟨_, _, rfl⟩

/-- flat: `h(k, g(a), b, f(g(a), b))`, one substitution; the slice capture is spliced in -/
example : Tree.beqL (cleanList (run (exP false) false 0 10 exT).trees)
    [.node 1 false [.node 9 false [], .node 1 false [.node 3 false []], .node 4 false [],
                    .node 1 false [.node 1 false [.node 3 false []], .node 4 false []]]] = true
    ∧ (run (exP false) false 0 10 exT).unique = 1 := by decide +kernel

/-- nested: the captured `g(a)` and the `g(a)` inside the copy of the whole match are rewritten too (3 in all);
the template node `k` and the root of the copy are not -/
theorem ex_nested : Tree.beqL (cleanList (run (exP true) false 0 10 exT).trees)
    [.node 1 false [.node 9 false [],
                    .node 1 false [.node 9 false [], .node 3 false [], .node 1 false [.node 3 false []]],
                    .node 4 false [],
                    .node 1 false [.node 1 false [.node 9 false [], .node 3 false [], .node 1 false [.node 3 false []]],
                                   .node 4 false []]]] = true
    ∧ (run (exP true) false 0 10 exT).unique = 3 ∧ (run (exP true) false 0 10 exT).total = 3 := by decide +kernel

/-- `count=1` stops after the first substitution; `on='leave'` substitutes bottom-up (2 matches) -/
example : (run (exP true) false 1 10 exT).unique = 1 ∧ (run (exP true) true 0 10 exT).unique = 2 := by decide +kernel

/-- `loop=2`: the replacement (it is a label-1 node again) is substituted a second time at the same location -/
example : (run ⟨exM, fun _ => false, exTmpl, false, some 2, 8⟩ false 0 10 exT).unique = 1
    ∧ (run ⟨exM, fun _ => false, exTmpl, false, some 2, 8⟩ false 0 10 exT).total = 2 := by decide +kernel

/-- edge items: `[one 1..2, empty sub-list, sub-list (2..3, 3..4)]` is contiguous and yields elements 1, 2, 3 -/
def exQ : List QItem := [.one 1 2, .many [], .many [(2, 3), (3, 4)]]
example : Contig (flatQ exQ) := by simp [exQ, flatQ, Contig]
example : edgeItem exQ false = some 1 ∧ edgeItem exQ true = some 4 := by decide

/-- virtual field: `log(fmt, level=1, *extra)`: args = [fmt, *extra], keywords = [level=1]; source order of `_args` is
fmt (0,0), level=1 (1,0), *extra (0,1).  The capture `rest = [level=1, *extra]` maps to the virtual range 1..3 and
yields exactly those two elements; with the raw `args` index of `*extra` (1) the range would be 1..2 and lose it. -/
def exOrder : List (Nat × Nat) := [(0, 0), (1, 0), (0, 1)]
def exField : List Tree := [.node 30 false [], .node 31 false [], .node 32 false []]
def exR : List RItem := [.one 1 0, .one 0 1]
example : Contig (virtPairs exOrder (flatR exR)) := by simp [exOrder, exR, flatR, virtPairs, virtIdx, Contig]
example : (match qSlice exField (virtQ exOrder exR) with
           | some ts => Tree.beqL ts [.node 31 false [], .node 32 false []]
           | none => false) = true
    ∧ edgeItem (virtQ exOrder exR) true = some 3 ∧ edgeItem [QItem.one 1 2, QItem.one 1 2] true = some 2 := by decide +kernel

end Pfst.C18
