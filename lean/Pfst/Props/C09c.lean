import Pfst.ParseSound
import Pfst.Props.C09

/-!
# C09c — the spec grammar is unambiguous on the operator fragment; the printer round-trips through a parser

`Pfst/Parse.lean` is an executable precedence-climbing parser written from the grammar's levels and operand slots.
On the fragment `inFrag` (names, integer literals, parenthesised groups, all binary operators incl. `**`, unary
`+ - ~`, `not`, n-ary `and`/`or`, comparison chains, conditional expression, `lambda:`, `await`, and the postfix
trailers: attribute access, subscript by an expression, call with positional expression arguments):

* `parse_iff`      the parser decides the grammar: `parse s ts = some e  ↔  Derives s ts e ∧ inFrag e`;
* `derives_unique` a phrase derives at most one tree of the fragment (unambiguity);
* `parse_pr`       printing with ANY covering policy and parsing gives the tree back (parentheses are transparent),
                   also in front of any continuation `rest` that cannot extend the phrase (`follow`);
* `replace_groups_unique`  the printed phrase of a tree with a replaced operand derives ONLY that tree.

Kinds covered: `bin op` (op ≤ 12), `un op` (op < 3), `not_`, `boolop _`, `cmp ops` (ops ∈ 80..89), `ifexp`, `lambda`,
`await_`, `attr _`, `subscr`, `call n []` — with all children again in the fragment (so: no starred / named / keyword
arguments, no tuple or slice as subscript).  Not covered (still validated against CPython only): `named`, `yield_`,
`yieldFrom`, `star`, `starArg`, `tuple`, `call` with keywords, displays, comprehensions, statement and pattern kinds.  Uniqueness is *within the fragment*:
the relation `Derives` lets a leaf carry any class and has unit-like kinds (`exprStmt`), so a tree outside the fragment
can share a phrase with one inside (`derives_unique_false_outside_fragment` gives the witnesses).
-/
namespace Pfst.C09c
open Pfst.Grammar Pfst.Parse Pfst.C09

/-- **The parser is complete for the grammar, in front of any continuation.**  `follow s.minLad rest` says precisely:
the first token of `rest` (if any) is not an infix-operator token — binary operator, `**`, comparison operator, `and`,
`or`, `if`, or a trailer opener `(` `[` `.` (level `ATOM`) — whose construct has ladder level `≥ s.minLad` (such a
token would continue the phrase). -/
theorem parse_derives (s : Slot) (ts : List Tok) (e : E) (rest : List Tok) (hd : Derives s ts e)
    (hf : inFrag e = true) (hfol : follow s.minLad rest = true) : parseE s (ts ++ rest) = some (e, rest) :=
  parse_complete rest hd hf hfol

/-- **The parser decides the grammar on the fragment** (every slot of the grammar has `minLad ≤ ATOM`). -/
theorem parse_iff (s : Slot) (hs : s.minLad ≤ ATOM) (ts : List Tok) (e : E) :
    parse s ts = some e ↔ (Derives s ts e ∧ inFrag e = true) := by
  constructor
  · intro h
    unfold parse at h
    split at h
    · next e1 heq =>
      cases h
      obtain ⟨pre, hpre, hd, hf⟩ := parse_sound hs heq
      rw [List.append_nil] at hpre
      subst hpre
      exact ⟨hd, hf⟩
    · cases h
  · intro ⟨hd, hf⟩
    exact parse_complete_nil hd hf

/-- **Unambiguity**: a phrase derives at most one tree of the fragment. -/
theorem derives_unique (s : Slot) (ts : List Tok) (e₁ e₂ : E) (h₁ : Derives s ts e₁) (h₂ : Derives s ts e₂)
    (f₁ : inFrag e₁ = true) (f₂ : inFrag e₂ = true) : e₁ = e₂ := by
  have a := parse_complete_nil h₁ f₁
  have b := parse_complete_nil h₂ f₂
  rw [a] at b
  exact Option.some.inj b

/-- **Round trip, any covering policy**: for every well-formed tree of the fragment, every slot, every policy `P`
that parenthesises at least where the grammar needs it (over-parenthesising allowed: parentheses are transparent),
the parser gives the tree back and leaves exactly `rest`, whenever `rest` cannot continue the phrase. -/
theorem parse_pr (P : Slot → Cls → Bool)
    (hneed : ∀ s c, specNeed s c = true → P s c = true)
    (hpar : ∀ s c, P s c = true → accepts s c = true → parenable c = true)
    (s : Slot) (e : E) (rest : List Tok) (hw : wf s e = true) (hf : inFrag e = true)
    (hfol : follow s.minLad rest = true) : parseE s (pr P s e ++ rest) = some (e, rest) :=
  parse_complete rest (pr_derives P hneed hpar s e hw) hf hfol

theorem parse_pr_minimal (s : Slot) (e : E) (rest : List Tok) (hw : wf s e = true) (hf : inFrag e = true)
    (hfol : follow s.minLad rest = true) : parseE s (pr minimal s e ++ rest) = some (e, rest) :=
  parse_complete rest (pr_minimal_derives s e hw) hf hfol

theorem parse_pr_whole (s : Slot) (e : E) (hw : wf s e = true) (hf : inFrag e = true) :
    parse s (pr minimal s e) = some e :=
  parse_complete_nil (pr_minimal_derives s e hw) hf

/-- **The printed phrase derives only the intended tree**: `pr_derives` + unambiguity. -/
theorem pr_derives_only (P : Slot → Cls → Bool)
    (hneed : ∀ s c, specNeed s c = true → P s c = true)
    (hpar : ∀ s c, P s c = true → accepts s c = true → parenable c = true)
    (s : Slot) (e e' : E) (hw : wf s e = true) (hf : inFrag e = true) (hf' : inFrag e' = true)
    (hd : Derives s (pr P s e) e') : e' = e :=
  derives_unique s _ e' e hd (pr_derives P hneed hpar s e hw) hf' hf

/-- **Replacing an operand and printing with a covering policy yields a phrase that derives ONLY the parent with
exactly that replacement in that position** (`C09.replace_groups` shows that it derives that tree; this, that it derives
no other). -/
theorem replace_groups_unique (P : Slot → Cls → Bool)
    (hneed : ∀ s c, specNeed s c = true → P s c = true)
    (hpar : ∀ s c, P s c = true → accepts s c = true → parenable c = true)
    (s : Slot) (e r : E) (i : Nat) (e' : E) (hw : wf s (setKid e i r) = true)
    (hf : inFrag (setKid e i r) = true) (hf' : inFrag e' = true)
    (hd : Derives s (pr P s (setKid e i r)) e') : e' = setKid e i r :=
  pr_derives_only P hneed hpar s _ e' hw hf hf' hd

/-! ### why the fragment hypothesis is needed: outside it the relation `Derives` is NOT unambiguous -/

/-- Full-strength unambiguity (`∀ e₁ e₂`, no `inFrag`) is false of the grammar as modelled: `Derives.leaf` lets a leaf
carry any class, statement kinds such as `exprStmt` render exactly like their child, and the two kinds of starred
expression (`star`: `'*' bitwise_or` in displays, `starArg`: `'*' expression` in calls) render alike and share the class
`star` — which of them a slot means is fixed by the context, not by `Derives`.  Concrete witnesses: -/
theorem derives_unique_false_outside_fragment :
    (∃ e₁ e₂, Derives (sl TEST) [.name 0] e₁ ∧ Derives (sl TEST) [.name 0] e₂ ∧ e₁ ≠ e₂) ∧
    (∃ e₁ e₂, Derives { minLad := TEST, named := true, star := true } [.sym tStar, .name 0] e₁ ∧
      Derives { minLad := TEST, named := true, star := true } [.sym tStar, .name 0] e₂ ∧ e₁ ≠ e₂) := by
  refine ⟨⟨.leaf (.name 0) (.lad ATOM), .node .exprStmt [.leaf (.name 0) (.lad ATOM)], ?_, ?_, by simp⟩,
    ⟨.node .star [.leaf (.name 0) (.lad ATOM)], .node .starArg [.leaf (.name 0) (.lad ATOM)], ?_, ?_, by simp⟩⟩
  · exact Derives.leaf _ _ _ (by decide)
  · exact Derives.node (sl TEST) .exprStmt [_] [[.name 0]] rfl (by decide)
      (DerivesL.cons _ 0 _ [] [.name 0] [] (Derives.leaf _ _ _ (by decide)) (DerivesL.nil _ 1))
  · exact Derives.node _ .star [_] [[.name 0]] rfl (by decide)
      (DerivesL.cons _ 0 _ [] [.name 0] [] (Derives.leaf _ _ _ (by decide)) (DerivesL.nil _ 1))
  · exact Derives.node _ .starArg [_] [[.name 0]] rfl (by decide)
      (DerivesL.cons _ 0 _ [] [.name 0] [] (Derives.leaf _ _ _ (by decide)) (DerivesL.nil _ 1))

/-! ### non-vacuity -/

private def nm (i : Nat) : E := .leaf (.name i) (.lad ATOM)
private def a := nm 0
private def b := nm 1
private def c := nm 2
private def d := nm 3
private def g := nm 4
private def ta : Tok := .name 0
private def tb : Tok := .name 1
private def tc : Tok := .name 2
private def td : Tok := .name 3
private def tg : Tok := .name 4

/-- `not (a + b * -c ** d) < 7 <= (a if b else c)  or  d and (lambda: a | b) and not await g ** -a` -/
private def big : E :=
  .node (.boolop true)
    [.node .not_ [.node (.cmp [82, 83])
        [.node (.bin 5) [a, .node (.bin 7) [b, .node (.un 1) [.node (.bin 12) [c, d]]]],
         .leaf (.int 7) .intlit,
         .node .ifexp [a, b, c]]],
     .node (.boolop false)
       [d, .node .lambda [.node (.bin 0) [a, b]],
        .node .not_ [.node (.bin 12) [.node .await_ [g], .node (.un 1) [a]]]]]

example : inFrag big = true := by decide
example : wf (sl TEST) big = true := by decide

/-- the printed phrase (parentheses exactly around the conditional and the lambda) … -/
example : pr minimal (sl TEST) big =
    [.sym tNot, ta, .sym 5, tb, .sym 7, .sym 31, tc, .sym tPow, td, .sym 82, .int 7, .sym 83, .lp, ta, .sym tIf, tb,
     .sym tElse, tc, .rp, .sym 70, td, .sym 71, .lp, .sym tLambda, .sym tColon, ta, .sym 0, tb, .rp, .sym 71, .sym tNot,
     .sym tAwait, tg, .sym tPow, .sym 31, ta] := by decide

/-- … is parsed back to the tree by evaluation of the executable parser (depth 6, all constructs of the fragment) -/
example : parse (sl TEST) (pr minimal (sl TEST) big) = some big := by with_unfolding_all rfl

/-- and so is the fully parenthesised print (policy: parenthesise everything parenthesisable) -/
example : parse (sl TEST) (pr (fun _ c => parenable c) (sl TEST) big) = some big := by with_unfolding_all rfl

/-- `fun _ c => parenable c` meets the second hypothesis of `parse_pr` (`hpar`) -/
example : ∀ s c, (fun (_ : Slot) c => parenable c) s c = true → accepts s c = true → parenable c = true :=
  fun _ _ h _ => h

/-- in front of a continuation that cannot extend the phrase: `a + b` then `) …`, `else …`, `if …` (slot `OR`) -/
example : parseE (sl OR) ([ta, .sym 5, tb] ++ [.sym tIf, tc]) = some (.node (.bin 5) [a, b], [.sym tIf, tc]) := by
  with_unfolding_all rfl
example : follow (sl OR).minLad [.sym tIf, tc] = true := by decide
/-- … while `* c` does continue it (the follow condition is necessary) -/
example : follow (sl TEST).minLad [.sym 7, tc] = false := by decide
example : parseE (sl TEST) ([ta, .sym 5, tb] ++ [.sym 7, tc]) =
    some (.node (.bin 5) [a, .node (.bin 7) [b, c]], []) := by with_unfolding_all rfl

/-! ambiguous-looking phrases and the unique tree each one parses to (hence, by `parse_iff`, derives) -/

/-- `a - b - c` is `(a - b) - c` -/
example : parse (sl TEST) [ta, .sym 6, tb, .sym 6, tc] = some (.node (.bin 6) [.node (.bin 6) [a, b], c]) := by
  with_unfolding_all rfl
/-- `a ** b ** c` is `a ** (b ** c)` -/
example : parse (sl TEST) [ta, .sym tPow, tb, .sym tPow, tc] = some (.node (.bin 12) [a, .node (.bin 12) [b, c]]) := by
  with_unfolding_all rfl
/-- `not a == b` is `not (a == b)` -/
example : parse (sl TEST) [.sym tNot, ta, .sym 80, tb] = some (.node .not_ [.node (.cmp [80]) [a, b]]) := by
  with_unfolding_all rfl
/-- `a if b else c if d else g` is `a if b else (c if d else g)` -/
example : parse (sl TEST) [ta, .sym tIf, tb, .sym tElse, tc, .sym tIf, td, .sym tElse, tg] =
    some (.node .ifexp [a, b, .node .ifexp [c, d, g]]) := by with_unfolding_all rfl
/-- `-a ** b` is `-(a ** b)` -/
example : parse (sl TEST) [.sym 31, ta, .sym tPow, tb] = some (.node (.un 1) [.node (.bin 12) [a, b]]) := by
  with_unfolding_all rfl
/-- `a ** -b ** c` is `a ** (-(b ** c))` -/
example : parse (sl TEST) [ta, .sym tPow, .sym 31, tb, .sym tPow, tc] =
    some (.node (.bin 12) [a, .node (.un 1) [.node (.bin 12) [b, c]]]) := by with_unfolding_all rfl
/-- `a or b or c` is the flat 3-ary BoolOp; the nested one needs its parentheses -/
example : parse (sl TEST) [ta, .sym 70, tb, .sym 70, tc] = some (.node (.boolop true) [a, b, c]) := by
  with_unfolding_all rfl
example : parse (sl TEST) [.lp, ta, .sym 70, tb, .rp, .sym 70, tc] =
    some (.node (.boolop true) [.node (.boolop true) [a, b], c]) := by with_unfolding_all rfl
/-- `a < b < c` is one chain -/
example : parse (sl TEST) [ta, .sym 82, tb, .sym 82, tc] = some (.node (.cmp [82, 82]) [a, b, c]) := by
  with_unfolding_all rfl
/-- `await a ** b` is `(await a) ** b` -/
example : parse (sl TEST) [.sym tAwait, ta, .sym tPow, tb] = some (.node (.bin 12) [.node .await_ [a], b]) := by
  with_unfolding_all rfl
/-- `lambda: a if b else c` is `lambda: (a if b else c)` -/
example : parse (sl TEST) [.sym tLambda, .sym tColon, ta, .sym tIf, tb, .sym tElse, tc] =
    some (.node .lambda [.node .ifexp [a, b, c]]) := by with_unfolding_all rfl
/-! postfix trailers bind tightest; an integer literal needs parentheses before `.` -/
/-- `-a.x ** b(c, d)[g]` is `-((a.x) ** ((b(c, d))[g]))` -/
example : parse (sl TEST) [.sym 31, ta, .sym tDot, .name 7, .sym tPow, tb, .lp, tc, .sym tComma, td, .rp, .sym tLb, tg,
      .sym tRb] =
    some (.node (.un 1) [.node (.bin 12) [.node (.attr 7) [a],
      .node .subscr [.node (.call 2 []) [b, c, d], g]]]) := by with_unfolding_all rfl
/-- `await a(b).x` is `await ((a(b)).x)`; `(await a)(b)` needs its parentheses -/
example : parse (sl TEST) [.sym tAwait, ta, .lp, tb, .rp, .sym tDot, .name 7] =
    some (.node .await_ [.node (.attr 7) [.node (.call 1 []) [a, b]]]) := by with_unfolding_all rfl
example : parse (sl TEST) [.lp, .sym tAwait, ta, .rp, .lp, tb, .rp] =
    some (.node (.call 1 []) [.node .await_ [a], b]) := by with_unfolding_all rfl
/-- `(lambda: a)()` and `a()()` -/
example : parse (sl TEST) [.lp, .sym tLambda, .sym tColon, ta, .rp, .lp, .rp] =
    some (.node (.call 0 []) [.node .lambda [a]]) := by with_unfolding_all rfl
example : parse (sl TEST) [ta, .lp, .rp, .lp, .rp] = some (.node (.call 0 []) [.node (.call 0 []) [a]]) := by
  with_unfolding_all rfl
/-- `(1).x` is an attribute of the literal; `1 .x` (tokens `1` `.` `x`) is not a phrase of the grammar; `1[a]` is -/
example : parse (sl TEST) [.lp, .int 1, .rp, .sym tDot, .name 7] = some (.node (.attr 7) [.leaf (.int 1) .intlit]) := by
  with_unfolding_all rfl
example : parse (sl TEST) [.int 1, .sym tDot, .name 7] = none := by with_unfolding_all rfl
example : parse (sl TEST) [.int 1, .sym tLb, ta, .sym tRb] = some (.node .subscr [.leaf (.int 1) .intlit, a]) := by
  with_unfolding_all rfl
example : pr minimal (sl TEST) (.node (.attr 7) [.leaf (.int 1) .intlit]) = [.lp, .int 1, .rp, .sym tDot, .name 7] := by
  decide
/-- a printed tree with trailers, operators and conditionals (depth 5) round-trips by evaluation -/
private def big2 : E :=
  .node (.call 2 []) [.node (.attr 3) [.node .ifexp [a, b, c]],
    .node (.bin 6) [.node .subscr [a, .node .lambda [b]], .node (.call 0 []) [.node (.un 2) [c]]],
    .node (.boolop false) [.node (.attr 1) [.leaf (.int 5) .intlit], .node .not_ [.node (.call 1 []) [d, g]]]]
example : inFrag big2 = true := by decide
example : wf (sl TEST) big2 = true := by decide
example : parse (sl TEST) (pr minimal (sl TEST) big2) = some big2 := by with_unfolding_all rfl
example : parse (sl TEST) (pr (fun _ c => parenable c) (sl TEST) big2) = some big2 := by with_unfolding_all rfl

/-- not phrases: `a + not b`, `a ** not b`, `a < (nothing)`, `a if b` -/
example : parse (sl TEST) [ta, .sym 5, .sym tNot, tb] = none := by with_unfolding_all rfl
example : parse (sl TEST) [ta, .sym 82] = none := by with_unfolding_all rfl
example : parse (sl TEST) [ta, .sym tIf, tb] = none := by with_unfolding_all rfl
/-- hence (by `parse_iff`) `a + not b` derives no tree of the fragment at all -/
example (e : E) (hf : inFrag e = true) : ¬ Derives (sl TEST) [ta, .sym 5, .sym tNot, tb] e := by
  intro hd
  have := (parse_iff (sl TEST) (by decide) _ e).2 ⟨hd, hf⟩
  have h2 : parse (sl TEST) [ta, .sym 5, .sym tNot, tb] = none := by with_unfolding_all rfl
  rw [h2] at this
  cases this

/-- `C09.not_derives_sub_right` as an instance of unambiguity -/
example : ¬ Derives (sl TEST) [ta, .sym 6, tb, .sym 6, tc] (.node (.bin 6) [a, .node (.bin 6) [b, c]]) := by
  intro hd
  have := (parse_iff (sl TEST) (by decide) _ _).2 ⟨hd, by decide⟩
  have h2 : parse (sl TEST) [ta, .sym 6, tb, .sym 6, tc] = some (.node (.bin 6) [.node (.bin 6) [a, b], c]) := by
    with_unfolding_all rfl
  rw [h2] at this
  simp [a, b, c, nm] at this

/-- non-vacuity of `replace_groups_unique`: replace the right operand of `a * b` by `c + d` -/
example : setKid (.node (.bin 7) [a, b]) 1 (.node (.bin 5) [c, d]) = .node (.bin 7) [a, .node (.bin 5) [c, d]] := rfl
example : wf (sl TEST) (setKid (.node (.bin 7) [a, b]) 1 (.node (.bin 5) [c, d])) = true := by decide
example : pr minimal (sl TEST) (setKid (.node (.bin 7) [a, b]) 1 (.node (.bin 5) [c, d])) =
    [ta, .sym 7, .lp, tc, .sym 5, td, .rp] := by decide

end Pfst.C09c
