import Pfst.CanDel
import Pfst.Gen.CanDelAll

/-!
# C01c — "delete all elements" is allowed under normalisation exactly when the statement stays valid

`Pfst/CanDel.lean` models `_can_del_all` and the block grammar.  `Pfst/Gen/CanDelAll.lean` is regenerated on every run from
the real function called on real nodes (and from CPython's verdict on the emptied statement).  The general theorems are
about the model for EVERY shape; the table theorems tie model and grammar to the code and to CPython on every run.
-/
namespace Pfst.C01c
open Pfst.CanDel Pfst.Gen.CanDelAll

/-- **Sound and complete under normalisation**: for every valid statement shape and every list field it has, emptying the
field is allowed iff the statement is valid Python afterwards. -/
theorem canDelAll_iff_valid (s : Shape) (f : Field) (hf : hasField s.kind f = true) (hv : valid s = true) :
    canDelAll true s f = validAfter s f := by
  rcases s with ⟨k, h, e, fb⟩
  cases f
  case body | cases => rfl
  case orelse =>
    -- always allowed: a `try` that is valid with its `else` is valid without it
    cases k <;> simp_all [canDelAll, validAfter, valid, emptied]
    all_goals exact hv.imp_right And.left
  -- `handlers`, `finalbody`: `hf` leaves the two `try` kinds and `_ExceptHandlers`; there both sides unfold to the
  -- grammar's test with the emptied field false
  all_goals cases k <;> simp_all [canDelAll, validAfter, valid, emptied, hasField]

/-- **Without normalisation nothing is refused** (intermediate invalid states are documented). -/
theorem canDelAll_raw (s : Shape) (f : Field) : canDelAll false s f = true := by
  simp [canDelAll]

/-- After an allowed emptying under normalisation the shape is valid again, so the invariant `valid` is kept by every
sequence of allowed "delete all" steps. -/
theorem valid_preserved (s : Shape) (f : Field) (hf : hasField s.kind f = true) (hv : valid s = true)
    (hc : canDelAll true s f = true) : valid (emptied s f) = true := by
  rw [canDelAll_iff_valid s f hf hv] at hc
  cases f <;> first | exact hc | exact hv

/-- **Tie to the code**: on every extracted row the real `_can_del_all` answers what the model answers, with
normalisation on and off. -/
theorem table_matches_model :
    rows.all (fun r => r.canNorm == canDelAll true r.shape r.field && r.canRaw == canDelAll false r.shape r.field) = true := by
  decide +kernel

/-- **Tie to CPython**: on every extracted row the grammar model agrees with Python's parser about the emptied statement. -/
theorem table_grammar_agrees : rows.all (fun r => r.parsesAfter == validAfter r.shape r.field) = true := by
  decide +kernel

/-- Every extracted row is a valid statement with that field (the hypotheses of `canDelAll_iff_valid` are met by what was
extracted), and the table is not empty. -/
theorem table_rows_wellformed :
    rows.all (fun r => hasField r.shape.kind r.field && valid r.shape) = true ∧ rows.length ≥ 30 := by
  decide +kernel

/-- The end-to-end statement on the extracted rows: the real function allows the deletion iff CPython accepts the result. -/
theorem table_sound_complete : rows.all (fun r => r.canNorm == r.parsesAfter) = true := by
  decide +kernel

/-- Where the emptying is allowed, doing it for real (delete and cut) leaves a statement whose live class is the class
CPython gives the resulting source (a `TryStar` that loses all its `except*` handlers and keeps a `finally` becomes a `Try`). -/
theorem table_class_after : rows.all (fun r => r.clsOk) = true := by
  decide +kernel

example : canDelAll true ⟨.tryS, true, true, true⟩ .handlers = false ∧ validAfter ⟨.tryS, true, true, true⟩ .handlers = false ∧
    canDelAll true ⟨.tryS, true, false, true⟩ .handlers = true := by decide

end Pfst.C01c
