import Pfst.Gen.ReconcileParams
/-!
C13 — the parameter defaults of `Reconcile.__init__` (`trivia_ast_put`, `trivia_fst_put`, `trivia_fst_get`).

`Pfst/Gen/ReconcileParams.lean` is regenerated on every run: `Reconcile.__init__` is called with every combination of the three
parameters omitted / `None` / given, and the value each attribute ends up with is recorded.  The model of the default logic
is `effective`; the theorems say that the extracted table IS that model on the whole lattice, i.e. that the effective value
of a parameter depends on what was passed for THAT parameter only.
-/
namespace Pfst.C13
open Pfst.Gen.ReconcileParams

/-- documented behaviour ("`None` means use default"): omitted (0) or `None` (1) gives the default, a value (2) is kept -/
def effective (passed : Nat) : String := if passed == 2 then "given" else "default"

/-- the table covers the whole presence lattice: 27 distinct rows of three codes `< 3` -/
theorem params_lattice_complete :
    rows.length = 27 ∧ (rows.map (·.1)).eraseDups.length = 27 ∧ rows.all (fun r => r.1.length == 3 && r.1.all (· < 3)) = true ∧
    params.length = 3 := by decide +kernel

/-- An omitted (or `None`) parameter always gets its documented default, REGARDLESS of the other two. -/
theorem omitted_gets_default :
    rows.all (fun r => (List.zip r.1 r.2).all (fun p => p.1 == 2 || p.2 == "default")) = true := by decide +kernel

/-- A given parameter is kept, regardless of the other two. -/
theorem given_is_kept :
    rows.all (fun r => (List.zip r.1 r.2).all (fun p => p.1 != 2 || p.2 == "given")) = true := by decide +kernel

/-- Together: every attribute is a function of its own parameter only (`effective`), on every row. -/
theorem param_independent : rows.all (fun r => r.2 == r.1.map effective) = true := by decide +kernel

/-- non-vacuity: the row the bare call uses, and a row where only the middle parameter is given -/
example : ([0, 0, 0], ["default", "default", "default"]) ∈ rows := by decide +kernel
example : ([0, 2, 0], ["default", "given", "default"]) ∈ rows := by decide +kernel

end Pfst.C13
