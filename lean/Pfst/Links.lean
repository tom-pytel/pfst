import Pfst.Offset
/-
Model of the link and cache bookkeeping between the two parallel trees of pfst (src/fst/fst_core.py, fst.py, view.py).

* AST objects are `Nat`s arranged in a tree (`Ast`); every node records the slot (`astfield`) it occupies in its
  parent.  FST objects are `Nat`s with the four attributes the code keeps: `.a`, `.parent`, `.pfield`, `._cache`.
  `a.f` is the map `astF`.
* The operations mirror the code as written: `FST.__new__` for a child (`fstNew`: re-use of an existing `a.f`, else a
  new object; `_cache = {}` either way), `_make_fst_tree`, `_unmake_fst_tree`, `_set_ast`, `_set_field`, `_touch`,
  `_touchall`, the cache clearing of the `_offset` walk (`touchNode`/`touchList`: same visit pattern as
  `Pfst.Offset.goNode/goList`; the node that triggers a `break` is cleared, the siblings it cuts off are not), and the
  self-healing window arithmetic of `FSTView`.
Not modelled: object identity of the `ctx`/`op` singleton ASTs that `_make_fst_tree` replaces by unique objects (the
harness feeds unique objects), the order in which new FST objects are allocated (names of new objects are compared up
to renaming).  Only import-free model files are imported (linked into the native driver).
-/
namespace Pfst.Links

-- AST object ids and FST object ids are plain `Nat`s (named `a`, `x` resp. `f`, `g`, `pf` below)

/-- `astfield(name, idx)` -/
structure Fld where
  name : String
  idx  : Option Nat
deriving DecidableEq, Repr, Inhabited

/-- AST object: identity, class name, the slot it occupies in its parent (`none` at a root), children. -/
inductive Ast where
  | mk (id : Nat) (kind : String) (fld : Option Fld) (kids : List Ast)
deriving Repr, Inhabited

def Ast.id : Ast → Nat | .mk i _ _ _ => i
def Ast.kind : Ast → String | .mk _ k _ _ => k
def Ast.fld : Ast → Option Fld | .mk _ _ f _ => f
def Ast.kids : Ast → List Ast | .mk _ _ _ k => k
def Ast.setFld (f : Option Fld) : Ast → Ast | .mk i k _ ks => .mk i k f ks

/-- cached answers: key (`'loc'`, `'bloc'`, `'parsT'`, ...) and the answer as integers -/
abbrev Cache := List (String × List Int)

/-- FST object attributes (`fst.py:441-444`). -/
structure FstRec where
  a      : Option Nat := none
  parent : Option Nat := none
  pfield : Option Fld := none
  cache  : Cache := []
deriving Repr, Inhabited

structure Store where
  astF : Nat → Option Nat      -- `a.f`
  fst  : Nat → FstRec
  next : Nat                     -- objects `≥ next` do not exist yet
deriving Inhabited

def upd {β} (g : Nat → β) (k : Nat) (v : β) : Nat → β := fun x => if x = k then v else g x

mutual
/-- AST ids of a subtree, preorder -/
def ids : Ast → List Nat
  | .mk i _ _ kids => i :: idsList kids
def idsList : List Ast → List Nat
  | [] => []
  | k :: rest => ids k ++ idsList rest
end

/-! ### `FST.__new__` for a child node (fst.py:906-919) -/

/-- `FST(a, parent, pfield)`: re-use the FST already assigned to the AST, otherwise a new object; then
`self.a = a; self.pfield = pfield; self._cache = {}; self.parent = parent`. -/
def fstNew (σ : Store) (a : Nat) (parent : Nat) (fld : Option Fld) : Store × Nat :=
  match σ.astF a with
  | some f =>
    ({ σ with fst := upd σ.fst f { a := some a, parent := some parent, pfield := fld, cache := [] } }, f)
  | none =>
    let f := σ.next
    ({ astF := upd σ.astF a (some f),
       fst := upd σ.fst f { a := some a, parent := some parent, pfield := fld, cache := [] },
       next := f + 1 }, f)

/-! ### `_make_fst_tree` (fst_core.py:609) -/

mutual
/-- one child of `parent`: create its FST, then (the stack walk) the FSTs of everything below it -/
def makeChild (σ : Store) (pf : Nat) : Ast → Store
  | .mk a _ fld kids =>
    let r := fstNew σ a pf fld
    makeKids r.1 r.2 kids
def makeKids (σ : Store) (pf : Nat) : List Ast → Store
  | [] => σ
  | k :: rest => makeKids (makeChild σ pf k) pf rest
end

/-! ### `_unmake_fst_tree` (fst_core.py:655) -/

/-- `if f := getattr(a, 'f', None): f.a = a.f = None` -/
def unlink (σ : Store) (a : Nat) : Store :=
  match σ.astF a with
  | some f => { σ with astF := upd σ.astF a none, fst := upd σ.fst f { σ.fst f with a := none } }
  | none => σ

mutual
def unmake (σ : Store) : Ast → Store
  | .mk a _ _ kids => unmakeList (unlink σ a) kids
def unmakeList (σ : Store) : List Ast → Store
  | [] => σ
  | k :: rest => unmakeList (unmake σ k) rest
end

/-! ### `_touch`, `_touchall` (fst_core.py:1569, 1579) -/

def touch (σ : Store) (f : Nat) : Store := { σ with fst := upd σ.fst f { σ.fst f with cache := [] } }

/-- `child.f._cache.clear()` for an AST (no-op in the model when the AST has no FST; the code would raise) -/
def touchAst (σ : Store) (a : Nat) : Store :=
  match σ.astF a with | some f => touch σ f | none => σ

mutual
def touchTree (σ : Store) : Ast → Store
  | .mk a _ _ kids => touchTreeList (touchAst σ a) kids
def touchTreeList (σ : Store) : List Ast → Store
  | [] => σ
  | k :: rest => touchTreeList (touchTree σ k) rest
end

/-- tail of `_put_slice` for `Call` / `ClassDef` / `MatchClass` (fst_put_slice.py, after the repair of C02-F1):
`for a in iter_child_nodes(self.a): a.f._touch()` -/
def touchKids (σ : Store) : List Ast → Store
  | [] => σ
  | k :: rest => touchKids (touchAst σ k.id) rest

/-- `a.f.pfield = astfield(field, i)`: the FST of child `k` records the slot `k` occupies now -/
def setPfield (σ : Store) (k : Ast) : Store :=
  match σ.astF k.id with
  | some f => { σ with fst := upd σ.fst f { σ.fst f with pfield := k.fld } }
  | none => σ

/-- the renumbering loops that follow the removal / insertion of a span in (parallel) list fields
(`for i, a in enumerate(getattr(ast, field)): if a: a.f.pfield = astfield(field, i)` in
fst_get_slice._get_slice_arguments and friends, `_put_slice_asts`): run over the remaining children, each carrying the
slot it now occupies. -/
def renumberKids (σ : Store) : List Ast → Store
  | [] => σ
  | k :: rest => renumberKids (setPfield σ k) rest

/-- `while parent := parent.parent: parent._cache.clear()`; `fuel` bounds the walk (number of FST objects). -/
def touchParents (σ : Store) : Nat → Nat → Store
  | 0, _ => σ
  | fuel + 1, f =>
    match (σ.fst f).parent with
    | none => σ
    | some p => touchParents (touch σ p) fuel p

/-- `_touchall(parents, self_, children)` on the FST `f` whose AST subtree is `t`. -/
def touchall (σ : Store) (f : Nat) (t : Ast) (parents self_ children : Bool) : Store :=
  let σ1 := if children then (if self_ then touchTree σ t else touchTreeList σ t.kids)
            else if self_ then touch σ f else σ
  if parents then touchParents σ1 σ1.next f else σ1

/-! ### tree surgery helpers (what `pfield.set(parent.a, ast)` / `setattr(ast, field, ...)` do to the AST) -/

mutual
def findId (i : Nat) : Ast → Option Ast
  | .mk j k f ks => if j = i then some (.mk j k f ks) else findIdList i ks
def findIdList (i : Nat) : List Ast → Option Ast
  | [] => none
  | k :: rest => match findId i k with | some r => some r | none => findIdList i rest
end

mutual
/-- replace the subtree whose root has id `i` -/
def replaceId (i : Nat) (new : Ast) : Ast → Ast
  | .mk j k f ks => if j = i then new else .mk j k f (replaceIdList i new ks)
def replaceIdList (i : Nat) (new : Ast) : List Ast → List Ast
  | [] => []
  | k :: rest => replaceId i new k :: replaceIdList i new rest
end

mutual
/-- at the node with id `i` replace all children in field `name` by `new` -/
def setKids (i : Nat) (name : String) (new : List Ast) : Ast → Ast
  | .mk j k f ks =>
    if j = i then .mk j k f (ks.filter (fun c => !(match c.fld with | some g => g.name == name | none => false)) ++ new)
    else .mk j k f (setKidsList i name new ks)
def setKidsList (i : Nat) (name : String) (new : List Ast) : List Ast → List Ast
  | [] => []
  | k :: rest => setKids i name new k :: setKidsList i name new rest
end

structure State where
  root  : Ast
  rootF : Nat
  σ     : Store
deriving Inhabited

/-! ### `_set_ast` (fst_core.py:714) -/

/-- `a.f.parent = self` for the children of the new AST (`valid_fst=True`) -/
def adoptKids (σ : Store) (f : Nat) : List Ast → Store
  | [] => σ
  | k :: rest =>
    let σ1 := match σ.astF k.id with
              | some g => { σ with fst := upd σ.fst g { σ.fst g with parent := some f } }
              | none => σ
    adoptKids σ1 f rest

/-- `self.a = ast; ast.f = self` -/
def relink (σ : Store) (f a : Nat) : Store :=
  { σ with fst := upd σ.fst f { σ.fst f with a := some a }, astF := upd σ.astF a (some f) }

def setAst (s : State) (f : Nat) (new : Ast) (validFst : Bool := false) (unmakeOld : Bool := true) : State :=
  let σ := s.σ
  let oldId := (σ.fst f).a
  let old := oldId.bind (fun i => findId i s.root)
  -- if unmake: self._unmake_fst_tree(); if f := getattr(ast, 'f', None): f.a = None
  let σ := if unmakeOld then
             let σ := match old with | some o => unmake σ o | none => σ
             match σ.astF new.id with
             | some g => { σ with fst := upd σ.fst g { σ.fst g with a := none } }
             | none => σ
           else σ
  -- self.a = ast; ast.f = self
  let σ := relink σ f new.id
  let σ := if validFst then adoptKids σ f new.kids else makeKids σ f new.kids
  -- if parent := self.parent: self.pfield.set(parent.a, ast)
  let new' := new.setFld (σ.fst f).pfield
  let root := match (σ.fst f).parent with
              | some _ => (match oldId with | some i => replaceId i new' s.root | none => s.root)
              | none => if f = s.rootF then new' else s.root
  { s with root := root, σ := touch σ f }

/-! ### `_set_field` (fst_core.py:759) -/

/-- `FST(a, self, astfield(field, i))` for each new element; with `valid_fst=False` also the trees below -/
def newElems (σ : Store) (f : Nat) (validFst : Bool) : List Ast → Store
  | [] => σ
  | k :: rest =>
    let r := fstNew σ k.id f k.fld
    newElems (if validFst then r.1 else makeKids r.1 r.2 k.kids) f validFst rest

/-- `astfield(field, i)` for the elements of a list field, `astfield(field, None)` for a single child -/
def relabel (name : String) (isList : Bool) : Nat → List Ast → List Ast
  | _, [] => []
  | i, k :: rest => k.setFld (some ⟨name, if isList then some i else none⟩) :: relabel name isList (i + 1) rest

def setField (s : State) (f : Nat) (name : String) (isList : Bool) (new0 : List Ast) (validFst : Bool := false)
    (unmakeOld : Bool := true) : State :=
  let σ := s.σ
  let new := relabel name isList 0 new0
  match (σ.fst f).a with
  | none => s
  | some a =>
    let body := match findId a s.root with
                | some t => t.kids.filter (fun c => match c.fld with | some g => g.name == name | none => false)
                | none => []
    let σ := if unmakeOld then unmakeList σ body else σ
    let σ := newElems σ f validFst new
    { s with root := setKids a name new s.root, σ := touch σ f }

/-! ### link invariant (executable: the driver evaluates it on every dumped graph) -/

mutual
/-- `a.f.a is a`, `a.f.parent` is the FST of the parent AST, `a.f.pfield` is the slot `a` occupies; hereditarily. -/
def linkedB (σ : Store) (pf : Option Nat) : Ast → Bool
  | .mk a _ fld kids =>
    match σ.astF a with
    | none => false
    | some f => (σ.fst f).a == some a && (σ.fst f).parent == pf && (σ.fst f).pfield == fld
                && linkedListB σ (some f) kids
def linkedListB (σ : Store) (pf : Option Nat) : List Ast → Bool
  | [] => true
  | k :: rest => linkedB σ pf k && linkedListB σ pf rest
end

def linkInvB (s : State) : Bool := linkedB s.σ none s.root && (s.σ.astF s.root.id == some s.rootF)

mutual
/-- the ASTs of the subtree are dead: none has an `a.f` (the FST side, `f.a = None`, is not looked at) -/
def deadB (σ : Store) : Ast → Bool
  | .mk a _ _ kids => (σ.astF a).isNone && deadListB σ kids
def deadListB (σ : Store) : List Ast → Bool
  | [] => true
  | k :: rest => deadB σ k && deadListB σ rest
end

/-! ### operation sequences -/

inductive Op where
  | setAst (f : Nat) (new : Ast) (validFst unmakeOld : Bool)
  | setField (f : Nat) (name : String) (isList : Bool) (new : List Ast) (validFst unmakeOld : Bool)
  | touch (f : Nat)
  | touchall (f : Nat) (parents self_ children : Bool)

def step (s : State) : Op → State
  | .setAst f new v u => setAst s f new v u
  | .setField f name l new v u => setField s f name l new v u
  | .touch f => { s with σ := touch s.σ f }
  | .touchall f p sf c =>
    match ((s.σ.fst f).a).bind (fun i => findId i s.root) with
    | some t => { s with σ := touchall s.σ f t p sf c }
    | none => s

def run (s : State) : List Op → State
  | [] => s
  | o :: rest => run (step s o) rest

/-! ### executable premises of the operation theorems (`Pfst.C02.WF`, `Pfst.C02.Admissible`)

The driver evaluates them on every real state / call of the correspondence, so the evidence says on how many real
calls the hypotheses of `setAst_inv` / `setField_inv` / `run_wf` actually held. -/

/-- the FST objects of the tree exist -/
def boundedB (s : State) : Bool :=
  (ids s.root).all (fun x => match s.σ.astF x with | some g => decide (g < s.σ.next) | none => true)

def wfB (s : State) : Bool := linkInvB s && decide (ids s.root).Nodup && boundedB s && s.root.fld.isNone

/-- pairwise distinct ASTs, none of which has an FST -/
def freshB (σ : Store) (l : List Nat) : Bool := decide l.Nodup && l.all (fun x => (σ.astF x).isNone)

def admissibleB (s : State) : Op → Bool
  | .setAst f new v u => !v && u && freshB s.σ (ids new) && (f == s.rootF ||
      (match ((s.σ.fst f).a).bind (fun i => findId i s.root) with
       | some old => (s.σ.astF old.id == some f) && (s.root.id != old.id)
       | none => false))
  | .setField f _ _ new v u => !v && u && (match ((s.σ.fst f).a).bind (fun i => findId i s.root) with
      | some P => (s.σ.astF P.id == some f) && freshB s.σ (idsList new)
      | none => false)
  | .touch _ => true
  | .touchall _ _ _ _ => true

/-! ### cache clearing of the `_offset` walk (fst_core.py:1722-1779) -/

open Pfst.Offset in
mutual
/-- ids whose `_cache` is cleared by `f._cache.clear()` on the walk, and whether the node triggered a `break`.  The
clear happens BEFORE the two `break` tests, so the breaking node itself is cleared; the earlier siblings that the
`break` discards are not; a `continue`d node (`exclude` with `offset_excluded=False`) is not; below a node skipped by the
`flno > lno` `continue` nothing is cleared. -/
def touchNode (π : Params) : Node → List Nat × Bool
  | .mk i pos deco kids =>
    if π.exclude == some i && !π.offsetExcluded then ([], false)
    else
      let recurse := !(π.exclude == some i)
      match pos with
      | none => (i :: (if recurse then (touchList π kids).1 else []), false)
      | some p =>
        if endsBefore π p then ([i], true)
        else if skipKids π p deco then ([i], false)
        else (i :: (if recurse then (touchList π kids).1 else []), false)
def touchList (π : Params) : List Node → List Nat × Bool
  | [] => ([], false)
  | n :: rest =>
    let r := touchList π rest
    if r.2 then r
    else
      let m := touchNode π n
      (m.1 ++ r.1, m.2)
end

open Pfst.Offset in
mutual
def allIds : Node → List Nat
  | .mk i _ _ kids => i :: allIdsList kids
def allIdsList : List Node → List Nat
  | [] => []
  | n :: rest => allIds n ++ allIdsList rest
end

open Pfst.Offset in
/-- `_offset(self_=True)`: with `dln = dcol = 0` the code does `self._touchall()` (self - even when called with
`self_=False` -, everything below, and the parents which are outside this subtree) instead of walking. -/
def offsetTouched (π : Params) (t : Node) : List Nat :=
  if π.dln == 0 && π.dcol == 0 then allIds t else (touchNode π t).1

/-! ### `FSTView` window arithmetic (view.py:380 `_base_indices` and the `_stop` updates of the editing methods) -/

structure View where
  start : Nat
  stop  : Option Nat            -- `None` = to the end of the field
deriving DecidableEq, Repr, Inhabited

/-- `_base_indices`: returns the healed view and `(start, stop, len_field)`. -/
def baseIndices (v : View) (lenField : Nat) : View × Nat × Nat × Nat :=
  let (stop, v1) : Nat × View :=
    match v.stop with
    | none => (lenField, v)
    | some s => if s > lenField then (lenField, { v with stop := some lenField }) else (s, v)
  let (start, v2) : Nat × View :=
    if v1.start > stop then (stop, { v1 with start := stop }) else (v1.start, v1)
  (v2, start, stop, lenField)

/-- `if self._stop is not None: self._stop += self._len_field() - len_before` (replace / remove / insert / setitem).
Python integers: the model uses `Int` and clips at 0 only when converting back (a negative `_stop` cannot arise under
the hypotheses of `view_len`). -/
def stopAdd (v : View) (lenBefore lenAfter : Nat) : View :=
  match v.stop with
  | none => v
  | some s => { v with stop := some (Int.toNat ((s : Int) + ((lenAfter : Int) - (lenBefore : Int)))) }

/-- the editing methods of `FSTView`: `kind` selects the `_stop` update that method performs after `_put_slice`;
`start`/`stop` are the values `_base_indices()` returned before the edit, `k` is the number of deleted items
(`__delitem__`). -/
inductive VOp where
  | lenDelta        -- replace, remove, insert, __setitem__: `_stop += len_after - len_before`
  | delitem (k : Nat)   -- `_stop = max(start, stop - k)`
  | append          -- `_stop = stop + 1`
  | extend          -- `_stop = stop + (len_after - len_before)`
  | prepend         -- `_stop += 1`
  | cut             -- `_stop = start`
deriving Repr

def viewAfter (v : View) (op : VOp) (lenBefore lenAfter : Nat) : View :=
  let b := baseIndices v lenBefore
  let v := b.1
  let start := b.2.1
  let stop := b.2.2.1
  match v.stop with
  | none => v
  | some s =>
    match op with
    | .lenDelta => stopAdd v lenBefore lenAfter
    | .delitem k => { v with stop := some (max start (stop - k)) }
    | .append => { v with stop := some (stop + 1) }
    | .extend => { v with stop := some (Int.toNat ((stop : Int) + ((lenAfter : Int) - (lenBefore : Int)))) }
    | .prepend => { v with stop := some (s + 1) }
    | .cut => { v with stop := some start }

/-- `__len__`: `stop - start` of `_base_indices()` -/
def viewLen (v : View) (lenField : Nat) : Nat :=
  let b := baseIndices v lenField
  b.2.2.1 - b.2.1

end Pfst.Links
