import Pfst.Sub
/-!
Lemmas behind `Pfst/Props/C18.lean`: the index arithmetic of quantifier edge items (`flatQ`, `Contig`, `segs`) and of
virtual fields; what one call of a walk of `subn` establishes (`Adv`, `Post`, lifted to child lists by `mapKids_post`)
and its instances: the flat run against the reference transformer, the frame, the `count` cap (`CapInv`) and the
identity template with `nested`.
-/
namespace Pfst.Sub

/-- the captured elements of a quantifier list, in order, as (start, stop) pairs -/
def flatQ : List QItem → List (Nat × Nat)
  | [] => []
  | .one s e :: r => (s, e) :: flatQ r
  | .many l :: r => l ++ flatQ r

/-- consecutive and well-formed pairs: `stop_i = start_{i+1}`, `start_i ≤ stop_i` -/
def Contig : List (Nat × Nat) → Prop
  | [] => True
  | [p] => p.1 ≤ p.2
  | p :: q :: r => p.1 ≤ p.2 ∧ p.2 = q.1 ∧ Contig (q :: r)

/-- the elements of `field` a pair denotes -/
def seg (field : List Tree) (p : Nat × Nat) : List Tree := (field.drop p.1).take (p.2 - p.1)

def segs (field : List Tree) : List (Nat × Nat) → List Tree
  | [] => []
  | p :: r => seg field p ++ segs field r

theorem flatQ_append (a b : List QItem) : flatQ (a ++ b) = flatQ a ++ flatQ b := by
  induction a with
  | nil => rfl
  | cons x r ih =>
    cases x with
    | one s e => simp [flatQ, ih]
    | many l => simp [flatQ, ih, List.append_assoc]

theorem edgeFirst_eq (q : List QItem) : edgeFirst q = (flatQ q).head?.map Prod.fst := by
  induction q with
  | nil => rfl
  | cons x r ih =>
    cases x with
    | one s e => simp [edgeFirst, flatQ]
    | many l =>
      cases l with
      | nil => simp [edgeFirst, flatQ, ih]
      | cons p t => obtain ⟨s, e⟩ := p; simp [edgeFirst, flatQ]

theorem lastStop_eq (l : List (Nat × Nat)) : lastStop l = l.getLast?.map Prod.snd := by
  induction l with
  | nil => rfl
  | cons p r ih =>
    cases r with
    | nil => obtain ⟨s, e⟩ := p; simp [lastStop]
    | cons b t =>
      simp only [lastStop, ih]
      simp [List.getLast?_cons_cons]

theorem edgeLastRev_eq (r : List QItem) : edgeLastRev r = (flatQ r.reverse).getLast?.map Prod.snd := by
  induction r with
  | nil => rfl
  | cons x rest ih =>
    rw [List.reverse_cons, flatQ_append]
    cases x with
    | one s e => simp [edgeLastRev, flatQ]
    | many l =>
      simp only [edgeLastRev, lastStop_eq, flatQ, List.append_nil, List.getLast?_append, ih]
      cases l.getLast? <;> rfl

theorem edgeItem_last (q : List QItem) : edgeItem q true = (flatQ q).getLast?.map Prod.snd := by
  simp [edgeItem, edgeLastRev_eq]

theorem edgeItem_first (q : List QItem) : edgeItem q false = (flatQ q).head?.map Prod.fst := by
  simp [edgeItem, edgeFirst_eq]

theorem contig_tail {p : Nat × Nat} {r : List (Nat × Nat)} (h : Contig (p :: r)) : Contig r := by
  cases r with
  | nil => trivial
  | cons q t => exact h.2.2

theorem take_drop_split (f : List Tree) (a m b : Nat) (h1 : a ≤ m) (h2 : m ≤ b) :
    (f.drop a).take (b - a) = (f.drop a).take (m - a) ++ (f.drop m).take (b - m) := by
  rw [← Nat.sub_add_sub_cancel h2 h1, Nat.add_comm (b - m), List.take_add, List.drop_drop, Nat.add_sub_of_le h1]

theorem segs_contig (f : List Tree) (p : Nat × Nat) (r : List (Nat × Nat)) (h : Contig (p :: r)) :
    ∃ e, (p :: r).getLast?.map Prod.snd = some e ∧ p.1 ≤ e ∧ segs f (p :: r) = (f.drop p.1).take (e - p.1) := by
  induction r generalizing p with
  | nil => exact ⟨p.2, by simp, h, by simp [segs, seg]⟩
  | cons q t ih =>
    obtain ⟨e, he, hle, hq⟩ := ih q h.2.2
    refine ⟨e, by rw [List.getLast?_cons_cons]; exact he, by have := h.1; have := h.2.1; omega, ?_⟩
    show seg f p ++ segs f (q :: t) = _
    rw [hq, seg, take_drop_split f p.1 p.2 e h.1 (by rw [h.2.1]; exact hle), h.2.1]

/-- the captured elements of a quantifier list before the index mapping, in order, as (kind, idx) -/
def flatR : List RItem → List (Nat × Nat)
  | [] => []
  | .one k i :: r => (k, i) :: flatR r
  | .many l :: r => l ++ flatR r

theorem virtPairs_append (order a b : List (Nat × Nat)) :
    virtPairs order (a ++ b) = virtPairs order a ++ virtPairs order b := by
  induction a with
  | nil => rfl
  | cons x r ih => simp [virtPairs, ih]

theorem flatQ_virtQ (order : List (Nat × Nat)) (q : List RItem) :
    flatQ (virtQ order q) = virtPairs order (flatR q) := by
  induction q with
  | nil => rfl
  | cons x r ih =>
    cases x with
    | one k i => simp [virtQ, flatQ, flatR, virtPairs, ih]
    | many l => simp [virtQ, flatQ, flatR, virtPairs_append, ih]

theorem seg_unit (field : List Tree) (v : Nat) : seg field (v, v + 1) = (field[v]?).toList := by
  simp only [seg, Nat.add_sub_cancel_left, List.take_one, List.head?_drop]

/-- the elements of the virtual field at the mapped positions of the captured (kind, idx) pairs, in capture order -/
def elemsAt (field : List Tree) (order : List (Nat × Nat)) : List (Nat × Nat) → List Tree
  | [] => []
  | p :: r => (field[virtIdx order p]?).toList ++ elemsAt field order r

theorem segs_virtPairs (field : List Tree) (order ps : List (Nat × Nat)) :
    segs field (virtPairs order ps) = elemsAt field order ps := by
  induction ps with
  | nil => rfl
  | cons p r ih => simp only [virtPairs, segs, elemsAt, seg_unit, ih]

mutual
theorem clean_of_isClean : ∀ t : Tree, isClean t = true → clean t = t
  | .node l d ks, h => by
    simp only [isClean, Bool.and_eq_true, Bool.not_eq_true'] at h
    simp only [clean, h.1, cleanList_of_isCleanL ks h.2]
theorem cleanList_of_isCleanL : ∀ ts : List Tree, isCleanL ts = true → cleanList ts = ts
  | [], _ => rfl
  | t :: ts, h => by
    simp only [isCleanL, Bool.and_eq_true] at h
    simp only [cleanList, clean_of_isClean t h.1, cleanList_of_isCleanL ts h.2]
end

mutual
theorem clean_idem : ∀ t : Tree, clean (clean t) = clean t
  | .node l d ks => by simp only [clean, cleanList_idem ks]
theorem cleanList_idem : ∀ ts : List Tree, cleanList (cleanList ts) = cleanList ts
  | [] => rfl
  | t :: ts => by simp only [cleanList, clean_idem t, cleanList_idem ts]
end

theorem clean_markRoot (b : Bool) (t : Tree) : clean (markRoot b t) = clean t := by
  cases t; rfl

theorem cleanList_append (a b : List Tree) : cleanList (a ++ b) = cleanList a ++ cleanList b := by
  induction a with
  | nil => rfl
  | cons x r ih => simp [cleanList, ih]

theorem fail_stop (st : St) (e : Nat) : (st.fail e).stop = true := rfl
theorem fail_count (st : St) (e : Nat) : (st.fail e).count = st.count := rfl

/-- without a `count` the variable runs below zero and its negation is reported -/
theorem uniqueOf_zero (n : Nat) : uniqueOf 0 (0 - n) = n := by
  simp only [uniqueOf]; split <;> omega

theorem uniqueOf_self {c : Int} (h : 0 ≤ c) : uniqueOf c c = 0 := by
  simp only [uniqueOf]; split <;> omega

theorem clamp_nonneg (c : Int) : 0 ≤ clamp c := by
  simp only [clamp]; split <;> omega

/-- without a `count`, the test of `bump` for the last substitution fails -/
theorem bump_not_last {c : Int} (h : c ≤ 0) : (c - 1 == 0) = false := by
  simp only [beq_eq_false_iff_ne, ne_eq]; omega

theorem loopSub_count_stop (P : Params) : ∀ f env t loop st,
    (loopSub P f env t loop st).2.2.count = st.count ∧
      (st.stop = true → (loopSub P f env t loop st).2.2.stop = true) := by
  intro f
  induction f with
  | zero => intro env t loop st; exact ⟨rfl, fun _ => rfl⟩
  | succ f ih =>
    intro env t loop st
    unfold loopSub
    -- every exit returns `st` with `total` or `log` changed, or after `fail`; the recursive one is the hypothesis
    repeat' split
    all_goals first | exact ⟨rfl, fun _ => rfl⟩ | exact ⟨rfl, id⟩ | exact ih ..

theorem loopSub_none (P : Params) (f : Nat) (env : Env) (t : Tree) (st : St) (r : List Tree) (s : Bool)
    (h : fillRoot P.isStmt P.tmpl env t = .ok (r, s)) :
    loopSub P (f + 1) env t none st = (r, s, { st with total := st.total + 1 }) := by
  simp only [loopSub, h]

/-- From `st` to `st'` exactly `n` substitutions were made: nothing but `count`, `total` (and the log) moved. -/
structure Adv (st st' : St) (n : Nat) : Prop where
  count : st'.count = st.count - n
  total : st'.total = st.total + n
  stop : st'.stop = st.stop
  err : st'.err = st.err

theorem Adv.refl (st : St) : Adv st st 0 := ⟨by simp, rfl, rfl, rfl⟩

theorem Adv.of_log {st st' : St} {n : Nat} (lg : List Tree) (a : Adv { st with log := lg } st' n) : Adv st st' n :=
  ⟨a.count, a.total, a.stop, a.err⟩

/-- One call of a walk, started in `st` with result `r`: its output seen through `view` (as it is, or with the marks
erased) is `ref`, and it made `n` substitutions. -/
structure Post (view : List Tree → List Tree) (st : St) (r : List Tree × St) (ref : List Tree) (n : Nat) : Prop
    extends Adv st r.2 n where
  trees : view r.1 = ref

theorem Post.after {view st st' r ref n} (p : Post view st' r ref n) {m : Nat} (a : Adv st st' m) {out ref'}
    (h : view out = ref') : Post view st (out, r.2) ref' (m + n) :=
  ⟨⟨by rw [p.count, a.count]; omega, by rw [p.total, a.total]; omega, p.stop.trans a.stop, p.err.trans a.err⟩, h⟩

/-- the states in which a walk without `count` substitutes: not stopped, the countdown at or below zero -/
def Running (st : St) : Prop := st.stop = false ∧ st.count ≤ 0

theorem Post.running {view st r ref n} (p : Post view st r ref n) (h : Running st) : Running r.2 :=
  ⟨p.stop.trans h.1, by have := h.2; rw [p.count]; omega⟩

/-- `mapKids` lifts a postcondition of the walk of one tree to the child list: outputs are concatenated, substitutions
added up.  `okL`/`refL`/`cntL` are the list versions of the admissible inputs, the expected output and the expected
number of substitutions; `S` is what the walk needs of the state. -/
theorem mapKids_post {view : List Tree → List Tree} (hview : ∀ a b, view (a ++ b) = view a ++ view b)
    {S : St → Prop} (hS : ∀ {st r ref n}, Post view st r ref n → S st → S r.2)
    {okT : Tree → Prop} {okL : List Tree → Prop} (hok : ∀ {k ks}, okL (k :: ks) → okT k ∧ okL ks)
    {ref : Tree → List Tree} {refL : List Tree → List Tree} (href0 : view [] = refL [])
    (href : ∀ k ks, refL (k :: ks) = ref k ++ refL ks)
    {cnt : Tree → Nat} {cntL : List Tree → Nat} (hcnt0 : cntL [] = 0) (hcnt : ∀ k ks, cntL (k :: ks) = cnt k + cntL ks)
    {f : Nat} {g : Tree → St → List Tree × St}
    (IH : ∀ t st, height t ≤ f → okT t → S st → Post view st (g t st) (ref t) (cnt t)) :
    ∀ ks st, heightL ks ≤ f → okL ks → S st → Post view st (mapKids g ks st) (refL ks) (cntL ks)
  | [], st, _, _, _ => hcnt0 ▸ ⟨.refl st, href0⟩
  | k :: ks, st, hh, h, hs => by
    have hh : height k ≤ f ∧ heightL ks ≤ f := Nat.max_le.mp hh
    have p1 := IH k st hh.1 (hok h).1 hs
    have p2 := mapKids_post hview hS hok href0 href hcnt0 hcnt IH ks (g k st).2 hh.2 (hok h).2 (hS p1 hs)
    rw [hcnt]
    exact p2.after p1.toAdv (by simp only [hview, href, p1.trees, p2.trees])

theorem height_pos (t : Tree) : ¬ height t ≤ 0 := by
  cases t; simp [height]

theorem clean_node_of_height {f : Nat} {t : Tree} (hh : height t ≤ f + 1) (hc : isClean t = true) :
    ∃ l ks, t = .node l false ks ∧ heightL ks ≤ f ∧ isCleanL ks = true := by
  obtain ⟨l, d, ks⟩ := t
  simp only [isClean, Bool.and_eq_true, Bool.not_eq_true'] at hc
  simp only [height] at hh
  exact ⟨l, ks, by rw [hc.1], by omega, hc.2⟩

end Pfst.Sub

namespace Pfst.C18
open Pfst.Sub

/-- the template fills for every match (no documented refusal, no put outside the modelled set) -/
def Fills (P : Params) : Prop := ∀ env u, ∃ r s, fillRoot P.isStmt P.tmpl env u = .ok (r, s)

end Pfst.C18

namespace Pfst.Sub

theorem enter_flat (P : Params) (hn : P.nested = false) (hl : P.loop = none) (hf : C18.Fills P) :
    ∀ f t st, height t ≤ f → isClean t = true → Running st →
      Post id st (enterNode P f t st) (rewriteOutermost P.mtch (fillD P) t) (countOutermost P.mtch t) := by
  intro f
  induction f with
  | zero => exact fun t _ h => absurd h (height_pos t)
  | succ f ih =>
    intro t ⟨c, tot, stp, er, lg⟩ hh hc ⟨hs, hcnt⟩
    obtain ⟨l, ks, rfl, hk, hck⟩ := clean_node_of_height hh hc
    cases hs
    simp only at hcnt
    rw [enterNode]
    simp only [Bool.false_eq_true, if_false]
    cases hm : P.mtch (.node l false ks) with
    | none =>
      have p := mapKids_post (view := id) (fun _ _ => rfl) Post.running (okT := (isClean · = true))
        (okL := (isCleanL · = true)) (by simp [isCleanL]) (refL := rewriteOutermostL P.mtch (fillD P)) rfl
        (fun _ _ => rfl) (cntL := countOutermostL P.mtch) rfl (fun _ _ => rfl)
        ih ks ⟨c, tot, false, er, .node l false ks :: lg⟩ hk hck ⟨rfl, hcnt⟩
      simp only [rewriteOutermost, countOutermost, hm]
      exact ⟨p.toAdv.of_log _, by simp only [← p.trees, id]⟩
    | some env =>
      obtain ⟨r, s, hfill⟩ := hf env (.node l false ks)
      simp only [rewriteOutermost, countOutermost, hm, hl, loopSub_none P P.lfuel env _ _ r s hfill, bump, bump_not_last hcnt, hn,
        Bool.false_eq_true, if_false, Bool.or_false, Bool.not_false, Bool.true_or, Bool.or_true, if_true, fillD, hfill]
      exact ⟨⟨rfl, rfl, rfl, rfl⟩, rfl⟩

theorem mapKids_frame (m : Tree → Option Env) (f : Nat) (g : Tree → St → List Tree × St)
    (IH : ∀ t st, height t ≤ f → noMatch m t = true → Post id st (g t st) [t] 0) :
    ∀ ks st, heightL ks ≤ f → noMatchL m ks = true → Post id st (mapKids g ks st) ks 0 :=
  fun ks st hh hc => mapKids_post (view := id) (fun _ _ => rfl) (S := fun _ => True) (fun _ _ => trivial)
    (okT := (noMatch m · = true)) (okL := (noMatchL m · = true)) (by simp [noMatchL]) (refL := id) rfl (fun _ _ => rfl)
    (cntL := fun _ => 0) rfl (fun _ _ => rfl) (fun t st hh hc _ => IH t st hh hc) ks st hh hc trivial

theorem enter_frame (P : Params) :
    ∀ f t st, height t ≤ f → noMatch P.mtch t = true → Post id st (enterNode P f t st) [t] 0 := by
  intro f
  induction f with
  | zero => exact fun t _ h => absurd h (height_pos t)
  | succ f ih =>
    intro ⟨l, d, ks⟩ st hh hc
    simp only [noMatch, Bool.and_eq_true, Option.isNone_iff_eq_none] at hc
    simp only [height] at hh
    have hk : heightL ks ≤ f := by omega
    have p := mapKids_frame P.mtch f (enterNode P f) ih ks { st with log := .node l d ks :: st.log } hk hc.2
    rw [enterNode, hc.1]
    by_cases hs : st.stop = true
    · rw [if_pos hs]
      exact ⟨.refl st, rfl⟩
    · rw [if_neg hs]
      exact ⟨p.toAdv.of_log _, congrArg (fun r => [Tree.node l d r]) p.trees⟩

theorem leave_frame (P : Params) :
    ∀ f t st, height t ≤ f → noMatch P.mtch t = true → Post id st (leaveNode P f t st) [t] 0 := by
  intro f
  induction f with
  | zero => exact fun t _ h => absurd h (height_pos t)
  | succ f ih =>
    intro ⟨l, d, ks⟩ st hh hc
    simp only [noMatch, Bool.and_eq_true, Option.isNone_iff_eq_none] at hc
    simp only [height] at hh
    have hk : heightL ks ≤ f := by omega
    have p := mapKids_frame P.mtch f (leaveNode P f) ih ks st hk hc.2
    have ht : (mapKids (leaveNode P f) ks st).1 = ks := p.trees
    rw [leaveNode]
    by_cases hs : st.stop = true
    · rw [if_pos hs]
      exact ⟨.refl st, rfl⟩
    · rw [if_neg hs]
      simp only [ht, hc.1]
      split <;> exact ⟨⟨p.count, p.total, p.stop, p.err⟩, rfl⟩

/-- invariant of the `count` variable for a start value `k > 0` -/
def CapInv (k : Int) (st : St) : Prop := st.count ≤ k ∧ (0 < st.count ∨ (st.count = 0 ∧ st.stop = true))

theorem cap_fail (k : Int) (st : St) (e : Nat) (h : CapInv k st) : CapInv k (st.fail e) := by
  obtain ⟨h1, h2⟩ := h
  refine ⟨h1, ?_⟩
  cases h2 with
  | inl h => exact Or.inl h
  | inr h => exact Or.inr ⟨h.1, rfl⟩

theorem mapKids_cap (k : Int) (g : Tree → St → List Tree × St) (hg : ∀ t st, CapInv k st → CapInv k (g t st).2) :
    ∀ ks st, CapInv k st → CapInv k (mapKids g ks st).2 := by
  intro ks
  induction ks with
  | nil => intro st h; exact h
  | cons x r ih => intro st h; exact ih _ (hg x st h)

theorem loopSub_cap (P : Params) (k : Int) (f : Nat) (env : Env) (t : Tree) (loop : Option Int) (st : St)
    (h : CapInv k st) : CapInv k (loopSub P f env t loop st).2.2 := by
  obtain ⟨h1, h2⟩ := h
  obtain ⟨hc, hs⟩ := loopSub_count_stop P f env t loop st
  rw [CapInv, hc]
  exact ⟨h1, h2.imp_right fun h => ⟨h.1, hs h.2⟩⟩

theorem bump_cap (k : Int) (st : St) (h : CapInv k st) (hs : st.stop = false) : CapInv k (bump st) := by
  obtain ⟨h1, h2⟩ := h
  have hpos : 0 < st.count := by
    cases h2 with
    | inl h => exact h
    | inr h => rw [hs] at h; exact absurd h.2 (by simp)
  refine ⟨by simp only [bump]; omega, ?_⟩
  by_cases h0 : st.count - 1 = 0
  · exact Or.inr ⟨h0, by simp [bump, h0]⟩
  · exact Or.inl (by simp only [bump]; omega)

theorem enter_cap (P : Params) (k : Int) : ∀ f t st, CapInv k st → CapInv k (enterNode P f t st).2 := by
  intro f
  induction f with
  | zero =>
    intro t st h
    simp only [enterNode]
    split
    · exact h
    · exact cap_fail k st 3 h
  | succ f ih =>
    intro ⟨l, d, ks⟩ ⟨c, tot, stp, er, lg⟩ h
    have hkids := fun ks' st' => mapKids_cap k _ ih ks' st'
    rw [enterNode]
    cases stp
    · have h0 : CapInv k ⟨c, tot, false, er, .node l d ks :: lg⟩ := h
      cases hm : P.mtch (.node l d ks) with
      | none => exact hkids ks _ h0
      | some env =>
        cases d
        · have hq := loopSub_cap P k (P.lfuel + 1) env (.node l false ks) P.loop _ h0
          simp only [Bool.false_eq_true, if_false]
          split
          · exact hq
          · next hstop =>
            have hb := bump_cap k _ hq (by simpa using hstop)
            split
            · exact hb
            · split
              · exact hkids _ _ hb
              · exact hb
        · simp only [Bool.false_eq_true, if_false, if_true]
          split
          · exact hkids ks _ h0
          · exact h0
    · exact h

theorem leave_cap (P : Params) (k : Int) : ∀ f t st, CapInv k st → CapInv k (leaveNode P f t st).2 := by
  intro f
  induction f with
  | zero =>
    intro t st h
    simp only [leaveNode]
    split
    · exact h
    · exact cap_fail k st 3 h
  | succ f ih =>
    intro ⟨l, d, ks⟩ st h
    have hk := mapKids_cap k _ ih ks st h
    rw [leaveNode]
    dsimp only
    generalize mapKids (leaveNode P f) ks st = r at hk ⊢
    obtain ⟨ks', c, tot, stp, er, lg⟩ := r
    cases hs : st.stop
    · cases stp
      · have h0 : CapInv k ⟨c, tot, false, er, .node l d ks' :: lg⟩ := hk
        cases hm : P.mtch (.node l d ks') with
        | none => exact h0
        | some env =>
          cases d
          · have hq := loopSub_cap P k (P.lfuel + 1) env (.node l false ks') P.loop _ h0
            simp only [Bool.false_eq_true, if_false]
            split
            · exact hq
            · next hstop => exact bump_cap k _ hq (by simpa using hstop)
          · exact h0
      · exact hk
    · exact h

mutual
theorem clean_rewrite_id (m : Tree → Option Env) :
    ∀ t : Tree, cleanList (rewriteOutermost m (fun _ u => [markRoot true (clean u)]) t) = [clean t]
  | .node l d ks => by
    simp only [rewriteOutermost]
    split
    · simp only [cleanList, clean_markRoot, clean_idem]
    · simp only [cleanList, clean, cleanL_rewrite_id m ks]
theorem cleanL_rewrite_id (m : Tree → Option Env) :
    ∀ ts : List Tree, cleanList (rewriteOutermostL m (fun _ u => [markRoot true (clean u)]) ts) = cleanList ts
  | [] => rfl
  | t :: ts => by
    simp only [rewriteOutermostL, cleanList_append, clean_rewrite_id m t, cleanL_rewrite_id m ts, cleanList]
    rfl
end

theorem enter_nested_id (P : Params) (hn : P.nested = true) (hl : P.loop = none) (il : Bool) (ov : Option Bool)
    (ht : P.tmpl = .single (.slot none il ov)) :
    ∀ f t st, height t ≤ f → isClean t = true → Running st →
      Post cleanList st (enterNode P f t st) [t] (countAll P.mtch t) := by
  intro f
  induction f with
  | zero => exact fun t _ h => absurd h (height_pos t)
  | succ f ih =>
    intro t ⟨c, tot, stp, er, lg⟩ hh hc ⟨hs, hcnt⟩
    obtain ⟨l, ks, rfl, hk, hck⟩ := clean_node_of_height hh hc
    cases hs
    simp only at hcnt
    have hkids := mapKids_post cleanList_append Post.running (okT := (isClean · = true)) (okL := (isCleanL · = true))
      (by simp [isCleanL]) (refL := id) rfl (fun _ _ => rfl) (cntL := countAllL P.mtch) rfl (fun _ _ => rfl) ih ks
    rw [enterNode]
    simp only [Bool.false_eq_true, if_false]
    cases hm : P.mtch (.node l false ks) with
    | none =>
      have p := hkids ⟨c, tot, false, er, .node l false ks :: lg⟩ hk hck ⟨rfl, hcnt⟩
      simp only [countAll, hm]
      exact p.after (m := 0) (.of_log _ (.refl _)) (by simp only [cleanList, clean, p.trees, id])
    | some env =>
      have hfill : fillRoot P.isStmt P.tmpl env (.node l false ks) = .ok ([.node l true ks], false) := by
        simp only [fillRoot, ht, resolve, clean, markRoot, cleanList_of_isCleanL ks hck]
      have p := hkids ⟨c - 1, tot + 1, false, er, .node l false ks :: lg⟩ hk hck ⟨rfl, by dsimp only; omega⟩
      simp only [countAll, hm, hl, loopSub_none P P.lfuel env _ _ _ _ hfill, bump, bump_not_last hcnt, hn,
        Bool.false_eq_true, if_false, Bool.or_false, Bool.not_true, Option.isSome_some, if_true]
      refine p.after (m := 1) ?_ ?_
      · exact ⟨rfl, rfl, rfl, rfl⟩
      · simp only [cleanList, clean, p.trees, id]

end Pfst.Sub
