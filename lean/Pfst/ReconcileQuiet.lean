import Pfst.ReconcileBase
/-!
Silence of the reconcile trace (`Pfst/Reconcile.lean`) on unchanged subtrees (`stillN`): a subtree all of whose nodes are in
place and whose scalars (fields and `None` / identifier list elements) are the marked ones (value and type) emits no
operation.  The induction follows the model: `recNode_quiet` and one lemma for each list recursion, all taken over what the
marked tree holds at the slot.
-/
namespace Pfst.Reconcile

theorem recNode_inPlace (mark : T) (np : NP) (rel : Path) (o : Origin) (k' : Nat) (ocs : List T) (l : Option Loc) (k : Nat)
    (cs : List T) (hin : inPlace np rel l = true) :
    recNode mark np rel (.node o k' ocs) (.node (.tree l) k cs) =
      (let r := recFields mark (.fst 0 (qOf l)) 0 ocs cs
       if r.fail then ⟨r.ops ++ [⟨[], .put .ast (.node .new k (eraseL cs))⟩], false⟩ else ⟨r.ops, false⟩) := by
  rw [recNode_tree]
  simp only [hin, Bool.not_true, Bool.false_eq_true, if_false, T.isNode, T.kids, List.nil_append]

theorem sliceHead_inPlace (mark : T) (q : Path) (fi : Nat) (ns : Option Nat) (i : Nat) (l : Option Loc)
    (h : inPlace (.fst 0 q) [fi, i] l = true) : sliceHead mark (.fst 0 q) fi ns i (.tree l) = none := by
  cases l with
  | none => simp [sliceHead]
  | some l =>
    obtain ⟨pp, cfi, idx⟩ := l
    simp only [inPlace, Loc.rel, Bool.and_eq_true, beq_iff_eq] at h
    obtain ⟨rfl, h2⟩ := h
    cases idx with
    | none => simp [sliceHead]
    | some ci =>
      simp only [Option.toList, List.cons.injEq, and_true] at h2
      obtain ⟨rfl, rfl⟩ := h2
      simp [sliceHead]

theorem stillN_inPlace (mark : T) (np : NP) (rel : Path) (n : T) (h : stillN mark np rel n = true) :
    ∃ l k cs, n = .node (.tree l) k cs ∧ inPlace np rel l = true := by
  cases n with
  | node o k cs =>
    cases o with
    | tree l => simp only [stillN, Bool.and_eq_true] at h; exact ⟨l, k, cs, rfl, h.1.1.1⟩
    | _ => simp [stillN] at h
  | _ => simp [stillN] at h

theorem sliceHead_scalar (mark : T) (np : NP) (fi : Nat) (ns : Option Nat) (i : Nat) (x : T) (hs : x.isScalar = true) :
    sliceHead mark np fi ns i x.origin = none := by
  cases x <;> simp_all [T.isScalar, T.origin, sliceHead]

theorem slice_quiet_step (mark : T) (q : Path) (fi : Nat) (ns : Option Nat) (dict : Bool) (i : Nat) (run : Run) (x : T)
    (r : List T) (hp : run.proc = 0) (hk : run.skip = 0) (hl : i + (x :: r).length = (markAt mark (q ++ [fi])).kids.length)
    (hsh : sliceHead mark (.fst 0 q) fi ns i x.origin = none)
    (hx : elemRes mark (.fst 0 q) fi dict i (erase (markAt mark (q ++ [fi, i]))) x = ⟨[], false⟩)
    (ih : ∀ run', run'.proc = 0 → run'.skip = 0 → i + 1 + r.length = (markAt mark (q ++ [fi])).kids.length →
      recSliceGo mark (.fst 0 q) fi ns dict (i + 1) run' (eraseL (markAt mark (q ++ [fi])).kids) r = ⟨[], false⟩) :
    recSliceGo mark (.fst 0 q) fi ns dict i run (eraseL (markAt mark (q ++ [fi])).kids) (x :: r) = ⟨[], false⟩ := by
  simp only [List.length_cons] at hl
  rw [recSliceGo_go _ _ _ _ _ _ _ _ _ _ (by omega)]
  have hd : headState mark (.fst 0 q) fi ns i run (eraseL (markAt mark (q ++ [fi])).kids) x r
      = ([], eraseL (markAt mark (q ++ [fi])).kids, { proc := 1, lenRead := (markAt mark (q ++ [fi])).kids.length }) := by
    simp only [headState, hp, Nat.lt_irrefl, if_false]
    rw [detect_none _ _ _ _ _ _ _ _ hsh, eraseL_length]
  have hnot : ¬ (i ≥ (markAt mark (q ++ [fi])).kids.length) := by omega
  rw [hd]
  simp only [Nat.lt_irrefl, if_false, hnot, decide_false, Bool.false_eq_true, eraseL_getElem?, ← markAt_elem, hx, Nat.sub_self]
  rw [ih _ rfl rfl (by omega)]
  rfl

theorem elem_quiet (mark : T) (x : T) (q : Path) (fi i : Nat)
    (IH : stillN mark (.fst 0 q) [fi, i] x = true →
      recNode mark (.fst 0 q) [fi, i] (erase (markAt mark (q ++ [fi, i]))) x = ⟨[], false⟩)
    (h : (if x.isScalar then !(pyNe x (erase (markAt mark (q ++ [fi, i])))) else stillN mark (.fst 0 q) [fi, i] x) = true)
    (ns : Option Nat) :
    sliceHead mark (.fst 0 q) fi ns i x.origin = none ∧
      recNode mark (.fst 0 q) [fi, i] (erase (markAt mark (q ++ [fi, i]))) x = ⟨[], false⟩ := by
  by_cases hsc : x.isScalar = true
  · simp only [hsc, if_true, Bool.not_eq_true'] at h
    refine ⟨sliceHead_scalar mark _ fi ns i x hsc, ?_⟩
    rw [recNode_scalar mark _ _ _ x (by rwa [scalar_eq_isScalar]), h, Bool.and_false]
    rfl
  · simp only [hsc, if_false, Bool.false_eq_true] at h
    obtain ⟨l, k, cs, rfl, hin⟩ := stillN_inPlace mark _ _ x h
    exact ⟨sliceHead_inPlace mark q fi ns i l hin, IH h⟩

theorem pair_quiet (mark : T) (kk vv : T) (pq : Path)
    (IHk : stillN mark (.fst 0 pq) [0] kk = true →
      recNode mark (.fst 0 pq) [0] (erase (markAt mark (pq ++ [0]))) kk = ⟨[], false⟩)
    (IHv : stillN mark (.fst 0 pq) [1] vv = true →
      recNode mark (.fst 0 pq) [1] (erase (markAt mark (pq ++ [1]))) vv = ⟨[], false⟩)
    (h : stillKV mark pq [kk, vv] = true) :
    recPair mark (.fst 0 pq) (erase (markAt mark pq)).kids [kk, vv] = ⟨[], false⟩ := by
  simp only [stillKV, Bool.and_eq_true] at h
  have h0 : (erase (markAt mark pq)).kids.headD .nil = erase (markAt mark (pq ++ [0])) := by
    rw [kids_erase, markAt_snoc, ← headD_eraseL_drop, List.drop_zero]
  have h1 : (erase (markAt mark pq)).kids.tail.headD .nil = erase (markAt mark (pq ++ [1])) := by
    rw [kids_erase, markAt_snoc, ← headD_eraseL_drop, ← tail_eraseL_drop, List.drop_zero]
  rw [recPair_seq]
  simp only [h0, h1, IHv h.2]
  by_cases hkn : kk.isNode = true
  · simp only [hkn, if_true] at h
    simp only [hkn, if_true, IHk h.1, seqR, preAll, List.map_nil, List.append_nil, Bool.false_eq_true, if_false]
  · simp only [hkn, Bool.false_eq_true, if_false, Bool.and_eq_true, Bool.not_eq_true'] at h
    simp only [hkn, Bool.false_eq_true, if_false, erase_isNode, h.1.2, seqR, preAll, List.map_nil, List.append_nil]

mutual
theorem recNode_quiet (mark : T) : ∀ (n : T) (np : NP) (rel : Path) (outa : T),
    stillN mark np rel n = true → slot mark np rel outa n → recNode mark np rel outa n = ⟨[], false⟩
  | .node (.tree l) k cs, np, rel, outa, h, hs => by
    simp only [stillN, Bool.and_eq_true, beq_iff_eq] at h
    obtain ⟨⟨⟨hin, hnode⟩, hlen⟩, hfs⟩ := h
    obtain ⟨q', hb, hq⟩ := inPlace_base _ _ _ hin
    simp only [slot, hb] at hs
    rw [← hq] at hs
    have ih := recFields_quiet mark cs (qOf l) 0 hfs
    cases hm : markAt mark (qOf l) with
    | node mo mk mcs =>
      rw [hm] at hs ih
      subst hs
      simp only [T.kids, List.drop_zero] at ih
      rw [erase, recNode_inPlace _ _ _ _ _ _ _ _ _ hin, ih]
      rfl
    | nil => rw [hm] at hnode; simp [T.isNode] at hnode
    | prim v => rw [hm] at hnode; simp [T.isNode] at hnode
    | many s m x => rw [hm] at hnode; simp [T.isNode] at hnode
  | .node .new _ _, _, _, _, h, _ => by simp [stillN] at h
  | .node (.foreign _ _ _ _) _ _, _, _, _, h, _ => by simp [stillN] at h
  | .nil, _, _, _, h, _ => by simp [stillN] at h
  | .prim _, _, _, _, h, _ => by simp [stillN] at h
  | .many _ _ _, _, _, _, h, _ => by simp [stillN] at h

theorem recFields_quiet (mark : T) : ∀ (fs : List T) (q : Path) (fi : Nat), stillFs mark q fi fs = true →
    recFields mark (.fst 0 q) fi (eraseL ((markAt mark q).kids.drop fi)) fs = ⟨[], false⟩
  | [], q, fi, _ => by rw [recFields]
  | c :: r, q, fi, h => by
    have hcr : fieldRes mark (.fst 0 q) fi (erase (markAt mark (q ++ [fi]))) c = ⟨[], false⟩ ∧
        stillFs mark q (fi + 1) r = true := by
      cases c with
      | nil | prim _ =>
        simp only [stillFs, Bool.and_eq_true, Bool.not_eq_true'] at h
        exact ⟨by rw [fieldRes_scalar _ _ _ _ _ rfl, h.1, Bool.and_false]; rfl, h.2⟩
      | node o k cs =>
        simp only [stillFs, Bool.and_eq_true] at h
        exact ⟨recNode_quiet mark (.node o k cs) (.fst 0 q) [fi] _ h.1 (slot_mark mark _ q [fi] _ rfl), h.2⟩
      | many s md items =>
        simp only [stillFs, Bool.and_eq_true, beq_iff_eq] at h
        obtain ⟨⟨hlen, hes⟩, hr⟩ := h
        refine ⟨?_, hr⟩
        rw [fieldRes_many, kids_erase]
        by_cases h2 : md = 2
        · subst h2
          simpa using recSliceD_quiet mark items q fi s 0 {} (by simpa using hes) rfl rfl (by simp [hlen])
        · have hes' : stillEs mark q fi 0 items = true := by simpa [h2] using hes
          by_cases h1 : md = 1
          · subst h1
            simpa using recSlice_quiet mark items q fi s 0 {} hes' rfl rfl (by simp [hlen])
          · simpa [h1, h2, eraseL_length, hlen] using recPlain_quiet mark items q fi 0 hes'
    rw [recFields_cons, headD_eraseL_drop, tail_eraseL_drop, ← markAt_snoc, hcr.1, recFields_quiet mark r q (fi + 1) hcr.2]
    rfl

theorem recPlain_quiet (mark : T) : ∀ (items : List T) (q : Path) (fi j : Nat), stillEs mark q fi j items = true →
    recPlain mark (.fst 0 q) fi j (eraseL ((markAt mark (q ++ [fi])).kids.drop j)) items = ⟨[], false⟩
  | [], _, _, _, _ => by rw [recPlain]
  | x :: r, q, fi, j, h => by
    simp only [stillEs, Bool.and_eq_true] at h
    rw [recPlain_cons, headD_eraseL_drop, tail_eraseL_drop, ← markAt_elem, recPlain_quiet mark r q fi (j + 1) h.2,
      (elem_quiet mark x q fi j (fun h => recNode_quiet mark x _ _ _ h (slot_mark mark _ q [fi, j] _ rfl)) h.1 none).2]
    rfl

theorem recSlice_quiet (mark : T) : ∀ (body : List T) (q : Path) (fi : Nat) (ns : Option Nat) (i : Nat) (run : Run),
    stillEs mark q fi i body = true → run.proc = 0 → run.skip = 0 →
    i + body.length = (markAt mark (q ++ [fi])).kids.length →
    recSliceGo mark (.fst 0 q) fi ns false i run (eraseL (markAt mark (q ++ [fi])).kids) body = ⟨[], false⟩
  | [], q, fi, ns, i, run, _, _, _, hl => by
    rw [recSliceGo_nil]; simp [eraseL_length]; simp at hl; omega
  | x :: r, q, fi, ns, i, run, h, hp, hk, hl => by
    simp only [stillEs, Bool.and_eq_true] at h
    obtain ⟨hsh, hx⟩ := elem_quiet mark x q fi i
      (fun h => recNode_quiet mark x _ _ _ h (slot_mark mark _ q [fi, i] _ rfl)) h.1 ns
    exact slice_quiet_step mark q fi ns false i run x r hp hk hl hsh (by simpa [elemRes] using hx)
      (fun run' => recSlice_quiet mark r q fi ns (i + 1) run' h.2)

theorem recSliceD_quiet (mark : T) : ∀ (body : List T) (q : Path) (fi : Nat) (ns : Option Nat) (i : Nat) (run : Run),
    stillPs mark q fi i body = true → run.proc = 0 → run.skip = 0 →
    i + body.length = (markAt mark (q ++ [fi])).kids.length →
    recSliceGo mark (.fst 0 q) fi ns true i run (eraseL (markAt mark (q ++ [fi])).kids) body = ⟨[], false⟩
  | [], q, fi, ns, i, run, _, _, _, hl => by
    rw [recSliceGo_nil]; simp [eraseL_length]; simp at hl; omega
  | .node (.tree l) k [kk, vv] :: r, q, fi, ns, i, run, h, hp, hk, hl => by
    simp only [stillPs, Bool.and_eq_true] at h
    have hpair := pair_quiet mark kk vv (q ++ [fi, i])
      (fun h => recNode_quiet mark kk _ _ _ h (slot_mark mark _ (q ++ [fi, i]) [0] _ rfl))
      (fun h => recNode_quiet mark vv _ _ _ h (slot_mark mark _ (q ++ [fi, i]) [1] _ rfl)) h.1.2
    exact slice_quiet_step mark q fi ns true i run _ r hp hk hl (sliceHead_inPlace mark q fi ns i l h.1.1)
      (by simpa [elemRes, NP.ext] using hpair) (fun run' => recSliceD_quiet mark r q fi ns (i + 1) run' h.2)
  | .node (.tree _) _ [] :: _, _, _, _, _, _, h, _, _, _ => by simp [stillPs, stillKV] at h
  | .node (.tree _) _ [_] :: _, _, _, _, _, _, h, _, _, _ => by simp [stillPs, stillKV] at h
  | .node (.tree _) _ (_ :: _ :: _ :: _) :: _, _, _, _, _, _, h, _, _, _ => by simp [stillPs, stillKV] at h
  | .node .new _ _ :: _, _, _, _, _, _, h, _, _, _ => by simp [stillPs] at h
  | .node (.foreign _ _ _ _) _ _ :: _, _, _, _, _, _, h, _, _, _ => by simp [stillPs] at h
  | .nil :: _, _, _, _, _, _, h, _, _, _ => by simp [stillPs] at h
  | .prim _ :: _, _, _, _, _, _, h, _, _, _ => by simp [stillPs] at h
  | .many _ _ _ :: _, _, _, _, _, _, h, _, _, _ => by simp [stillPs] at h
end

end Pfst.Reconcile
