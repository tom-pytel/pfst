import Pfst.SetPos
namespace Pfst.SetPos

theorem write_id (new : Int × Int) (l : Link) : (write new l).id = l.id := rfl
theorem write_hasSib (new : Int × Int) (l : Link) : (write new l).hasSib = l.hasSib := rfl

theorem write_write (new : Int × Int) (l : Link) : write new (write new l) = write new l := by
  cases l with | mk i p h => cases p <;> rfl

theorem blocked_none (l : Link) : blocked none l = false := by
  cases l with | mk i p h => cases p <;> rfl

theorem setPos_prefix (new : Int × Int) (old : Option (Int × Int)) : ∀ chain : List Link,
    ∃ k, k ≤ chain.length ∧ (setPos new old chain).2 = (chain.take k).map (·.id) ∧
      (setPos new old chain).1 = (chain.take k).map (write new) ++ chain.drop k ∧
      ∀ l ∈ chain.take k, blocked old l = false
  | [] => ⟨0, Nat.le_refl _, rfl, rfl, fun _ h => by cases h⟩
  | l :: rest => by
    unfold setPos
    split
    · exact ⟨0, Nat.zero_le _, rfl, rfl, fun _ h => by cases h⟩
    · next hb =>
      have hl : ∀ k, (∀ x ∈ rest.take k, blocked old x = false) → ∀ x ∈ (l :: rest).take (k + 1), blocked old x = false :=
        fun k h => List.forall_mem_cons.mpr ⟨by simpa using hb, h⟩
      split
      · exact ⟨1, Nat.succ_le_succ (Nat.zero_le _), rfl, rfl, hl 0 (fun _ h => by cases h)⟩
      · obtain ⟨k, hk, h1, h2, h3⟩ := setPos_prefix new old rest
        exact ⟨k + 1, Nat.succ_le_succ hk, congrArg (l.id :: ·) h1, congrArg (write new l :: ·) h2, hl k h3⟩

theorem setPos_map {α : Type} (f : Link → α) (new : Int × Int) (hf : ∀ l, f (write new l) = f l)
    (old : Option (Int × Int)) (chain : List Link) : (setPos new old chain).1.map f = chain.map f := by
  obtain ⟨k, _, _, h2, _⟩ := setPos_prefix new old chain
  rw [h2, List.map_append, List.map_map, show f ∘ write new = f from funext hf, ← List.map_append,
    List.take_append_drop]

theorem setPos_length (new : Int × Int) (old : Option (Int × Int)) (chain : List Link) :
    (setPos new old chain).1.length = chain.length := by
  have := congrArg List.length (setPos_map (fun _ => ()) new (fun _ => rfl) old chain)
  rwa [List.length_map, List.length_map] at this

theorem setPos_ids (new : Int × Int) (old : Option (Int × Int)) (chain : List Link) :
    (setPos new old chain).1.map (·.id) = chain.map (·.id) ∧
    (setPos new old chain).1.map (·.hasSib) = chain.map (·.hasSib) :=
  ⟨setPos_map _ new (write_id new) old chain, setPos_map _ new (write_hasSib new) old chain⟩

end Pfst.SetPos
