import Pfst.Offset

/-!
Geometric well-formedness of a position tree (`geo`, executable so that the correspondence harness evaluates it on every
real tree) and the lemma behind the WARNING in `_offset`: on a geometrically ordered tree the walk with the two early
`break`s and the `continue` computes exactly the naive map of `offsetPos` over all nodes.
-/
namespace Pfst.Offset

/-- `(a,b) ≤ (c,d)` lexicographically. -/
def le2 (a b c d : Int) : Bool := decide (a < c) || (a == c && decide (b ≤ d))

def Pos.wf (p : Pos) : Bool := le2 p.lno p.col p.elno p.ecol

mutual
/-- every positioned node of the subtree is well-formed and ends at or before `(L, C)` -/
def endsLe (L C : Int) : Node → Bool
  | .mk _ pos _ kids =>
    (match pos with | none => true | some p => p.wf && le2 p.elno p.ecol L C) && endsLeList L C kids
def endsLeList (L C : Int) : List Node → Bool
  | [] => true
  | n :: rest => endsLe L C n && endsLeList L C rest
end

mutual
/-- every positioned node of the subtree is well-formed and starts on a line `≥ L` -/
def linesGe (L : Int) : Node → Bool
  | .mk _ pos _ kids =>
    (match pos with | none => true | some p => p.wf && decide (L ≤ p.lno)) && linesGeList L kids
def linesGeList (L : Int) : List Node → Bool
  | [] => true
  | n :: rest => linesGe L n && linesGeList L rest
end

/-- every *top-level* positioned node of `rest` ends at or after every end inside `n`'s subtree -/
def beforeAll (n : Node) : List Node → Bool
  | [] => true
  | k :: rest => (match k.pos with | none => true | some q => endsLe q.elno q.ecol n) && beforeAll n rest

def blockStart (p : Pos) (deco : Option Int) : Int :=
  match deco with | none => p.lno | some d => min p.lno d

mutual
/-- Geometric order: positions well-formed, descendants end inside their positioned ancestors and start no earlier
than its first line (first decorator line for decorated nodes), earlier siblings end before later positioned ones end. -/
def geo : Node → Bool
  | .mk _ pos deco kids =>
    (match pos with
     | none => true
     | some p => p.wf && endsLeList p.elno p.ecol kids && linesGeList (blockStart p deco) kids)
    && geoList kids
def geoList : List Node → Bool
  | [] => true
  | n :: rest => geo n && beforeAll n rest && geoList rest
end

theorem Pos.wf_iff (p : Pos) : p.wf = true ↔ p.lno < p.elno ∨ (p.lno = p.elno ∧ p.col ≤ p.ecol) := by
  simp only [Pos.wf, le2, Bool.or_eq_true, decide_eq_true_eq, Bool.and_eq_true, beq_iff_eq]

theorem endMoves_of_after (π : Params) (p : Pos) (h : π.lno < p.elno ∨ (p.elno = π.lno ∧ π.colo < p.ecol)) :
    endMoves π p = true := by
  simp only [endMoves]
  rw [if_neg (by omega)]
  split
  · rfl
  · rw [if_neg (by omega), decide_eq_true (by omega : p.ecol > π.colo)]
    rfl

theorem endMoves_of_before (π : Params) (p : Pos) (h : endsBefore π p = true) : endMoves π p = false := by
  simp only [endsBefore, Bool.or_eq_true, decide_eq_true_eq, Bool.and_eq_true, beq_iff_eq] at h
  simp only [endMoves]
  split
  · rfl
  · rw [if_neg (by omega), if_pos (by omega)]

theorem startMoves_of_after (π : Params) (p : Pos) (h : π.lno < p.lno ∨ (p.lno = π.lno ∧ π.colo < p.col)) :
    startMoves π p = true := by
  simp only [startMoves]
  split
  · rfl
  · rw [if_pos (by simp; omega), decide_eq_true (by omega : p.col > π.colo)]
    rfl

theorem startMoves_of_before (π : Params) (p : Pos) (h : p.lno < π.lno ∨ (p.lno = π.lno ∧ p.col < π.colo)) :
    startMoves π p = false := by
  simp only [startMoves]
  rw [if_neg (by omega)]
  split
  · next he =>
    have he' : p.lno = π.lno := by simpa using he
    rw [decide_eq_false (by omega : ¬ p.col > π.colo), show (p.col == π.colo) = false by simp; omega]
    rfl
  · rfl

theorem le_of_startMoves (π : Params) (p : Pos) (h : startMoves π p = true) : π.lno ≤ p.lno :=
  Int.not_lt.mp fun hlt => by simp [startMoves, Int.lt_asymm hlt, Int.ne_of_lt hlt] at h

theorem le_of_endMoves (π : Params) (p : Pos) (h : endMoves π p = true) : π.lno ≤ p.elno :=
  Int.not_lt.mp fun hlt => by simp [endMoves, hlt] at h

/-- the code's column rule `col if line > lno else col + dcol`, read on a line at or after the point -/
theorem colRule_eq {L l c d : Int} (h : L ≤ l) : (if l > L then c else c + d) = if l = L then c + d else c := by
  split <;> split <;> omega

theorem offsetPos_eq (π : Params) (p : Pos) :
    offsetPos π p =
      ⟨if startMoves π p then p.lno + π.dln else p.lno,
       if startMoves π p = true ∧ p.lno = π.lno then p.col + π.dcol else p.col,
       if endMoves π p then p.elno + π.dln else p.elno,
       if endMoves π p = true ∧ p.elno = π.lno then p.ecol + π.dcol else p.ecol⟩ := by
  unfold offsetPos
  cases hS : startMoves π p <;> cases hE : endMoves π p <;>
    simp only [Bool.false_eq_true, if_false, if_true, false_and, true_and, colRule_eq, le_of_startMoves π p,
      le_of_endMoves π p, hS, hE]

theorem offsetPos_of_endsBefore (π : Params) (p : Pos) (hw : p.wf = true) (hb : endsBefore π p = true) :
    offsetPos π p = p := by
  have h := hb
  simp only [endsBefore, Bool.or_eq_true, decide_eq_true_eq, Bool.and_eq_true, beq_iff_eq] at h
  rw [Pos.wf_iff] at hw
  simp only [offsetPos, endMoves_of_before π p hb, startMoves_of_before π p (by omega), Bool.false_eq_true, if_false]

theorem offsetPos_of_lineAfter (π : Params) (p : Pos) (hw : p.wf = true) (hl : π.lno < p.lno) (hd : π.dln = 0) :
    offsetPos π p = p := by
  rw [Pos.wf_iff] at hw
  have hc : π.lno < p.elno := by omega
  simp [offsetPos, endMoves_of_after π p (Or.inl hc), startMoves_of_after π p (Or.inl hl), hd, hc, hl]

theorem endsBefore_of_le2 (π : Params) (p q : Pos) (h : le2 p.elno p.ecol q.elno q.ecol = true)
    (hb : endsBefore π q = true) : endsBefore π p = true := by
  simp only [le2, endsBefore, Bool.or_eq_true, decide_eq_true_eq, Bool.and_eq_true, beq_iff_eq] at *
  omega

theorem naiveNode_fixed (π : Params) (i : Nat) (pos : Option Pos) (deco : Option Int) (kids : List Node)
    (hp : ∀ p, pos = some p → offsetPos π p = p) (hk : naiveList π kids = kids) :
    naiveNode π (.mk i pos deco kids) = .mk i pos deco kids := by
  simp only [naiveNode, hk, ite_self]
  split
  · rfl
  · cases pos with
    | none => rfl
    | some p => rw [Option.map_some, hp p rfl]

mutual
theorem naive_of_endsLe (π : Params) (q : Pos) (hb : endsBefore π q = true) :
    ∀ t : Node, endsLe q.elno q.ecol t = true → naiveNode π t = t
  | .mk i pos deco kids, h => by
    simp only [endsLe, Bool.and_eq_true] at h
    refine naiveNode_fixed π i pos deco kids (fun p hp => ?_) (naiveList_of_endsLe π q hb kids h.2)
    subst hp
    simp only [Bool.and_eq_true] at h
    exact offsetPos_of_endsBefore π p h.1.1 (endsBefore_of_le2 π p q h.1.2 hb)
theorem naiveList_of_endsLe (π : Params) (q : Pos) (hb : endsBefore π q = true) :
    ∀ l : List Node, endsLeList q.elno q.ecol l = true → naiveList π l = l
  | [], _ => rfl
  | n :: rest, h => by
    simp only [endsLeList, Bool.and_eq_true] at h
    rw [naiveList, naive_of_endsLe π q hb n h.1, naiveList_of_endsLe π q hb rest h.2]
end

mutual
theorem naive_of_linesGe (π : Params) (L : Int) (hl : π.lno < L) (hd : π.dln = 0) :
    ∀ t : Node, linesGe L t = true → naiveNode π t = t
  | .mk i pos deco kids, h => by
    simp only [linesGe, Bool.and_eq_true] at h
    refine naiveNode_fixed π i pos deco kids (fun p hp => ?_) (naiveList_of_linesGe π L hl hd kids h.2)
    subst hp
    simp only [Bool.and_eq_true, decide_eq_true_eq] at h
    exact offsetPos_of_lineAfter π p h.1.1 (by omega) hd
theorem naiveList_of_linesGe (π : Params) (L : Int) (hl : π.lno < L) (hd : π.dln = 0) :
    ∀ l : List Node, linesGeList L l = true → naiveList π l = l
  | [], _ => rfl
  | n :: rest, h => by
    simp only [linesGeList, Bool.and_eq_true] at h
    rw [naiveList, naive_of_linesGe π L hl hd n h.1, naiveList_of_linesGe π L hl hd rest h.2]
end

/-- below a node skipped by the `continue` nothing moves -/
theorem naiveList_of_skipKids (π : Params) (p : Pos) (deco : Option Int) (kids : List Node)
    (hs : skipKids π p deco = true) (hl : linesGeList (blockStart p deco) kids = true) : naiveList π kids = kids := by
  simp only [skipKids, Bool.and_eq_true, decide_eq_true_eq, beq_iff_eq] at hs
  refine naiveList_of_linesGe π _ ?_ hs.1.2 kids hl
  unfold blockStart
  cases deco with
  | none => exact hs.1.1
  | some d =>
    have := hs.2
    simp only [decide_eq_true_eq] at this
    simp only; omega

theorem goNode_flag (π : Params) (n : Node) (h : (goNode π n).2 = true) :
    ∃ q, n.pos = some q ∧ endsBefore π q = true := by
  obtain ⟨i, pos, deco, kids⟩ := n
  rw [goNode] at h
  by_cases hx : (π.exclude == some i && !π.offsetExcluded) = true
  · rw [if_pos hx] at h
    cases h
  · rw [if_neg hx] at h
    cases pos with
    | none => cases h
    | some p =>
      by_cases hb : endsBefore π p = true
      · exact ⟨p, rfl, hb⟩
      · dsimp only at h
        rw [if_neg hb] at h
        split at h <;> cases h

theorem goList_flag (π : Params) : ∀ l : List Node, (goList π l).2 = true →
    ∃ k ∈ l, ∃ q, k.pos = some q ∧ endsBefore π q = true
  | [], h => by cases h
  | n :: rest, h => by
    rw [goList] at h
    by_cases hr : (goList π rest).2 = true
    · obtain ⟨k, hk, hq⟩ := goList_flag π rest hr
      exact ⟨k, List.mem_cons_of_mem _ hk, hq⟩
    · rw [if_neg hr] at h
      exact ⟨n, List.mem_cons_self, goNode_flag π n h⟩

theorem beforeAll_mem (n : Node) : ∀ l : List Node, beforeAll n l = true → ∀ k ∈ l, ∀ q, k.pos = some q →
    endsLe q.elno q.ecol n = true
  | [], _, k, hk, _, _ => by cases hk
  | m :: rest, h, k, hk, q, hq => by
    simp only [beforeAll, Bool.and_eq_true] at h
    cases hk with
    | head => simpa [hq] using h.1
    | tail _ hk' => exact beforeAll_mem n rest h.2 k hk' q hq

mutual
/-- The WARNING invariant of `_offset`: on geometrically ordered trees, `break`/`continue` lose nothing. -/
theorem goNode_eq_naive (π : Params) : ∀ t : Node, geo t = true → (goNode π t).1 = naiveNode π t
  | .mk i pos deco kids, h => by
    simp only [geo, Bool.and_eq_true] at h
    have hk := goList_eq_naive π kids h.2
    rw [goNode, naiveNode]
    by_cases hx : (π.exclude == some i && !π.offsetExcluded) = true
    · rw [if_pos hx, if_pos hx]
    · rw [if_neg hx, if_neg hx]
      cases pos with
      | none => dsimp only; rw [hk]; rfl
      | some p =>
        simp only [Bool.and_eq_true] at h
        obtain ⟨⟨⟨hw, he⟩, hl⟩, _⟩ := h
        dsimp only [Option.map_some]
        by_cases hb : endsBefore π p = true
        · -- `break` at this node: itself and everything below ends before the point
          rw [if_pos hb, offsetPos_of_endsBefore π p hw hb, naiveList_of_endsLe π p hb kids he, ite_self]
        · rw [if_neg hb]
          by_cases hs : skipKids π p deco = true
          · rw [if_pos hs, naiveList_of_skipKids π p deco kids hs hl, ite_self]
          · rw [if_neg hs, hk]
theorem goList_eq_naive (π : Params) : ∀ l : List Node, geoList l = true → (goList π l).1 = naiveList π l
  | [], _ => rfl
  | n :: rest, h => by
    simp only [geoList, Bool.and_eq_true] at h
    obtain ⟨⟨hg, hb⟩, hr⟩ := h
    have ih := goList_eq_naive π rest hr
    rw [goList, naiveList]
    by_cases hf : (goList π rest).2 = true
    · -- `break` in a later sibling: `n` ends at or before that sibling's end
      obtain ⟨k, hk, q, hq, hqb⟩ := goList_flag π rest hf
      rw [if_pos hf, ih, naive_of_endsLe π q hqb n (beforeAll_mem n rest hb k hk q hq)]
    · rw [if_neg hf, ih]
      exact congrArg (· :: _) (goNode_eq_naive π n hg)
end

end Pfst.Offset
