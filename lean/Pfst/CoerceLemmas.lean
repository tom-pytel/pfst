import Pfst.Coerce
import Pfst.CoerceArgs

/-!
Lemmas about the coercion model.  Each item loop is first characterised by what a successful run on a non-empty list
looks like (`*_some`).  The results about `toPattern` (the leaf sequence is conserved, the round trip gives the normal
form, the formatted and the pure route agree on plain sources) and about `toExpr` (the leaf sequence is conserved) are
then mutual structural inductions over the nested trees and their loops.
-/
namespace Pfst.Coerce

theorem leavesP_append (a b : List Pattern) : leavesP (a ++ b) = leavesP a ++ leavesP b := by
  induction a with
  | nil => simp [leavesP]
  | cons p t ih => simp [leavesP, ih, List.append_assoc]

theorem leavesE_append (a b : List Expr) : leavesE (a ++ b) = leavesE a ++ leavesE b := by
  induction a with
  | nil => simp [leavesE]
  | cons p t ih => simp [leavesE, ih, List.append_assoc]

theorem unwild_wild (id : String) : unwild (wild id) = id := by
  unfold wild unwild
  split
  · next h => simp at h; simp [h]
  · simp

section
variable {fmt : Bool}

theorem seqGo_cons_some {e : Expr} {rest : List Expr} {ps : List Pattern} (h : seqGo fmt (e :: rest) = some ps) :
    ∃ p ps', toPattern fmt e = some p ∧ seqGo fmt rest = some ps' ∧ ps = p :: ps' := by
  simp only [seqGo] at h
  cases hp : toPattern fmt e <;> cases hps : seqGo fmt rest <;> simp [hp, hps] at h
  exact ⟨_, _, rfl, rfl, h.symm⟩

theorem callArgs_cons_some {e : Expr} {rest : List Expr} {ps : List Pattern} (h : callArgs fmt (e :: rest) = some ps) :
    ∃ p ps', toPattern fmt e = some p ∧ callArgs fmt rest = some ps' ∧ ps = p :: ps' := by
  simp only [callArgs] at h
  cases hp : toPattern fmt e <;> cases hps : callArgs fmt rest <;> simp [hp, hps] at h
  exact ⟨_, _, rfl, rfl, h.2.symm⟩

theorem callArgs_seqGo {es : List Expr} {ps : List Pattern} (h : callArgs fmt es = some ps) : seqGo fmt es = some ps := by
  induction es generalizing ps with
  | nil => exact h
  | cons e rest ih =>
    obtain ⟨p, ps', hp, hps, rfl⟩ := callArgs_cons_some h
    simp only [seqGo, hp, ih hps]

theorem callKws_kw_some {a : Option String} {v : Expr} {rest : List Expr} {ps : List Pattern}
    (h : callKws fmt (.kw a v :: rest) = some ps) :
    ∃ a' p ps', a = some a' ∧ toPattern fmt v = some p ∧ callKws fmt rest = some ps' ∧ ps = .pkw a' p :: ps' := by
  cases a with
  | none => simp [callKws] at h
  | some a =>
    simp only [callKws] at h
    cases hp : toPattern fmt v <;> cases hps : callKws fmt rest <;> simp [hp, hps] at h
    exact ⟨_, _, _, rfl, rfl, rfl, h.symm⟩

theorem toPattern_bitor_some {l r : Expr} {lpar : Bool} {p : Pattern}
    (h : toPattern fmt (.binop l .bitor r lpar) = some p) :
    ∃ pl pr, toPattern fmt l = some pl ∧ toPattern fmt r = some pr ∧
      (p = .or_ [pl, pr] ∨ ∃ ps, pl = .or_ ps ∧ p = .or_ (ps ++ [pr])) := by
  simp only [toPattern] at h
  cases hl : toPattern fmt l <;> cases hr : toPattern fmt r <;> simp [hl, hr] at h
  next pl pr =>
    refine ⟨pl, pr, rfl, rfl, ?_⟩
    obtain ⟨_, _, h⟩ := h
    split at h
    · split at h <;> simp at h <;> simp [← h]
    · simp at h; simp [← h]

theorem valueOf_toPattern {k k' : Expr} (hw : k.isKeyWalk = true) (h : valueOf (toPattern fmt k) = some k') :
    k' = k := by
  cases hp : toPattern fmt k with
  | none => simp [hp, valueOf] at h
  | some p =>
    cases p <;> simp [hp, valueOf] at h
    subst h
    cases k with
    | unop _ _ | attr _ _ => simp [toPattern] at hp; exact hp.2.symm
    | binop l op r lpar =>
      cases op with
      | add | sub => simp [toPattern] at hp; exact hp.2.symm
      | bitor => obtain ⟨_, _, _, _, h' | ⟨_, _, h'⟩⟩ := toPattern_bitor_some hp <;> cases h'
      | other _ => simp [toPattern] at hp
    | _ => simp [Expr.isKeyWalk] at hw

theorem dictGo_seen {tl : List Expr} {r : List Pattern × Option String} (h : dictGo fmt tl true = some r) :
    tl = [] ∧ r = ([], none) := by
  cases tl with
  | nil => simpa [dictGo, eq_comm] using h
  | cons x _ => cases x <;> simp [dictGo] at h

theorem dictGo_dstar_some {v : Expr} {tl : List Expr} {seen : Bool} {ms : List Pattern} {rest : Option String}
    (h : dictGo fmt (.dstar v :: tl) seen = some (ms, rest)) :
    ∃ id, v = .name id ∧ tl = [] ∧ ms = [] ∧ rest = some id := by
  cases v <;> simp [dictGo] at h
  next id =>
    obtain ⟨_, _, h⟩ := h
    cases hgo : dictGo fmt tl true <;> simp [hgo] at h
    obtain ⟨rfl, hr⟩ := dictGo_seen hgo
    subst hr
    exact ⟨id, rfl, rfl, h.1.symm, h.2.symm⟩

theorem dictGo_kv_some {k v : Expr} {tl : List Expr} {seen : Bool} {ms : List Pattern} {rest : Option String}
    (h : dictGo fmt (.kv k v :: tl) seen = some (ms, rest)) :
    ∃ p ms', toPattern fmt v = some p ∧ dictGo fmt tl seen = some (ms', rest) ∧ ms = .mkv k p :: ms' := by
  simp only [dictGo] at h
  split at h
  · simp at h
  · split at h
    · simp at h
    · next k' hk =>
      have : k' = k := by
        split at hk
        · split at hk <;> simp at hk
          exact hk.symm
        · split at hk
          · next hw => exact valueOf_toPattern hw hk
          · simp at hk
      subst this
      cases hp : toPattern fmt v <;> cases hgo : dictGo fmt tl seen <;> simp [hp, hgo] at h
      exact ⟨_, _, rfl, by rw [← h.2], h.1.symm⟩

theorem toExprs_cons_some {p : Pattern} {rest : List Pattern} {es : List Expr}
    (h : toExprs fmt (p :: rest) = some es) :
    ∃ e es', toExpr fmt p = some e ∧ toExprs fmt rest = some es' ∧ es = e :: es' := by
  simp only [toExprs] at h
  cases he : toExpr fmt p <;> cases hes : toExprs fmt rest <;> simp [he, hes] at h
  exact ⟨_, _, rfl, rfl, h.symm⟩

theorem mapGo_mkv_some {k : Expr} {p : Pattern} {rest : List Pattern} {es : List Expr}
    (h : mapGo fmt (.mkv k p :: rest) = some es) :
    ∃ v its, toExpr fmt p = some v ∧ mapGo fmt rest = some its ∧ es = .kv k v :: its := by
  simp only [mapGo] at h
  cases he : toExpr fmt p <;> cases hes : mapGo fmt rest <;> simp [he, hes] at h
  exact ⟨_, _, rfl, rfl, h.symm⟩

theorem clsKws_pkw_some {a : String} {p : Pattern} {rest : List Pattern} {es : List Expr}
    (h : clsKws fmt (.pkw a p :: rest) = some es) :
    ∃ v ks, toExpr fmt p = some v ∧ clsKws fmt rest = some ks ∧ es = .kw (some a) v :: ks := by
  simp only [clsKws] at h
  cases he : toExpr fmt p <;> cases hes : clsKws fmt rest <;> simp [he, hes] at h
  exact ⟨_, _, rfl, rfl, h.symm⟩

theorem orGo_cons_some {acc e : Expr} {p : Pattern} {rest : List Pattern} (h : orGo fmt acc (p :: rest) = some e) :
    ∃ r, toExpr fmt p = some r ∧ orGo fmt (.binop acc .bitor r false) rest = some e := by
  simp only [orGo] at h
  cases he : toExpr fmt p <;> simp [he] at h
  exact ⟨_, rfl, h⟩

theorem attrGo_cons_some {p : Param} {rest : List Param} {ps ks : List Pattern}
    (h : attrGo fmt (p :: rest) = some (ps, ks)) :
    p.ann = none ∧ ∃ ps' ks', attrGo fmt rest = some (ps', ks') ∧
      ((p.dflt = none ∧ ps = .capture (wild p.name) :: ps' ∧ ks = ks') ∨
        ∃ d pat, p.dflt = some d ∧ toPattern fmt d = some pat ∧ ps = ps' ∧ ks = .pkw p.name pat :: ks') := by
  simp only [attrGo] at h
  split at h
  · simp at h
  · next hann =>
    refine ⟨by simpa using hann, ?_⟩
    cases hd : p.dflt with
    | none =>
      cases hgo : attrGo fmt rest <;> simp [hd, hgo] at h
      exact ⟨_, _, rfl, .inl ⟨rfl, h.1.symm, h.2.symm⟩⟩
    | some d =>
      cases hp : toPattern fmt d <;> cases hgo : attrGo fmt rest <;> simp [hd, hp, hgo] at h
      exact ⟨_, _, rfl, .inr ⟨d, _, rfl, hp, h.1.symm, h.2.symm⟩⟩

end

mutual
theorem toPattern_leaves' (fmt : Bool) : ∀ (e : Expr) (p : Pattern), toPattern fmt e = some p → p.leaves = e.leaves
  | .const c, p, h => by
    cases c <;> simp [toPattern] at h <;> subst h <;> simp [Pattern.leaves, Expr.leaves]
  | .name id, p, h | .starred (.name id), p, h => by
    simp [toPattern] at h
    subst h; simp [Pattern.leaves, Expr.leaves, unwild_wild]
  | .attr _ _, p, h | .unop _ _, p, h | .binop _ .add _ _, p, h | .binop _ .sub _ _, p, h => by
    simp [toPattern] at h
    simp [← h.2, Pattern.leaves]
  | .binop l .bitor r lpar, p, h => by
    obtain ⟨pl, pr, hl, hr, hp⟩ := toPattern_bitor_some h
    have ihl := toPattern_leaves' fmt l pl hl
    have ihr := toPattern_leaves' fmt r pr hr
    rcases hp with rfl | ⟨ps, rfl, rfl⟩
    · simp [Pattern.leaves, leavesP, Expr.leaves, ihl, ihr]
    · simp [Pattern.leaves, leavesP, leavesP_append, Expr.leaves, ← ihl, ihr]
  | .list es, p, h | .tuple es, p, h | .set es, p, h => by
    simp only [toPattern] at h
    split at h <;> simp at h
    next ps hps => subst h; simp [Pattern.leaves, Expr.leaves, seqGo_leaves' fmt es ps hps]
  | .dict items, p, h => by
    simp only [toPattern] at h
    split at h <;> simp at h
    next ms rest hd => subst h; exact dictGo_leaves' fmt items false ms rest hd
  | .call f args kws, p, h => by
    simp only [toPattern] at h
    cases hps : callArgs fmt args <;> cases hks : callKws fmt kws <;> simp [hps, hks] at h
    simp [← h.2, Pattern.leaves, Expr.leaves, seqGo_leaves' fmt args _ (callArgs_seqGo hps), callKws_leaves' fmt kws _ hks]
  | .starred (.const _), p, h | .starred (.attr _ _), p, h | .kv _ _, p, h | .dstar _, p, h | .kw _ _, p, h | .other _ _, p, h | .binop _ (.other _) _ _, p, h => by
    cases h

theorem seqGo_leaves' (fmt : Bool) : ∀ (es : List Expr) (ps : List Pattern), seqGo fmt es = some ps →
    leavesP ps = leavesE es
  | [], ps, h => by simp [seqGo] at h; subst h; simp [leavesP, leavesE]
  | e :: rest, ps, h => by
    obtain ⟨p, ps', hp, hps, rfl⟩ := seqGo_cons_some h
    simp [leavesP, leavesE, toPattern_leaves' fmt e p hp, seqGo_leaves' fmt rest ps' hps]

theorem callKws_leaves' (fmt : Bool) : ∀ (es : List Expr) (ps : List Pattern), callKws fmt es = some ps →
    leavesP ps = leavesE es
  | [], ps, h => by simp [callKws] at h; subst h; simp [leavesP, leavesE]
  | x :: rest, ps, h => by
    cases x with
    | kw a v =>
      obtain ⟨a, p, ps', rfl, hp, hps, rfl⟩ := callKws_kw_some h
      simp [leavesP, leavesE, Pattern.leaves, Expr.leaves, toPattern_leaves' fmt v p hp,
        callKws_leaves' fmt rest ps' hps]
    | _ => simp [callKws] at h

theorem dictGo_leaves' (fmt : Bool) : ∀ (items : List Expr) (seen : Bool) (ms : List Pattern) (rest : Option String),
    dictGo fmt items seen = some (ms, rest) →
    leavesP ms ++ (match rest with | some r => [Leaf.name r] | none => []) = leavesE items
  | [], seen, ms, rest, h => by
    simp [dictGo] at h; obtain ⟨h1, h2⟩ := h; subst h1; subst h2; simp [leavesP, leavesE]
  | x :: tl, seen, ms, rest, h => by
    cases x with
    | dstar v =>
      obtain ⟨id, rfl, rfl, rfl, rfl⟩ := dictGo_dstar_some h
      simp [leavesP, leavesE, Expr.leaves]
    | kv k v =>
      obtain ⟨p, ms', hp, hgo, rfl⟩ := dictGo_kv_some h
      simp [leavesP, leavesE, Pattern.leaves, Expr.leaves, toPattern_leaves' fmt v p hp,
        ← dictGo_leaves' fmt tl seen ms' rest hgo]
    | _ => simp [dictGo] at h
end

theorem callArgs_leaves' (fmt : Bool) : ∀ (es : List Expr) (ps : List Pattern), callArgs fmt es = some ps →
    leavesP ps = leavesE es :=
  fun es ps h => seqGo_leaves' fmt es ps (callArgs_seqGo h)

mutual
theorem toExpr_leaves' (fmt : Bool) : ∀ (p : Pattern) (e : Expr), toExpr fmt p = some e → e.leaves = p.leaves
  | .value _, e, h | .singleton _, e, h | .star _, e, h | .capture _, e, h => by
    simp [toExpr] at h; subst h; simp [Pattern.leaves, Expr.leaves]
  | .seq d ps, e, h => by
    simp only [toExpr] at h
    cases hes : toExprs fmt ps <;> simp [hes] at h
    have := toExprs_leaves' fmt ps _ hes
    split at h <;> simp at h <;> subst h <;> simp [Pattern.leaves, Expr.leaves, this]
  | .mapping items rest, e, h => by
    simp only [toExpr] at h
    cases hits : mapGo fmt items <;> simp [hits] at h
    have := mapGo_leaves' fmt items _ hits
    cases rest <;> simp at h <;> subst h <;> simp [Pattern.leaves, Expr.leaves, leavesE_append, leavesE, this]
  | .cls c ps kws, e, h => by
    simp only [toExpr] at h
    cases ha : toExprs fmt ps <;> cases hk : clsKws fmt kws <;> simp [ha, hk] at h
    simp [← h, Pattern.leaves, Expr.leaves, toExprs_leaves' fmt ps _ ha, clsKws_leaves' fmt kws _ hk]
  | .or_ (p :: rest), e, h => by
    simp only [toExpr] at h
    cases h0 : toExpr fmt p <;> simp [h0] at h
    simp [Pattern.leaves, leavesP, orGo_leaves' fmt rest _ e h, toExpr_leaves' fmt p _ h0]
  | .or_ [], e, h | .asPat _ _, e, h | .mkv _ _, e, h | .pkw _ _, e, h => by cases h

theorem toExprs_leaves' (fmt : Bool) : ∀ (ps : List Pattern) (es : List Expr), toExprs fmt ps = some es →
    leavesE es = leavesP ps
  | [], es, h => by simp [toExprs] at h; subst h; simp [leavesP, leavesE]
  | p :: rest, es, h => by
    obtain ⟨e, es', he, hes, rfl⟩ := toExprs_cons_some h
    simp [leavesP, leavesE, toExpr_leaves' fmt p e he, toExprs_leaves' fmt rest es' hes]

theorem orGo_leaves' (fmt : Bool) : ∀ (rest : List Pattern) (acc e : Expr), orGo fmt acc rest = some e →
    e.leaves = acc.leaves ++ leavesP rest
  | [], acc, e, h => by simp [orGo] at h; subst h; simp [leavesP]
  | p :: t, acc, e, h => by
    obtain ⟨r, hr, h⟩ := orGo_cons_some h
    simp [orGo_leaves' fmt t _ e h, Expr.leaves, leavesP, toExpr_leaves' fmt p r hr]

theorem mapGo_leaves' (fmt : Bool) : ∀ (ps : List Pattern) (es : List Expr), mapGo fmt ps = some es →
    leavesE es = leavesP ps
  | [], es, h => by simp [mapGo] at h; subst h; simp [leavesP, leavesE]
  | x :: rest, es, h => by
    cases x with
    | mkv k p =>
      obtain ⟨v, its, hv, hits, rfl⟩ := mapGo_mkv_some h
      simp [leavesP, leavesE, Pattern.leaves, Expr.leaves, toExpr_leaves' fmt p v hv, mapGo_leaves' fmt rest its hits]
    | _ => simp [mapGo] at h

theorem clsKws_leaves' (fmt : Bool) : ∀ (ps : List Pattern) (es : List Expr), clsKws fmt ps = some es →
    leavesE es = leavesP ps
  | [], es, h => by simp [clsKws] at h; subst h; simp [leavesP, leavesE]
  | x :: rest, es, h => by
    cases x with
    | pkw a p =>
      obtain ⟨v, ks, hv, hks, rfl⟩ := clsKws_pkw_some h
      simp [leavesP, leavesE, Pattern.leaves, Expr.leaves, toExpr_leaves' fmt p v hv, clsKws_leaves' fmt rest ks hks]
    | _ => simp [clsKws] at h
end

theorem orGo_snoc (fmt : Bool) (q : Pattern) (b : Expr) (hq : toExpr fmt q = some b) :
    ∀ (rest : List Pattern) (acc a : Expr), orGo fmt acc rest = some a →
      orGo fmt acc (rest ++ [q]) = some (.binop a .bitor b false)
  | [], acc, a, h => by simp [orGo] at h; subst h; simp [orGo, hq]
  | p :: t, acc, a, h => by
    obtain ⟨r, hr, h⟩ := orGo_cons_some h
    simpa [orGo, hr] using orGo_snoc fmt q b hq t _ a h

theorem or_snoc (fmt : Bool) (ps : List Pattern) (q : Pattern) (a b : Expr)
    (ha : toExpr fmt (.or_ ps) = some a) (hq : toExpr fmt q = some b) :
    toExpr fmt (.or_ (ps ++ [q])) = some (.binop a .bitor b false) := by
  cases ps with
  | nil => simp [toExpr] at ha
  | cons p rest =>
    simp only [toExpr] at ha
    cases h0 : toExpr fmt p <;> simp [h0] at ha
    simpa [toExpr, h0] using orGo_snoc fmt q b hq rest _ a ha

mutual
theorem roundtrip' : ∀ (e : Expr) (p : Pattern), toPattern false e = some p → toExpr false p = some e.norm
  | .const c, p, h => by
    cases c <;> simp [toPattern] at h <;> subst h <;> simp [toExpr, Expr.norm]
  | .name id, p, h | .starred (.name id), p, h => by
    simp [toPattern] at h
    subst h; simp [toExpr, Expr.norm, unwild_wild]
  | .attr _ _, p, h | .unop _ _, p, h | .binop _ .add _ _, p, h | .binop _ .sub _ _, p, h => by
    simp [toPattern] at h
    simp [← h.2, toExpr, Expr.norm]
  | .binop l .bitor r lpar, p, h => by
    obtain ⟨pl, pr, hl, hr, hp⟩ := toPattern_bitor_some h
    have ihl := roundtrip' l pl hl
    have ihr := roundtrip' r pr hr
    rcases hp with rfl | ⟨ps, rfl, rfl⟩
    · simp [toExpr, orGo, ihl, ihr, Expr.norm]
    · simpa [Expr.norm] using or_snoc false ps pr _ _ ihl ihr
  | .list es, p, h | .tuple es, p, h | .set es, p, h => by
    simp only [toPattern] at h
    split at h <;> simp at h
    next ps hps => subst h; simp [toExpr, Expr.norm, seqGo_rt' es ps hps]
  | .dict items, p, h => by
    simp only [toPattern] at h
    split at h <;> simp at h
    next ms rest hd =>
      subst h
      obtain ⟨its, h1, h2⟩ := dictGo_rt' items false ms rest hd
      cases rest <;> simp at h2 <;> simp [toExpr, h1, Expr.norm, h2]
  | .call f args kws, p, h => by
    simp only [toPattern] at h
    cases hps : callArgs false args <;> cases hks : callKws false kws <;> simp [hps, hks] at h
    simp [← h.2, toExpr, Expr.norm, seqGo_rt' args _ (callArgs_seqGo hps), callKws_rt' kws _ hks]
  | .starred (.const _), p, h | .starred (.attr _ _), p, h | .kv _ _, p, h | .dstar _, p, h | .kw _ _, p, h | .other _ _, p, h | .binop _ (.other _) _ _, p, h => by
    cases h

theorem seqGo_rt' : ∀ (es : List Expr) (ps : List Pattern), seqGo false es = some ps →
    toExprs false ps = some (normE es)
  | [], ps, h => by simp [seqGo] at h; subst h; simp [toExprs, normE]
  | e :: rest, ps, h => by
    obtain ⟨p, ps', hp, hps, rfl⟩ := seqGo_cons_some h
    simp [toExprs, normE, roundtrip' e p hp, seqGo_rt' rest ps' hps]

theorem callKws_rt' : ∀ (es : List Expr) (ps : List Pattern), callKws false es = some ps →
    clsKws false ps = some (normE es)
  | [], ps, h => by simp [callKws] at h; subst h; simp [clsKws, normE]
  | x :: rest, ps, h => by
    cases x with
    | kw a v =>
      obtain ⟨a, p, ps', rfl, hp, hps, rfl⟩ := callKws_kw_some h
      simp [clsKws, normE, Expr.norm, roundtrip' v p hp, callKws_rt' rest ps' hps]
    | _ => simp [callKws] at h

theorem dictGo_rt' : ∀ (items : List Expr) (seen : Bool) (ms : List Pattern) (rest : Option String),
    dictGo false items seen = some (ms, rest) →
    ∃ its, mapGo false ms = some its ∧
      (match rest with | some r => its ++ [Expr.dstar (.name r)] | none => its) = normE items
  | [], seen, ms, rest, h => by
    simp [dictGo] at h; obtain ⟨h1, h2⟩ := h; subst h1; subst h2
    exact ⟨[], by simp [mapGo], by simp [normE]⟩
  | x :: tl, seen, ms, rest, h => by
    cases x with
    | dstar v =>
      obtain ⟨id, rfl, rfl, rfl, rfl⟩ := dictGo_dstar_some h
      exact ⟨[], by simp [mapGo], by simp [normE, Expr.norm]⟩
    | kv k v =>
      obtain ⟨p, ms', hp, hgo, rfl⟩ := dictGo_kv_some h
      obtain ⟨its, i1, i2⟩ := dictGo_rt' tl seen ms' rest hgo
      refine ⟨.kv k v.norm :: its, by simp [mapGo, roundtrip' v p hp, i1], ?_⟩
      cases rest <;> simp at i2 <;> simp [normE, Expr.norm, i2]
    | _ => simp [dictGo] at h
end

theorem callArgs_rt' : ∀ (es : List Expr) (ps : List Pattern), callArgs false es = some ps →
    toExprs false ps = some (normE es) :=
  fun es ps h => seqGo_rt' es ps (callArgs_seqGo h)

mutual
theorem norm_leaves' : ∀ e : Expr, e.norm.leaves = e.leaves
  | .list es | .tuple es | .set es | .dict es => by simp [Expr.norm, Expr.leaves, normE_leaves' es]
  | .kv _ v | .kw _ v => by simp [Expr.norm, Expr.leaves, norm_leaves' v]
  | .call f args kws => by simp [Expr.norm, Expr.leaves, normE_leaves' args, normE_leaves' kws]
  | .binop l .bitor r _ => by simp [Expr.norm, Expr.leaves, norm_leaves' l, norm_leaves' r]
  | .name _ | .const _ | .attr _ _ | .starred _ | .dstar _ | .unop _ _ | .other _ _ | .binop _ .add _ _
  | .binop _ .sub _ _ | .binop _ (.other _) _ _ => by simp [Expr.norm]
theorem normE_leaves' : ∀ es : List Expr, leavesE (normE es) = leavesE es
  | [] => by simp [normE]
  | e :: rest => by simp [normE, leavesE, norm_leaves' e, normE_leaves' rest]
end

mutual
/-- no `|` whose left operand is parenthesised in source -/
def Expr.plain : Expr → Bool
  | .name _ => true
  | .const _ => true
  | .attr v _ => v.plain
  | .list es => plainE es
  | .tuple es => plainE es
  | .set es => plainE es
  | .starred v => v.plain
  | .dict items => plainE items
  | .kv k v => k.plain && v.plain
  | .dstar v => v.plain
  | .call f args kws => f.plain && (plainE args && plainE kws)
  | .kw _ v => v.plain
  | .binop l op r lpar => !(op == .bitor && lpar) && (l.plain && r.plain)
  | .unop _ o => o.plain
  | .other _ kids => plainE kids
def plainE : List Expr → Bool
  | [] => true
  | e :: rest => e.plain && plainE rest
end

mutual
theorem toPattern_routes' : ∀ e : Expr, e.plain = true → toPattern true e = toPattern false e
  | .const c, _ => by cases c <;> simp [toPattern]
  | .starred v, _ => by cases v <;> simp [toPattern]
  | .dict items, h => by
    simp only [Expr.plain] at h
    simp only [toPattern, dictGo_routes' items false h]
  | .call f args kws, h => by
    simp only [Expr.plain, Bool.and_eq_true] at h
    simp only [toPattern, callArgs_routes' args h.2.1, callKws_routes' kws h.2.2]
  | .binop l .bitor r lpar, h => by
    simp only [Expr.plain, Bool.and_eq_true, Bool.not_eq_true'] at h
    have hl : lpar = false := by simpa using h.1
    subst hl
    simp only [toPattern, toPattern_routes' l h.2.1, toPattern_routes' r h.2.2, Bool.and_false]
  | .list es, h | .tuple es, h | .set es, h => by
    simp only [Expr.plain] at h
    simp only [toPattern, seqGo_routes' es h]
  | .name _, _ | .attr _ _, _ | .unop _ _, _ | .kv _ _, _ | .dstar _, _ | .kw _ _, _ | .other _ _, _
  | .binop _ .add _ _, _ | .binop _ .sub _ _, _ | .binop _ (.other _) _ _, _ => by simp [toPattern]

theorem seqGo_routes' : ∀ es : List Expr, plainE es = true → seqGo true es = seqGo false es
  | [], _ => by simp [seqGo]
  | e :: rest, h => by
    simp only [plainE, Bool.and_eq_true] at h
    simp only [seqGo, toPattern_routes' e h.1, seqGo_routes' rest h.2]

theorem callArgs_routes' : ∀ es : List Expr, plainE es = true → callArgs true es = callArgs false es
  | [], _ => by simp [callArgs]
  | e :: rest, h => by
    simp only [plainE, Bool.and_eq_true] at h
    simp only [callArgs, toPattern_routes' e h.1, callArgs_routes' rest h.2]

theorem callKws_routes' : ∀ es : List Expr, plainE es = true → callKws true es = callKws false es
  | [], _ => by simp [callKws]
  | x :: rest, h => by
    simp only [plainE, Bool.and_eq_true] at h
    cases x with
    | kw a v =>
      cases a with
      | none => simp [callKws]
      | some a => simp only [callKws, toPattern_routes' v h.1, callKws_routes' rest h.2]
    | _ => simp [callKws]

theorem dictGo_routes' : ∀ (items : List Expr) (seen : Bool), plainE items = true →
    dictGo true items seen = dictGo false items seen
  | [], _, _ => by simp [dictGo]
  | x :: tl, seen, h => by
    simp only [plainE, Bool.and_eq_true] at h
    cases x with
    | dstar v => cases v <;> simp only [dictGo, dictGo_routes' tl true h.2]
    | kv k v =>
      simp only [Expr.plain, Bool.and_eq_true] at h
      simp only [dictGo, toPattern_routes' k h.1.1, toPattern_routes' v h.1.2, dictGo_routes' tl seen h.2]
    | _ => simp [dictGo]
end

theorem leavesTs_append (a b : List TParam) : leavesTs (a ++ b) = leavesTs a ++ leavesTs b := by
  induction a with
  | nil => simp [leavesTs]
  | cons p t ih => simp [leavesTs, ih, List.append_assoc]

theorem tvPass_leaves : ∀ ps : List Param, hasDefault ps = false → leavesTs (tvPass ps) = leavesPs ps
  | [], _ => by simp [tvPass, leavesTs, leavesPs]
  | p :: rest, h => by
    simp only [hasDefault, Bool.or_eq_false_iff] at h
    have hd : p.dflt = none := by cases hp : p.dflt <;> simp [hp] at h ⊢
    simp [tvPass, leavesTs, leavesPs, TParam.leaves, Param.leaves, hd, optLeaves, tvPass_leaves rest h.2]

theorem starPart_leaves (mk : String → TParam) (hmk : ∀ n, (mk n).leaves = [.name n]) (o : Option Param)
    (v : List TParam) (h : starPart mk o = some v) : leavesTs v = optParamLeaves o := by
  cases o with
  | none => simp [starPart] at h; subst h; simp [leavesTs, optParamLeaves]
  | some p =>
    simp only [starPart] at h
    split at h
    · simp at h
    · next ha =>
      simp at h; subst h
      have : p.ann = none := by cases hp : p.ann <;> simp [hp] at ha ⊢
      simp [leavesTs, optParamLeaves, hmk, this, optLeaves]

theorem argsToTypeParams_leaves' (a : Arguments) (ts : List TParam) (h : argsToTypeParams a = some ts) :
    leavesTs ts = a.leaves := by
  unfold argsToTypeParams at h
  split at h
  · simp at h
  · next hpos =>
    split at h
    · simp at h
    · next hdef =>
      split at h
      · simp at h
      · split at h
        · next v k hv hk =>
          simp at h; subst h
          have hp : a.posonly = [] := by simpa using hpos
          simp only [Bool.or_eq_true, not_or, Bool.not_eq_true] at hdef
          simp [Arguments.leaves, hp, leavesPs, leavesTs_append, tvPass_leaves _ hdef.1, tvPass_leaves _ hdef.2,
                starPart_leaves _ (by intro n; rfl) _ _ hv, starPart_leaves _ (by intro n; rfl) _ _ hk]
        · simp at h

theorem attrGo_all_defaults (fmt : Bool) : ∀ (l : List Param) (ps ks : List Pattern),
    l.all (fun q => q.dflt.isSome) = true → attrGo fmt l = some (ps, ks) → ps = []
  | [], ps, ks, _, h => by simp [attrGo] at h; exact h.1
  | p :: rest, ps, ks, hall, h => by
    simp only [List.all_cons, Bool.and_eq_true] at hall
    obtain ⟨_, ps', ks', hgo, ⟨hd, _⟩ | ⟨d, pat, _, _, rfl, _⟩⟩ := attrGo_cons_some h
    · simp [hd] at hall
    · exact attrGo_all_defaults fmt rest ps ks' hall.2 hgo

theorem attrGo_leaves (fmt : Bool) : ∀ (l : List Param) (ps ks : List Pattern),
    defaultsSuffix l = true → attrGo fmt l = some (ps, ks) → leavesP ps ++ leavesP ks = leavesPs l
  | [], ps, ks, _, h => by simp [attrGo] at h; obtain ⟨h1, h2⟩ := h; subst h1; subst h2; simp [leavesP, leavesPs]
  | p :: rest, ps, ks, hs, h => by
    simp only [defaultsSuffix, Bool.and_eq_true, Bool.or_eq_true] at hs
    obtain ⟨ha, ps', ks', hgo, ⟨hd, rfl, rfl⟩ | ⟨d, pat, hd, hpat, rfl, rfl⟩⟩ := attrGo_cons_some h
    · have ih := attrGo_leaves fmt rest ps' ks hs.2 hgo
      simp [leavesP, leavesPs, Pattern.leaves, Param.leaves, ha, hd, optLeaves, unwild_wild, ← ih]
    · -- a default here means defaults everywhere after: nothing more goes to the positional patterns
      obtain rfl := attrGo_all_defaults fmt rest ps ks' (by simpa [hd] using hs.1) hgo
      have ih := attrGo_leaves fmt rest [] ks' hs.2 hgo
      simp only [leavesP, List.nil_append] at ih
      simp [leavesP, leavesPs, Pattern.leaves, Param.leaves, ha, hd, optLeaves, toPattern_leaves' fmt d pat hpat, ih]

theorem argsToAttrlikes_leaves' (fmt : Bool) (a : Arguments) (ps ks : List Pattern) (hs : defaultsSuffix a.args = true)
    (h : argsToAttrlikes fmt a = some (ps, ks)) : leavesP ps ++ leavesP ks = a.leaves := by
  unfold argsToAttrlikes at h
  split at h
  · simp at h
  · next hc =>
    simp only [Bool.or_eq_true, not_or, Bool.not_eq_true, Bool.not_eq_false'] at hc
    obtain ⟨⟨⟨hv, hk⟩, hp⟩, hko⟩ := hc
    have hv' : a.vararg = none := by cases hx : a.vararg <;> simp [hx] at hv ⊢
    have hk' : a.kwarg = none := by cases hx : a.kwarg <;> simp [hx] at hk ⊢
    have hp' : a.posonly = [] := by simpa using hp
    have hko' : a.kwonly = [] := by simpa using hko
    simp [Arguments.leaves, hv', hk', hp', hko', leavesPs, optParamLeaves, attrGo_leaves fmt a.args ps ks hs h]

end Pfst.Coerce
