import Pfst.Text
import Pfst.Offset
import Pfst.ListLemmas

/-!
Lemmas of the text layer.

A point `(l, c)` cuts a document into what is before it and what is behind it (`flat_cut`, `flat_split`).  `off L l c`
is the length of the flat text before the point, so it only looks at the lines before `l` and the first `c` characters of
line `l` (`off_congr`), and what is left of the flat text behind the point only depends on the rest of line `l` and
the lines after it (`off_add_rest`).  `putSrc` is computed on documents in which the touched lines are singled out
(`putSrc_one`, `putSrc_many`), which gives one normal form for its five code paths (`putSrc_normal`); in the flat text it
is a one-dimensional splice (`putSrc_flat`), and the offsets of the points before, inside and behind the splice follow
from the two dependencies above.  The statements about spans of text are then facts about `take` / `drop` of one list
(`splice_before`, `splice_after`, `splice_container` in `Pfst/ListLemmas.lean`); the character/byte bridge comes last.
-/
namespace Pfst.Text

@[simp] theorem flatTail_nil : flatTail [] = [] := rfl
@[simp] theorem flatTail_cons (l : Line) (B : List Line) : flatTail (l :: B) = '\n' :: (l ++ flatTail B) := by
  simp [flatTail]
theorem flatTail_append (A B : List Line) : flatTail (A ++ B) = flatTail A ++ flatTail B := by
  simp [flatTail]

theorem flatTail_eq_cons_flat (l : Line) (B : List Line) : flatTail (l :: B) = '\n' :: flat (l :: B) := by
  simp [flat]

theorem flat_cons (l : Line) (B : List Line) : flat (l :: B) = l ++ flatTail B := rfl

theorem flat_append_of_ne_nil (A B : List Line) (h : A ≠ []) : flat (A ++ B) = flat A ++ flatTail B := by
  cases A with
  | nil => exact absurd rfl h
  | cons a A => simp [flat, flatTail_append]

theorem flat_snoc (A : List Line) (x : Line) : flat (A ++ [x]) = (flatTail A).drop 1 ++ (if A = [] then x else '\n' :: x) := by
  cases A with
  | nil => simp [flat]
  | cons a A => simp [flat, flatTail_append]

theorem flat_cut (A B : List Line) (p q : Line) :
    flat (A ++ (p ++ q) :: B) = flat (A ++ [p]) ++ (q ++ flatTail B) := by
  cases A <;> simp [flat, flatTail_append]

theorem length_flatTail (B : List Line) : (flatTail B).length = (B.map (fun l => l.length + 1)).sum := by
  simp [flatTail, List.length_flatMap]

theorem length_flat_snoc (A : List Line) (x : Line) :
    (flat (A ++ [x])).length = (A.map (fun l => l.length + 1)).sum + x.length := by
  cases A with
  | nil => simp [flat]
  | cons a A => simp [flat, flatTail_append, length_flatTail]; omega

theorem lineAt_eq {L : List Line} {i : Nat} (h : i < L.length) : lineAt L i = L[i] := by
  simp [lineAt, List.getD, h]

theorem lineAt_of_length_le {L : List Line} {i : Nat} (h : L.length ≤ i) : lineAt L i = [] := by
  simp [lineAt, List.getD_eq_getElem?_getD, List.getElem?_eq_none h]

theorem lineAt_append_left (X Y : List Line) (l : Nat) (h : l < X.length) : lineAt (X ++ Y) l = lineAt X l := by
  simp [lineAt, List.getD_eq_getElem?_getD, List.getElem?_append_left h]

theorem lineAt_append_right (X Y : List Line) (k : Nat) : lineAt (X ++ Y) (X.length + k) = lineAt Y k := by
  simp [lineAt, List.getD_eq_getElem?_getD, List.getElem?_append_right]

theorem lineAt_mid (A B : List Line) (x : Line) {n : Nat} (h : n = A.length) : lineAt (A ++ x :: B) n = x := by
  simp [lineAt, h]

theorem lineAt_take (L : List Line) {i n : Nat} (h : i < n) : lineAt (L.take n) i = lineAt L i := by
  simp [lineAt, List.getD_eq_getElem?_getD, List.getElem?_take_of_lt h]

theorem sliceAssign_of_le (L X : List Line) {a b : Nat} (h : a ≤ b) :
    sliceAssign L a b X = L.take a ++ X ++ L.drop b := by
  rw [sliceAssign, Nat.max_eq_right h]

theorem set_last_append (P R : List Line) (y : Line) (hP : P ≠ []) :
    (P ++ R).set (P.length - 1) y = P.dropLast ++ y :: R := by
  obtain ⟨D, z, rfl⟩ : ∃ D z, P = D ++ [z] := ⟨_, _, (List.dropLast_concat_getLast hP).symm⟩
  simp

theorem split_at {L : List Line} {i : Nat} (h : i < L.length) :
    L = L.take i ++ lineAt L i :: L.drop (i + 1) := by
  rw [lineAt_eq h, ← List.drop_eq_getElem_cons h, List.take_append_drop]

theorem dropLast_lastLine (P : List Line) (h : P ≠ []) : P.dropLast ++ [lastLine P] = P := by
  simp [lastLine, List.getLast?_eq_some_getLast h, List.dropLast_concat_getLast]

theorem wrap_length (pre post : Line) (put : List Line) : (wrap pre put post).length = max 1 put.length := by
  match put with
  | [] => simp [wrap]
  | [p] => simp [wrap]
  | p0 :: p1 :: ps => simp [wrap]

theorem wrap_cons (pre post p : Line) (ps : List Line) :
    wrap pre (p :: ps) post = ((pre ++ p) :: ps).dropLast ++ [lastLine ((pre ++ p) :: ps) ++ post] := by
  cases ps <;> simp [wrap, lastLine]

theorem lastLine_attach (pre p : Line) (ps : List Line) :
    lastLine ((pre ++ p) :: ps) = (if (p :: ps).length = 1 then pre else []) ++ lastLine (p :: ps) := by
  cases ps <;> simp [lastLine]

theorem flat_wrap (A : List Line) (pre post : Line) (put : List Line) (R : List Line) (h : put ≠ []) :
    flat (A ++ wrap pre put post ++ R) = flat (A ++ [pre]) ++ flat put ++ post ++ flatTail R := by
  obtain ⟨p, ps, rfl⟩ := List.exists_cons_of_ne_nil h
  have e : A ++ wrap pre (p :: ps) post ++ R
      = (A ++ ((pre ++ p) :: ps).dropLast) ++ (lastLine ((pre ++ p) :: ps) ++ post) :: R := by
    rw [wrap_cons]; simp
  rw [e, flat_cut, List.append_assoc A, dropLast_lastLine _ (by simp), flat_cut, flat_cons]
  simp

theorem putSrc_one (A R : List Line) (l : Line) (put : List Line) (col endCol : Nat) :
    putSrc (A ++ l :: R) put A.length col A.length endCol = A ++ wrap (l.take col) put (l.drop endCol) ++ R := by
  match put with
  | [] =>
    simp only [putSrc, delSrc, wrap, lineAt_mid _ _ _ rfl, bne_self_eq_false, Bool.false_eq_true, if_false]
    split
    · simp
    · next hc =>
      have hc : endCol = col := by simpa using hc
      rw [hc, List.take_append_drop]; simp
  | [p] => simp [putSrc, wrap, lineAt]
  | p0 :: p1 :: ps =>
    simp only [putSrc, wrap, lineAt_mid _ _ _ rfl, beq_self_eq_true, if_true, sliceAssign_of_le _ _ (Nat.le_refl _)]
    have := set_last_append (p1 :: ps) R (lastLine (p1 :: ps) ++ l.drop endCol) (by simp)
    simpa [List.take_length_add_append, List.drop_length_add_append, Nat.add_assoc] using this

theorem putSrc_many (A M R : List Line) (l e : Line) (put : List Line) (col endCol : Nat) :
    putSrc ((A ++ l :: M) ++ e :: R) put A.length col (A ++ l :: M).length endCol
      = A ++ wrap (l.take col) put (e.drop endCol) ++ R := by
  have hlt : A.length < (A ++ l :: M).length := by simp
  have hne : ((A ++ l :: M).length == A.length) = false := by simp
  have hd : ((A ++ l :: M) ++ e :: R).drop ((A ++ l :: M).length + 1) = R := by
    rw [List.drop_length_add_append]; rfl
  match put with
  | [] =>
    simp only [putSrc, delSrc, bne, hne, Bool.not_false, if_true, wrap,
      sliceAssign_of_le _ _ (Nat.le_succ_of_le (Nat.le_of_lt hlt)), hd]
    simp [lineAt]
  | [p] =>
    simp only [putSrc, hne, wrap, sliceAssign_of_le _ _ (Nat.le_succ_of_le (Nat.le_of_lt hlt)), hd]
    simp [lineAt]
  | p0 :: p1 :: ps =>
    simp only [putSrc, hne, wrap, sliceAssign_of_le _ _ hlt]
    simp [lineAt, middle, List.take_length_add_append]

theorem putSrc_normal (L put : List Line) (ln col endLn endCol : Nat) (h : ValidSpan L ln col endLn endCol) :
    putSrc L put ln col endLn endCol = L.take ln ++ spliceMiddle L put ln col endLn endCol ++ L.drop (endLn + 1) := by
  have hle := h.hle; have hend := h.hend
  have hA : (L.take ln).length = ln := List.length_take_of_le (by omega)
  unfold spliceMiddle
  rcases Nat.eq_or_lt_of_le hle with rfl | hlt
  · have := putSrc_one (L.take ln) (L.drop (ln + 1)) (lineAt L ln) put col endCol
    rwa [hA, ← split_at hend] at this
  · -- `L.take endLn` is cut once more, at line `ln`
    have hB : L.take ln ++ lineAt L ln :: (L.take endLn).drop (ln + 1) = L.take endLn := by
      have := split_at (L := L.take endLn) (i := ln) (by rw [List.length_take_of_le (by omega)]; exact hlt)
      rwa [List.take_take, Nat.min_eq_left hle, lineAt_take L hlt, eq_comm] at this
    have := putSrc_many (L.take ln) ((L.take endLn).drop (ln + 1)) (L.drop (endLn + 1)) (lineAt L ln) (lineAt L endLn)
      put col endCol
    rwa [hB, ← split_at hend, hA, List.length_take_of_le (by omega)] at this

/-- deleting (`src` falsy) is putting one empty line -/
theorem putSrc_nil (L : List Line) (ln col endLn endCol : Nat) (h : ValidSpan L ln col endLn endCol) :
    putSrc L [] ln col endLn endCol = putSrc L [[]] ln col endLn endCol := by
  rw [putSrc_normal L [] _ _ _ _ h, putSrc_normal L [[]] _ _ _ _ h]; simp [spliceMiddle, wrap]

theorem putSrc_length (L put : List Line) (ln col endLn endCol : Nat) (h : ValidSpan L ln col endLn endCol) :
    (putSrc L put ln col endLn endCol).length + (endLn - ln) + 1 = L.length + max 1 put.length := by
  rw [putSrc_normal L put ln col endLn endCol h, spliceMiddle]
  have := h.hle; have := h.hend
  simp [wrap_length]; omega

theorem flat_split (L : List Line) (l c : Nat) (h : l < L.length) :
    flat L = flat (L.take l ++ [(lineAt L l).take c]) ++ ((lineAt L l).drop c ++ flatTail (L.drop (l + 1))) := by
  have := flat_cut (L.take l) (L.drop (l + 1)) ((lineAt L l).take c) ((lineAt L l).drop c)
  rwa [List.take_append_drop, ← split_at h] at this

theorem take_off (L : List Line) (l c : Nat) (h : l < L.length) :
    (flat L).take (off L l c) = flat (L.take l ++ [(lineAt L l).take c]) := by
  rw [flat_split L l c h]; exact List.take_left' rfl

theorem drop_off (L : List Line) (l c : Nat) (h : l < L.length) :
    (flat L).drop (off L l c) = (lineAt L l).drop c ++ flatTail (L.drop (l + 1)) := by
  rw [flat_split L l c h]; exact List.drop_left' rfl

theorem off_congr {L L' : List Line} {l c : Nat} (h1 : L'.take l = L.take l)
    (h2 : (lineAt L' l).take c = (lineAt L l).take c) : off L' l c = off L l c := by
  unfold off; rw [h1, h2]

theorem off_add_rest (L : List Line) (l c : Nat) (h : l < L.length) :
    off L l c + (((lineAt L l).drop c).length + (flatTail (L.drop (l + 1))).length) = (flat L).length := by
  have := congrArg List.length (flat_split L l c h)
  rw [List.length_append, List.length_append] at this
  exact this.symm

theorem off_congr_rest {L L' : List Line} {l c l' c' : Nat} (hl : l < L.length) (hl' : l' < L'.length)
    (h1 : L'.drop (l' + 1) = L.drop (l + 1)) (h2 : (lineAt L' l').drop c' = (lineAt L l).drop c) :
    off L' l' c' + (flat L).length = off L l c + (flat L').length := by
  have h := off_add_rest L l c hl
  have h' := off_add_rest L' l' c' hl'
  rw [h1, h2] at h'
  omega

theorem off_le_length (L : List Line) (l c : Nat) (h : l < L.length) : off L l c ≤ (flat L).length :=
  Nat.le.intro (off_add_rest L l c h)

theorem putSrc_flat (L put : List Line) (ln col endLn endCol : Nat) (h : ValidSpan L ln col endLn endCol)
    (hp : put ≠ []) :
    flat (putSrc L put ln col endLn endCol)
      = (flat L).take (off L ln col) ++ flat put ++ (flat L).drop (off L endLn endCol) := by
  rw [putSrc_normal L put ln col endLn endCol h, take_off L ln col (by have := h.hle; have := h.hend; omega),
    drop_off L endLn endCol h.hend, spliceMiddle, flat_wrap _ _ _ _ _ hp]
  simp

theorem off_eq (L : List Line) (l c : Nat) : off L l c = lineStart L l + min c (lineAt L l).length := by
  simp [off, lineStart, length_flat_snoc]

theorem lineStart_eq_flatTail (L : List Line) (l : Nat) : lineStart L l = (flatTail (L.take l)).length := by
  simp [lineStart, length_flatTail]

theorem lineStart_append_left (X Y : List Line) (l : Nat) (h : l ≤ X.length) : lineStart (X ++ Y) l = lineStart X l := by
  simp [lineStart, List.take_append_of_le_length h]

theorem lineStart_append_right (X Y : List Line) (k : Nat) :
    lineStart (X ++ Y) (X.length + k) = (flatTail X).length + lineStart Y k := by
  simp [lineStart, List.take_length_add_append, length_flatTail]

theorem off_append_left (X Y : List Line) (l c : Nat) (h : l < X.length) : off (X ++ Y) l c = off X l c := by
  rw [off_eq, off_eq, lineAt_append_left X Y l h, lineStart_append_left X Y l (by omega)]

theorem off_append_right (X Y : List Line) (k c : Nat) :
    off (X ++ Y) (X.length + k) c = (flatTail X).length + off Y k c := by
  rw [off_eq, off_eq, lineAt_append_right, lineStart_append_right]; omega

theorem off_cons (x : Line) (Y : List Line) (l c : Nat) : off (x :: Y) (l + 1) c = x.length + 1 + off Y l c := by
  have := off_append_right [x] Y l c
  rw [List.length_singleton, Nat.add_comm 1 l] at this
  rw [← List.singleton_append, this]; simp

theorem off_zero (x : Line) (Y : List Line) (c : Nat) : off (x :: Y) 0 c = min c x.length := by
  simp [off_eq, lineStart, lineAt]

theorem lineStart_succ (L : List Line) (l : Nat) (h : l < L.length) :
    lineStart L (l + 1) = lineStart L l + (lineAt L l).length + 1 := by
  rw [lineStart_eq_flatTail, lineStart_eq_flatTail, List.take_succ_eq_append_getElem h, flatTail_append, lineAt_eq h]
  simp; omega

theorem lineStart_mono (L : List Line) (a b : Nat) (h : a ≤ b) : lineStart L a ≤ lineStart L b := by
  obtain ⟨k, rfl⟩ := Nat.exists_eq_add_of_le h
  rw [lineStart_eq_flatTail, lineStart_eq_flatTail, List.take_add, flatTail_append, List.length_append]
  omega

theorem off_mono (L : List Line) (l1 c1 l2 c2 : Nat) (h : le2 l1 c1 l2 c2) (hc : c2 ≤ (lineAt L l2).length) :
    off L l1 c1 ≤ off L l2 c2 := by
  rw [off_eq, off_eq]
  rcases h with h | ⟨h, h'⟩
  · by_cases ha : l1 < L.length
    · have := lineStart_mono L (l1 + 1) l2 (by omega)
      rw [lineStart_succ L l1 ha] at this; omega
    · have := lineStart_mono L l1 l2 (by omega)
      rw [lineAt_of_length_le (by omega : L.length ≤ l1)]; simp only [List.length_nil, Nat.min_zero]; omega
  · subst h; omega

theorem le2_trans {a b c d e f : Nat} (h1 : le2 a b c d) (h2 : le2 c d e f) : le2 a b e f := by
  unfold le2 at *; omega

theorem le2_line {a b c d : Nat} (h : le2 a b c d) : a ≤ c := by unfold le2 at h; omega

theorem putSrc_line_before (L put : List Line) (ln col endLn endCol : Nat) (h : ValidSpan L ln col endLn endCol)
    (i : Nat) (hi : i < ln) : (putSrc L put ln col endLn endCol)[i]? = L[i]? := by
  have := h.hle; have := h.hend
  rw [putSrc_normal L put ln col endLn endCol h, List.append_assoc,
    List.getElem?_append_left (by simp; omega), List.getElem?_take_of_lt hi]

theorem putSrc_drop_after (L put : List Line) (ln col endLn endCol : Nat) (h : ValidSpan L ln col endLn endCol)
    (hp : put ≠ []) (i : Nat) (hi : endLn < i) :
    (putSrc L put ln col endLn endCol).drop (shiftLn put ln endLn i) = L.drop i := by
  have := h.hle; have := h.hend
  have hpl : 0 < put.length := List.length_pos_iff.mpr hp
  have hk : shiftLn put ln endLn i
      = (L.take ln ++ spliceMiddle L put ln col endLn endCol).length + (i - (endLn + 1)) := by
    simp [spliceMiddle, wrap_length, shiftLn]; omega
  rw [putSrc_normal L put ln col endLn endCol h, hk, List.drop_length_add_append, List.drop_drop]
  congr 1; omega

theorem putSrc_line_after (L put : List Line) (ln col endLn endCol : Nat) (h : ValidSpan L ln col endLn endCol)
    (hp : put ≠ []) (i : Nat) (hi : endLn < i) :
    (putSrc L put ln col endLn endCol)[shiftLn put ln endLn i]? = L[i]? := by
  have := congrArg (·[0]?) (putSrc_drop_after L put ln col endLn endCol h hp i hi)
  simpa only [List.getElem?_drop, Nat.add_zero] using this

theorem lineAt_putSrc_first (L put : List Line) (ln col endLn endCol : Nat) (h : ValidSpan L ln col endLn endCol) :
    ∃ s, lineAt (putSrc L put ln col endLn endCol) ln = (lineAt L ln).take col ++ (lineAt put 0 ++ s) := by
  have hA : ln = (L.take ln).length := (List.length_take_of_le (by have := h.hle; have := h.hend; omega)).symm
  rw [putSrc_normal L put ln col endLn endCol h, spliceMiddle, List.append_assoc]
  match put with
  | [] => exact ⟨(lineAt L endLn).drop endCol, by rw [wrap, List.cons_append, lineAt_mid _ _ _ hA]; rfl⟩
  | [p] => exact ⟨(lineAt L endLn).drop endCol, by rw [wrap, List.cons_append, lineAt_mid _ _ _ hA, List.append_assoc]; rfl⟩
  | p0 :: p1 :: ps => exact ⟨[], by rw [wrap, List.cons_append, lineAt_mid _ _ _ hA, List.append_nil]; rfl⟩

theorem lineAt_putSrc_last (L : List Line) (p : Line) (ps : List Line) (ln col endLn endCol : Nat)
    (h : ValidSpan L ln col endLn endCol) :
    lineAt (putSrc L (p :: ps) ln col endLn endCol) (shiftLn (p :: ps) ln endLn endLn)
      = (if (p :: ps).length = 1 then (lineAt L ln).take col else []) ++ lastLine (p :: ps)
        ++ (lineAt L endLn).drop endCol := by
  have hle := h.hle; have hend := h.hend
  rw [putSrc_normal L _ ln col endLn endCol h, spliceMiddle, wrap_cons, ← lastLine_attach, ← List.append_assoc,
    List.append_assoc _ [_]]
  exact lineAt_mid _ _ _ (by simp [shiftLn]; omega)

/-- the new column of a point on line `endLn`: behind what `lineAt_putSrc_last` puts in front of the kept end -/
theorem shiftCol_last (L : List Line) (p : Line) (ps : List Line) (ln col endLn endCol k : Nat)
    (hcol : col ≤ (lineAt L ln).length) :
    shiftCol (p :: ps) col endLn endCol endLn (endCol + k)
      = ((if (p :: ps).length = 1 then (lineAt L ln).take col else []) ++ lastLine (p :: ps)).length + k := by
  rw [shiftCol, if_pos rfl]; split <;> simp <;> omega

theorem off_putSrc_before (L put : List Line) (ln col endLn endCol : Nat) (h : ValidSpan L ln col endLn endCol)
    (l c : Nat) (hb : le2 l c ln col) : off (putSrc L put ln col endLn endCol) l c = off L l c := by
  have hle := h.hle; have hend := h.hend
  have hl := le2_line hb
  apply off_congr
  · rw [putSrc_normal L put ln col endLn endCol h, List.append_assoc, List.take_append_of_le_length (by simp; omega),
      List.take_take, Nat.min_eq_left hl]
  · rcases hb with hb | ⟨rfl, hc⟩
    · simp only [lineAt, List.getD_eq_getElem?_getD, putSrc_line_before L put ln col endLn endCol h l hb]
    · obtain ⟨s, hs⟩ := lineAt_putSrc_first L put l col endLn endCol h
      rw [hs, List.take_append_of_le_length (by simp; have := h.hcol; omega), List.take_take, Nat.min_eq_left hc]

theorem off_putSrc_after (L put : List Line) (ln col endLn endCol : Nat) (h : ValidSpan L ln col endLn endCol)
    (hp : put ≠ []) (l c : Nat) (hb : le2 endLn endCol l c) (hl : l < L.length) :
    off (putSrc L put ln col endLn endCol) (shiftLn put ln endLn l) (shiftCol put col endLn endCol l c)
        + off L endLn endCol
      = off L l c + off L ln col + (flat put).length := by
  -- what lies behind the point is the same in the old and in the new document
  have key : off (putSrc L put ln col endLn endCol) (shiftLn put ln endLn l) (shiftCol put col endLn endCol l c)
      + (flat L).length = off L l c + (flat (putSrc L put ln col endLn endCol)).length := by
    have hle := h.hle; have hend := h.hend
    have hel := le2_line hb
    have hpl : 0 < put.length := List.length_pos_iff.mpr hp
    have hlen := putSrc_length L put ln col endLn endCol h
    refine off_congr_rest hl (by unfold shiftLn; omega) ?_ ?_
    · have : shiftLn put ln endLn l + 1 = shiftLn put ln endLn (l + 1) := by unfold shiftLn; omega
      rw [this]; exact putSrc_drop_after L put ln col endLn endCol h hp (l + 1) (by omega)
    · rcases hb with hb | ⟨rfl, hcc⟩
      · have := putSrc_line_after L put ln col endLn endCol h hp l hb
        rw [shiftCol, if_neg (by omega)]
        simp only [lineAt, List.getD_eq_getElem?_getD, this]
      · obtain ⟨p, ps, rfl⟩ := List.exists_cons_of_ne_nil hp
        obtain ⟨k, rfl⟩ := Nat.exists_eq_add_of_le hcc
        rw [lineAt_putSrc_last L p ps ln col endLn endCol h, shiftCol_last L p ps ln col endLn endCol k h.hcol,
          List.drop_length_add_append, List.drop_drop]
  have hF := congrArg List.length (putSrc_flat L put ln col endLn endCol h hp)
  have hs := off_mono L ln col endLn endCol h.hord h.hecol
  have he := off_le_length L endLn endCol h.hend
  rw [List.length_append, List.length_append, List.length_take_of_le (Nat.le_trans hs he), List.length_drop] at hF
  omega

theorem off_snoc_append (D : List Line) (x y : Line) (l c : Nat) (hl : l ≤ D.length)
    (hc : c ≤ (lineAt (D ++ [x]) l).length) : off (D ++ [x ++ y]) l c = off (D ++ [x]) l c := by
  rcases Nat.lt_or_ge l D.length with hl | hl
  · rw [off_append_left _ _ _ _ hl, off_append_left _ _ _ _ hl]
  · obtain rfl : l = D.length + 0 := by omega
    rw [lineAt_append_right] at hc
    rw [off_append_right, off_append_right, off_zero, off_zero]
    simp [lineAt] at hc ⊢; omega

theorem wrap_off (pre post : Line) (put : List Line) (l c : Nat) (hl : l < put.length) (hc : c ≤ (lineAt put l).length) :
    off (wrap pre put post) l (placeCol pre.length l c) = pre.length + off put l c := by
  obtain ⟨p, ps, rfl⟩ := List.exists_cons_of_ne_nil (by intro e; simp [e] at hl : put ≠ [])
  have hc' : placeCol pre.length l c ≤ (lineAt ((pre ++ p) :: ps) l).length := by
    cases l <;> simp_all [placeCol, lineAt]
  have hW := dropLast_lastLine ((pre ++ p) :: ps) (by simp)
  rw [wrap_cons, off_snoc_append _ _ _ _ _ (by simp at hl ⊢; omega) (by rw [hW]; exact hc'), hW]
  cases l with
  | zero => simp [placeCol, off_zero, lineAt] at hc ⊢
  | succ l => simp [placeCol, off_cons]; omega

theorem off_putSrc_placed (L put : List Line) (ln col endLn endCol : Nat) (h : ValidSpan L ln col endLn endCol)
    (l c : Nat) (hl : l < put.length) (hc : c ≤ (lineAt put l).length) :
    off (putSrc L put ln col endLn endCol) (placeLn ln l) (placeCol col l c) = off L ln col + off put l c := by
  have hle := h.hle; have hend := h.hend; have hcol := h.hcol
  have hA : (L.take ln).length = ln := List.length_take_of_le (by omega)
  have hpre : ((lineAt L ln).take col).length = col := List.length_take_of_le hcol
  have h2 := wrap_off ((lineAt L ln).take col) ((lineAt L endLn).drop endCol) put l c hl hc
  rw [hpre] at h2
  rw [putSrc_normal L put ln col endLn endCol h, spliceMiddle, List.append_assoc, placeLn]
  conv => lhs; arg 2; rw [← hA]
  rw [off_append_right, off_append_left _ _ _ _ (by rw [wrap_length]; omega), h2, off_eq L ln col,
    Nat.min_eq_left hcol, lineStart_eq_flatTail]
  omega

theorem getFlat_before (L put : List Line) (ln col endLn endCol : Nat) (h : ValidSpan L ln col endLn endCol)
    (hp : put ≠ []) (l1 c1 l2 c2 : Nat) (h12 : le2 l1 c1 l2 c2) (h2 : le2 l2 c2 ln col) :
    getFlat (putSrc L put ln col endLn endCol) l1 c1 l2 c2 = getFlat L l1 c1 l2 c2 := by
  have hln : ln < L.length := by have := h.hle; have := h.hend; omega
  unfold getFlat
  rw [putSrc_flat L put ln col endLn endCol h hp,
    off_putSrc_before L put ln col endLn endCol h l1 c1 (le2_trans h12 h2),
    off_putSrc_before L put ln col endLn endCol h l2 c2 h2]
  exact splice_before _ _ _ _ _ _ (off_le_length L ln col hln) (off_mono L l2 c2 ln col h2 h.hcol)

theorem getFlat_after (L put : List Line) (ln col endLn endCol : Nat) (h : ValidSpan L ln col endLn endCol)
    (hp : put ≠ []) (l1 c1 l2 c2 : Nat) (h1 : le2 endLn endCol l1 c1) (h12 : le2 l1 c1 l2 c2)
    (hl2 : l2 < L.length) (hc1 : c1 ≤ (lineAt L l1).length) (hc2 : c2 ≤ (lineAt L l2).length) :
    getFlat (putSrc L put ln col endLn endCol) (shiftLn put ln endLn l1) (shiftCol put col endLn endCol l1 c1)
        (shiftLn put ln endLn l2) (shiftCol put col endLn endCol l2 c2)
      = getFlat L l1 c1 l2 c2 := by
  have hl1 : l1 < L.length := by have := le2_line h12; omega
  unfold getFlat
  rw [putSrc_flat L put ln col endLn endCol h hp]
  exact splice_after _ _ _ _ _ _ _ _ (off_mono L ln col endLn endCol h.hord h.hecol)
    (off_le_length L endLn endCol h.hend) (off_mono L _ _ _ _ h1 hc1) (off_mono L _ _ _ _ h12 hc2)
    (off_putSrc_after L put ln col endLn endCol h hp l1 c1 h1 hl1)
    (off_putSrc_after L put ln col endLn endCol h hp l2 c2 (le2_trans h1 h12) hl2)

theorem getFlat_container (L put : List Line) (ln col endLn endCol : Nat) (h : ValidSpan L ln col endLn endCol)
    (hp : put ≠ []) (l1 c1 l2 c2 : Nat) (h1 : le2 l1 c1 ln col) (h2 : le2 endLn endCol l2 c2)
    (hl2 : l2 < L.length) (hc2 : c2 ≤ (lineAt L l2).length) :
    getFlat (putSrc L put ln col endLn endCol) l1 c1 (shiftLn put ln endLn l2) (shiftCol put col endLn endCol l2 c2)
      = getFlat L l1 c1 ln col ++ flat put ++ getFlat L endLn endCol l2 c2 := by
  unfold getFlat
  rw [putSrc_flat L put ln col endLn endCol h hp, off_putSrc_before L put ln col endLn endCol h l1 c1 h1]
  exact splice_container _ _ _ _ _ _ _ (off_mono L ln col endLn endCol h.hord h.hecol)
    (off_le_length L endLn endCol h.hend) (off_mono L _ _ _ _ h1 h.hcol) (off_mono L _ _ _ _ h2 hc2)
    (off_putSrc_after L put ln col endLn endCol h hp l2 c2 h2 hl2)

/-- `'\n'.join(_get_src(...))` is the flat text between the two points. -/
theorem getSrc_flat (L : List Line) (l1 c1 l2 c2 : Nat) (h12 : le2 l1 c1 l2 c2) (h2 : l2 < L.length) :
    flat (getSrc L l1 c1 l2 c2) = getFlat L l1 c1 l2 c2 := by
  -- the text up to the end point is the flat text of `L2`, in which the start point lies where it lay in `L`
  unfold getFlat
  rw [← List.drop_take, take_off L l2 c2 h2]
  have hle := le2_line h12
  have hlen : (L.take l2).length = l2 := List.length_take_of_le (by omega)
  generalize hL2 : L.take l2 ++ [(lineAt L l2).take c2] = L2
  have hL2len : L2.length = l2 + 1 := by rw [← hL2]; simp [hlen]
  have hline : lineAt L2 l1 = if l1 = l2 then (lineAt L l2).take c2 else lineAt L l1 := by
    subst hL2; split
    · next e => exact lineAt_mid _ _ _ (by rw [hlen, e])
    · next e =>
      rw [lineAt_append_left _ _ _ (by omega), lineAt_take L (by omega)]
  have ho : off L l1 c1 = off L2 l1 c1 := by
    symm; apply off_congr
    · rw [← hL2, List.take_append_of_le_length (by omega), List.take_take, Nat.min_eq_left hle]
    · rw [hline]; split
      · next e =>
        subst e
        have : c1 ≤ c2 := by unfold le2 at h12; omega
        rw [List.take_take, Nat.min_eq_left this]
      · rfl
  rw [ho, drop_off L2 l1 c1 (by omega), hline]
  by_cases he : l1 = l2
  · subst he
    simp [getSrc, List.drop_of_length_le (by omega : L2.length ≤ l1 + 1), flat]
  · have hd : L2.drop (l1 + 1) = (L.take l2).drop (l1 + 1) ++ [(lineAt L l2).take c2] := by
      rw [← hL2, List.drop_append_of_le_length (by omega)]
    simp [getSrc, he, Ne.symm he, hd, flat, flatTail_append]

theorem utf8Len_append (a b : Line) : utf8Len (a ++ b) = utf8Len a + utf8Len b := by
  simp [utf8Len, List.map_append, List.sum_append]

theorem c2b_length (a : Line) : c2b a a.length = utf8Len a := by simp [c2b]

theorem c2b_zero (a : Line) : c2b a 0 = 0 := by simp [c2b, utf8Len]

theorem c2b_add (l : Line) (a k : Nat) : c2b l (a + k) = c2b l a + c2b (l.drop a) k := by
  simp [c2b, List.take_add, utf8Len_append]

theorem c2b_append (a b : Line) (k : Nat) : c2b (a ++ b) (a.length + k) = c2b a a.length + c2b b k := by
  simp [c2b, List.take_length_add_append, utf8Len_append]

theorem c2b_append_left (a b : Line) (k : Nat) (h : k ≤ a.length) : c2b (a ++ b) k = c2b a k := by
  simp [c2b, List.take_append_of_le_length h]

theorem c2b_mono (l : Line) (c d : Nat) (h : c ≤ d) : c2b l c ≤ c2b l d := by
  obtain ⟨k, rfl⟩ := Nat.exists_eq_add_of_le h
  rw [c2b_add]; omega

theorem utf8Len_ge (l : Line) : l.length ≤ utf8Len l := by
  induction l with
  | nil => simp [utf8Len]
  | cons ch l ih =>
    have := Char.utf8Size_pos ch
    simp only [utf8Len, List.map_cons, List.sum_cons, List.length_cons] at *
    omega

theorem c2b_ge (l : Line) (c : Nat) (h : c ≤ l.length) : c ≤ c2b l c := by
  have := utf8Len_ge (l.take c)
  simp only [List.length_take] at this
  unfold c2b; omega

theorem b2c_c2b (l : Line) (c : Nat) (h : c ≤ l.length) : b2c l (c2b l c) = c := by
  induction l generalizing c with
  | nil => simp at h; subst h; simp [b2c]
  | cons ch l ih =>
    cases c with
    | zero =>
      have := Char.utf8Size_pos ch
      simp [c2b, utf8Len, b2c]; omega
    | succ c =>
      have e : c2b (ch :: l) (c + 1) = ch.utf8Size + c2b l c := by simp [c2b, utf8Len]
      rw [e, b2c, if_pos (by omega), Nat.add_sub_cancel_left, ih c (by simpa using h)]

/-- the model of `_params_offset` on lines is `Pfst.Offset.paramsOffset` applied to the three byte lengths -/
theorem paramsOffsetBytes_eq (L put : List Line) (ln col endLn endCol : Nat) :
    let r := Pfst.Offset.paramsOffset put.length ln endLn (c2b (lineAt L endLn) endCol) (utf8Len (lastLine put))
      (c2b (lineAt L ln) col)
    paramsOffsetBytes L put ln col endLn endCol = (endLn, r.2.1, r.2.2.1, r.2.2.2) := by
  simp [paramsOffsetBytes, Pfst.Offset.paramsOffset]

/-- **Byte/char bridge for `_params_offset`**: for a character column `c` at or after the end of the replaced span on
its last line, the byte column of the same character in the new line is the old byte column plus the byte `dcol_offset`
that `_params_offset` computes; the new character column is `shiftCol`. -/
theorem dcol_bytes (L put : List Line) (ln col endLn endCol : Nat) (h : ValidSpan L ln col endLn endCol)
    (hp : put ≠ []) (c : Nat) (hc1 : endCol ≤ c) :
    (c2b (lineAt (putSrc L put ln col endLn endCol) (shiftLn put ln endLn endLn))
        (shiftCol put col endLn endCol endLn c) : Int)
      = (c2b (lineAt L endLn) c : Int) + (paramsOffsetBytes L put ln col endLn endCol).2.2.2 := by
  have hcol := h.hcol
  obtain ⟨p, ps, rfl⟩ := List.exists_cons_of_ne_nil hp
  obtain ⟨k, rfl⟩ := Nat.exists_eq_add_of_le hc1
  -- the new line is `w ++ old[endCol:]`, the new column `|w| + k`
  rw [lineAt_putSrc_last L p ps ln col endLn endCol h, c2b_add (lineAt L endLn)]
  generalize hw : (if (p :: ps).length = 1 then (lineAt L ln).take col else []) ++ lastLine (p :: ps) = w
  have hsc := shiftCol_last L p ps ln col endLn endCol k hcol
  rw [hw] at hsc
  have hwb : utf8Len w = utf8Len (lastLine (p :: ps)) + (if (p :: ps).length = 1 then c2b (lineAt L ln) col else 0) := by
    rw [← hw, utf8Len_append]; split <;> simp [c2b, utf8Len]; omega
  rw [hsc, c2b_append, c2b_length, hwb]
  simp only [paramsOffsetBytes]
  cases ps <;> simp <;> omega

end Pfst.Text
