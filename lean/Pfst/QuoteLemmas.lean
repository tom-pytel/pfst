import Pfst.Quote

/-!
Helper lemmas for `Pfst/Props/C08.lean`: the decoder consumes the encoder's output token by token.

Both encoders write one token per character (`Tok`).  `unesc` reads a token back as its character whatever follows
(`Good`, `unesc_flatMap`), `findClose` copies it unless it is the raw quote (`FTok`, `findClose_flatMap`), and newline
normalisation leaves it alone (`cleanB`).  `WellQuoted` is what every output of `repr_str_multiline` satisfies
(`reprMultiline_wq`).
-/
namespace Pfst.Quote

/-- harmless anywhere in a literal body -/
def plainB (h : Char) : Bool := h != BS && h != SQ && h != DQ && h != CR && h != NUL && h != LF

theorem unhex_hexDigit : ∀ n, n < 16 → unhex (hexDigit n) = some n := by decide +kernel
theorem plainB_hexDigit_lt : ∀ n, n < 16 → plainB (hexDigit n) = true := by decide +kernel
theorem unhex_hexDigit_mod (n : Nat) : unhex (hexDigit (n % 16)) = some (n % 16) :=
  unhex_hexDigit _ (Nat.mod_lt _ (by decide))

theorem charOf_toNat (c : Char) : charOf c.toNat = some c := by
  have hv := c.valid
  simp only [UInt32.isValidChar, Nat.isValidChar] at hv
  have : c.toNat = c.val.toNat := rfl
  unfold charOf
  rw [if_pos (by simp only [Bool.or_eq_true, Bool.and_eq_true, decide_eq_true_eq]; omega), Char.ofNat_toNat]

def Good (e : List Char) (c : Char) : Prop := ∀ rest, unesc .body (e ++ rest) = consO c (unesc .body rest)

theorem good_raw {c : Char} (h1 : c ≠ BS) (h2 : c ≠ NUL) : Good [c] c := by intro rest; simp [unesc, h1, h2]

theorem good_bs : Good [BS, BS] BS := by intro rest; simp [unesc]
theorem good_quote {q : Char} (hq : q = SQ ∨ q = DQ) : Good [BS, q] q := by
  intro rest; rcases hq with rfl | rfl <;> simp [unesc]
theorem good_n : Good [BS, 'n'] LF := by intro rest; simp (decide := true) [unesc]
theorem good_r : Good [BS, 'r'] CR := by intro rest; simp (decide := true) [unesc]
theorem good_t : Good [BS, 't'] TAB := by intro rest; simp (decide := true) [unesc]

/-- `findClose` after it has copied `l` -/
def pre (l : List Char) (o : Option (List Char × List Char)) : Option (List Char × List Char) :=
  o.map (fun p => (l ++ p.1, p.2))

theorem pre_nil (o) : pre [] o = o := by cases o <;> simp [pre]
theorem pre_pre (l1 l2 o) : pre l1 (pre l2 o) = pre (l1 ++ l2) o := by cases o <;> simp [pre]

theorem findClose_esc (q d : Char) (rest : List Char) :
    findClose q false (BS :: d :: rest) = pre [BS, d] (findClose q false rest) := by
  cases h : findClose q false rest <;> simp [findClose, pre, h]

theorem findClose_raw {q c : Char} (h1 : c ≠ BS) (h2 : c ≠ q) (rest : List Char) :
    findClose q false (c :: rest) = pre [c] (findClose q false rest) := by
  simp [findClose, h1, h2, pre]

theorem findClose_q {q : Char} (h1 : q ≠ BS) (rest : List Char) (h : startsQQ q rest = false) :
    findClose q false (q :: rest) = pre [q] (findClose q false rest) := by
  simp [findClose, h1, h, pre]

theorem plainB_ne {h x : Char} (hp : plainB h = true) (hx : x ∈ [BS, SQ, DQ, CR, NUL, LF]) : h ≠ x := by
  rintro rfl
  simp only [List.mem_cons, List.not_mem_nil, or_false] at hx
  rcases hx with rfl | rfl | rfl | rfl | rfl | rfl <;> exact absurd hp (by decide)

theorem findClose_plain {q : Char} (hq : q = SQ ∨ q = DQ) (l rest : List Char) (hl : l.all plainB = true) :
    findClose q false (l ++ rest) = pre l (findClose q false rest) := by
  induction l with
  | nil => simp [pre_nil]
  | cons c l ih =>
    simp only [List.all_cons, Bool.and_eq_true] at hl
    have hne : c ≠ q := by rcases hq with rfl | rfl <;> exact plainB_ne hl.1 (by decide)
    rw [List.cons_append, findClose_raw (plainB_ne hl.1 (by decide)) hne, ih hl.2, pre_pre]; rfl

theorem startsQQ_append {q : Char} (X Y : List Char) (h : 2 ≤ X.length) : startsQQ q (X ++ Y) = startsQQ q X := by
  match X, h with
  | a :: b :: X', _ => rfl

theorem startsQQ_append_true {q : Char} (X Y : List Char) (h : startsQQ q X = true) : startsQQ q (X ++ Y) = true := by
  match X, h with
  | a :: b :: X', h => exact h

theorem hasTriple_mem {q : Char} (l : List Char) (h : hasTriple q l = true) : q ∈ l := by
  induction l with
  | nil => simp [hasTriple] at h
  | cons c l ih =>
    simp only [hasTriple, Bool.or_eq_true, Bool.and_eq_true, beq_iff_eq] at h
    rcases h with ⟨rfl, _⟩ | h
    · simp
    · exact List.mem_cons_of_mem _ (ih h)

theorem hasTriple_suffix {q : Char} (l X : List Char) (h : hasTriple q (l ++ X) = false) : hasTriple q X = false := by
  induction l with
  | nil => exact h
  | cons c l ih =>
    simp only [List.cons_append, hasTriple, Bool.or_eq_false_iff] at h
    exact ih h.2

theorem hasTriple_prefix {q : Char} (X Y : List Char) (h : hasTriple q (X ++ Y) = false) : hasTriple q X = false := by
  induction X with
  | nil => rfl
  | cons c X ih =>
    simp only [List.cons_append, hasTriple, Bool.or_eq_false_iff] at h ⊢
    refine ⟨?_, ih h.2⟩
    cases hs : startsQQ q X with
    | false => simp
    | true => rw [startsQQ_append_true X Y hs] at h; exact h.1

theorem hasTriple_sep {q c : Char} (hc : c ≠ q) (X Y : List Char) :
    hasTriple q (X ++ c :: Y) = (hasTriple q X || hasTriple q (c :: Y)) := by
  induction X with
  | nil => simp [hasTriple]
  | cons a X ih =>
    have hs : startsQQ q (X ++ c :: Y) = startsQQ q X := by
      match X with
      | [] => cases Y <;> simp [startsQQ, hc]
      | [x] => simp [startsQQ, hc]
      | x :: y :: X' => rfl
    simp only [List.cons_append, hasTriple, ih, hs, Bool.or_assoc]

theorem hasTriple_two {q : Char} (X : List Char) (h : hasTriple q X = false) (hl : X.getLast? ≠ some q) :
    hasTriple q (X ++ [q, q]) = false := by
  rcases List.eq_nil_or_concat X with rfl | ⟨Y, c, rfl⟩
  · simp [hasTriple, startsQQ]
  · have hc : c ≠ q := by simpa using hl
    rw [List.concat_eq_append] at h ⊢
    rw [List.append_assoc, List.singleton_append, hasTriple_sep hc, hasTriple_prefix _ _ h]
    simp [hasTriple, startsQQ, hc]

theorem unesc_flatMap (enc : Char → List Char) (hg : ∀ c, Good (enc c) c) (s rest : List Char) :
    unesc .body (s.flatMap enc ++ rest) = (unesc .body rest).map (s ++ ·) := by
  induction s with
  | nil => cases h : unesc .body rest <;> simp [h]
  | cons c s ih =>
    rw [List.flatMap_cons, List.append_assoc, hg c, ih]
    cases h : unesc .body rest <;> simp [consO]

/-- how `findClose` gets over one token: unless it is the raw quote, it is copied whatever follows -/
def FTok (q : Char) (e : List Char) : Prop :=
  e = [q] ∨ ∀ rest, findClose q false (e ++ rest) = pre e (findClose q false rest)

/-- The tokenizer walks over the whole encoded text.  Only a character written as the raw quote needs care: then no
quote of the text may be followed by two more, `T1` (at least two characters) being the part of the tail that the
look-ahead can reach. -/
theorem findClose_flatMap {q : Char} (hq : q ≠ BS) (enc : Char → List Char) (ht : ∀ c, FTok q (enc c))
    (s T1 T2 : List Char) (h3 : (∃ c ∈ s, enc c = [q]) → hasTriple q (s.flatMap enc ++ T1) = false ∧ 2 ≤ T1.length) :
    findClose q false (s.flatMap enc ++ (T1 ++ T2)) = pre (s.flatMap enc) (findClose q false (T1 ++ T2)) := by
  induction s with
  | nil => simp [pre_nil]
  | cons c s ih =>
    have ih' := ih fun ⟨c', hc', he⟩ =>
      let ⟨h, h2⟩ := h3 ⟨c', List.mem_cons_of_mem _ hc', he⟩
      ⟨hasTriple_suffix (enc c) _ (by rwa [List.flatMap_cons, List.append_assoc] at h), h2⟩
    rw [List.flatMap_cons, List.append_assoc]
    rcases ht c with he | hf
    · obtain ⟨h, h2⟩ := h3 ⟨c, List.mem_cons_self, he⟩
      rw [List.flatMap_cons, he] at h
      simp only [List.cons_append, List.nil_append, hasTriple, Bool.or_eq_false_iff, beq_self_eq_true,
        Bool.true_and] at h
      have hs' : startsQQ q (s.flatMap enc ++ (T1 ++ T2)) = false := by
        rw [← List.append_assoc, startsQQ_append _ _ (by simp; omega)]; exact h.1
      rw [he, List.singleton_append, findClose_q hq _ hs', ih', pre_pre]
    · rw [hf, ih', pre_pre]

def cleanB (c : Char) : Bool := c != CR && c != NUL

theorem normNL_clean (l : List Char) (h : l.all cleanB = true) : normNL false l = l := by
  induction l with
  | nil => rfl
  | cons c l ih =>
    simp only [List.all_cons, Bool.and_eq_true] at h
    have hc : c ≠ CR := by have := h.1; simp [cleanB] at this; exact this.1
    simp [normNL, hc, ih h.2]

theorem clean_of_plain (l : List Char) (h : l.all plainB = true) : l.all cleanB = true := by
  rw [List.all_eq_true] at h ⊢
  intro x hx
  have h1 : x ≠ CR := plainB_ne (h x hx) (by decide)
  have h2 : x ≠ NUL := plainB_ne (h x hx) (by decide)
  simp [cleanB, h1, h2]

theorem clean_flatMap (enc : Char → List Char) (hc : ∀ c, (enc c).all cleanB = true) (s : List Char) :
    (s.flatMap enc).all cleanB = true := by
  simp [List.all_flatMap, hc]

/-!
Both encoders (`_escape_char` and `repr`) write a character either as itself or as a backslash, a letter and possibly
hexadecimal digits.  Everything the decoder side needs follows from this shape and the set `L` of letters. -/

/-- `e` stands for `c`: raw, or an escape with a letter from `L` that the decoder reads as `c` -/
def Tok (L : List Char) (c : Char) (e : List Char) : Prop :=
  (e = [c] ∧ c ≠ BS ∧ c ≠ NUL ∧ c ≠ CR) ∨
  (∃ d hs, d ∈ L ∧ e = BS :: d :: hs ∧ hs.all plainB = true ∧ Good e c)

theorem Tok.raw {L c} (h1 : c ≠ BS) (h : ¬ c.toNat < 32) : Tok L c [c] :=
  .inl ⟨rfl, h1, fun e => h (e ▸ by decide), fun e => h (e ▸ by decide)⟩

theorem Tok.esc2 {L d c} (hd : d ∈ L) (hg : Good [BS, d] c) : Tok L c [BS, d] := .inr ⟨d, [], hd, rfl, rfl, hg⟩

theorem Tok.mono {L L' c e} (hL : ∀ d ∈ L, d ∈ L') (h : Tok L c e) : Tok L' c e :=
  h.imp_right fun ⟨d, hs, hd, r⟩ => ⟨d, hs, hL d hd, r⟩

theorem Tok.good {L c e} (h : Tok L c e) : Good e c := by
  rcases h with ⟨rfl, h1, h2, _⟩ | ⟨_, _, _, _, _, hg⟩
  · exact good_raw h1 h2
  · exact hg

theorem Tok.ne_nil {L c e} (h : Tok L c e) : e ≠ [] := by
  rcases h with ⟨rfl, _⟩ | ⟨_, _, _, rfl, _⟩ <;> simp

theorem Tok.eq_singleton {L c e x} (h : Tok L c e) (he : e = [x]) : x = c := by
  rcases h with ⟨rfl, _⟩ | ⟨_, _, _, rfl, _⟩
  · exact (List.cons.inj he).1.symm
  · cases he

theorem Tok.clean {L c e} (hL : ∀ d ∈ L, cleanB d = true) (h : Tok L c e) : e.all cleanB = true := by
  rcases h with ⟨rfl, _, h2, h3⟩ | ⟨d, hs, hd, rfl, hp, _⟩
  · simp [cleanB, h2, h3]
  · simp only [List.all_cons, clean_of_plain hs hp, hL d hd, Bool.and_true]; rfl

theorem Tok.ftok {q : Char} (hq : q = SQ ∨ q = DQ) {L c e} (h : Tok L c e) : FTok q e := by
  rcases h with ⟨rfl, h1, _, _⟩ | ⟨d, hs, _, rfl, hp, _⟩
  · by_cases hc : c = q
    · exact .inl (by rw [hc])
    · exact .inr fun rest => findClose_raw h1 hc rest
  · refine .inr fun rest => ?_
    rw [List.cons_append, List.cons_append, findClose_esc, findClose_plain hq hs rest hp, pre_pre]; rfl

theorem Tok.mem {L c e x} (h : Tok L c e) (hx : x ∈ e) (h1 : x ≠ BS) (h2 : x ∉ L) (h3 : plainB x = false) :
    c = x ∧ e = [x] := by
  rcases h with ⟨rfl, _⟩ | ⟨d, hs, hd, rfl, hp, _⟩
  · cases List.mem_singleton.mp hx; exact ⟨rfl, rfl⟩
  · simp only [List.mem_cons] at hx
    rcases hx with rfl | rfl | hx
    · exact absurd rfl h1
    · exact absurd hd h2
    · rw [List.all_eq_true.mp hp x hx] at h3; cases h3

/-- the `k` low hexadecimal digits of `n`, most significant first -/
def hexDigits : Nat → Nat → List Char
  | 0, _ => []
  | k + 1, n => hexDigit (n / 16 ^ k % 16) :: hexDigits k n

theorem hex2_eq (n : Nat) : hex2 n = hexDigits 2 n := by simp [hex2, hexDigits]
theorem hex4_eq (n : Nat) : hex4 n = hexDigits 4 n := by simp [hex4, hexDigits]
theorem hex8_eq (n : Nat) : hex8 n = hexDigits 8 n := by simp [hex8, hexDigits]

theorem hexDigits_plain (k n : Nat) : (hexDigits k n).all plainB = true := by
  induction k with
  | zero => rfl
  | succ k ih => rw [hexDigits, List.all_cons, ih, plainB_hexDigit_lt _ (Nat.mod_lt _ (by decide))]; rfl

theorem unesc_hexDigits (k acc n : Nat) (rest : List Char) :
    unesc (.hex k acc) (hexDigits (k + 1) n ++ rest)
      = (charOf (acc * 16 ^ (k + 1) + n % 16 ^ (k + 1))).bind fun ch => consO ch (unesc .body rest) := by
  induction k generalizing acc with
  | zero => simp [hexDigits, unesc, unhex_hexDigit_mod]
  | succ k ih =>
    rw [hexDigits, List.cons_append, unesc, unhex_hexDigit_mod]
    simp only []
    rw [ih]
    congr 2
    rw [Nat.pow_succ _ (k + 1), Nat.mod_mul, Nat.add_mul, Nat.mul_assoc, Nat.mul_comm 16, Nat.mul_comm (_ % 16)]
    omega

theorem hex_tok {L : List Char} {d : Char} {k : Nat} (hd : d ∈ L)
    (hesc : ∀ r, unesc .esc (d :: r) = unesc (.hex k 0) r) (c : Char) (h : c.toNat < 16 ^ (k + 1)) :
    Tok L c (BS :: d :: hexDigits (k + 1) c.toNat) := by
  refine .inr ⟨d, _, hd, rfl, hexDigits_plain _ _, fun rest => ?_⟩
  have h0 : ∀ r, unesc .body (BS :: r) = unesc .esc r := by intro r; simp [unesc]
  rw [List.cons_append, List.cons_append, h0, hesc, unesc_hexDigits, Nat.zero_mul, Nat.zero_add, Nat.mod_eq_of_lt h,
    charOf_toNat]
  rfl

theorem esc_x (r : List Char) : unesc .esc ('x' :: r) = unesc (.hex 1 0) r := by simp (decide := true) [unesc]
theorem esc_u (r : List Char) : unesc .esc ('u' :: r) = unesc (.hex 3 0) r := by simp (decide := true) [unesc]
theorem esc_U (r : List Char) : unesc .esc ('U' :: r) = unesc (.hex 7 0) r := by simp (decide := true) [unesc]

theorem hexEscape_tok {L : List Char} (hL : 'x' ∈ L ∧ 'u' ∈ L ∧ 'U' ∈ L) (c : Char) : Tok L c (hexEscape c.toNat) := by
  unfold hexEscape
  split
  · exact hex2_eq _ ▸ hex_tok hL.1 esc_x c ‹_›
  · split
    · exact hex4_eq _ ▸ hex_tok hL.2.1 esc_u c ‹_›
    · have hv := c.valid
      simp only [UInt32.isValidChar, Nat.isValidChar] at hv
      exact hex8_eq _ ▸ hex_tok hL.2.2 esc_U c (show c.val.toNat < 16 ^ 8 by omega)

/-- letters after the backslash in the escapes `unicode_escape` produces -/
def lettersEscape : List Char := [BS, 't', 'n', 'r', 'x', 'u', 'U']

theorem unicodeEscape_shape (c : Char) : Tok lettersEscape c (unicodeEscape c) := by
  unfold unicodeEscape
  by_cases h1 : c = BS
  · subst h1; exact .esc2 (by decide) good_bs
  by_cases h2 : c = TAB
  · subst h2; exact .esc2 (by decide) good_t
  by_cases h3 : c = LF
  · subst h3; exact .esc2 (by decide) good_n
  by_cases h4 : c = CR
  · subst h4; exact .esc2 (by decide) good_r
  rw [if_neg (by simpa using h1), if_neg (by simpa using h2), if_neg (by simpa using h3), if_neg (by simpa using h4)]
  split
  · exact hexEscape_tok (by decide) c
  · next h5 =>
    have h5' : ¬ c.toNat < 32 := by
      intro hh; apply h5; simp [hh]
    exact .raw h1 h5'

theorem escapeChar_shape (k : Cls) (hCR : k.printable CR = false) (hNUL : k.printable NUL = false) (c : Char) :
    Tok lettersEscape c (escapeChar k c) := by
  unfold escapeChar
  split
  · next h =>
    have : c = LF ∨ c = TAB := by simpa using h
    rcases this with rfl | rfl
    · exact .inl ⟨rfl, by decide, by decide, by decide⟩
    · exact .inl ⟨rfl, by decide, by decide, by decide⟩
  · split
    · exact unicodeEscape_shape c
    · next h =>
      simp only [Bool.or_eq_true, beq_iff_eq, Bool.not_eq_true', not_or, Bool.not_eq_false] at h
      refine .inl ⟨rfl, h.1, ?_, ?_⟩
      · intro e; subst e; rw [hNUL] at h; exact absurd h.2 (by decide)
      · intro e; subst e; rw [hCR] at h; exact absurd h.2 (by decide)

theorem escapeTok_mem {c x : Char} {e : List Char} (h : Tok lettersEscape c e) (hx : x ∈ e)
    (hq : x = SQ ∨ x = DQ ∨ x = LF) : c = x ∧ e = [x] := by
  rcases hq with rfl | rfl | rfl <;> exact h.mem hx (by decide) (by decide) rfl

/-! ### the branch of `repr_str_multiline` that keeps the text and picks a usable quote -/

theorem findClose_closing {q : Char} (hq : q ≠ BS) : findClose q false [q, q, q] = some ([], []) := by
  simp [findClose, hq, startsQQ]

theorem mem_of_mem_flatMap {x : Char} (enc : Char → List Char) (h : ∀ c, x ∈ enc c → c = x) (s : List Char)
    (hm : x ∈ s.flatMap enc) : x ∈ s := by
  obtain ⟨c, hc, hl⟩ := List.mem_flatMap.mp hm
  rw [← h c hl]; exact hc

theorem flatMap_last_quote {q : Char} (hq : q = SQ ∨ q = DQ) (enc : Char → List Char)
    (hs : ∀ c, Tok lettersEscape c (enc c)) (s : List Char) (hl : (s.flatMap enc).getLast? = some q) :
    ∃ s0, s = s0 ++ [q] ∧ s.flatMap enc = s0.flatMap enc ++ [q] := by
  rcases List.eq_nil_or_concat s with rfl | ⟨s0, c, rfl⟩
  · simp at hl
  · rw [List.concat_eq_append, List.flatMap_append] at hl ⊢
    simp only [List.flatMap_cons, List.flatMap_nil, List.append_nil] at hl ⊢
    rw [List.getLast?_append] at hl
    have hl' : (enc c).getLast? = some q := by
      cases h : (enc c).getLast? with
      | none => exact absurd (List.getLast?_eq_none_iff.mp h) (hs c).ne_nil
      | some x => rw [h] at hl; simpa using hl
    obtain ⟨rfl, he⟩ := escapeTok_mem (hs c) (List.mem_of_getLast? hl') (hq.imp_right .inl)
    exact ⟨s0, rfl, by rw [he]⟩

theorem lastD_eq_quote {q : Char} (hq : q = SQ ∨ q = DQ) (l : List Char) : q = lastD l ↔ l.getLast? = some q := by
  rw [lastD, List.getLastD_eq_getLast?]
  cases l.getLast? with
  | none => rcases hq with rfl | rfl <;> simp (decide := true)
  | some x => simp [eq_comm]

theorem cleanB_quote {q : Char} (hq : q = SQ ∨ q = DQ) : cleanB q = true := by rcases hq with rfl | rfl <;> decide
theorem quote_ne_BS {q : Char} (hq : q = SQ ∨ q = DQ) : q ≠ BS := by rcases hq with rfl | rfl <;> decide

theorem decodeTriple_of {q : Char} (hq : q = SQ ∨ q = DQ) (body : List Char) (hc : body.all cleanB = true)
    (hf : findClose q false (body ++ [q, q, q]) = some (body, [])) :
    decodeTriple ([q, q, q] ++ body ++ [q, q, q]) = unescape body := by
  have hcl : ([q, q, q] ++ body ++ [q, q, q]).all cleanB = true := by
    simp [List.all_append, hc, cleanB_quote hq]
  unfold decodeTriple
  rw [normNL_clean _ hcl]
  have hqq : (q == SQ || q == DQ) = true := by rcases hq with rfl | rfl <;> decide
  simp only [List.cons_append, List.nil_append, hqq, beq_self_eq_true, Bool.and_self, if_true, hf]

/-- `out` is `qqq body qqq` for a quote `q`, the body has no raw `\r`/NUL, the tokenizer started after the opening
quotes stops exactly at the final three characters, the body decodes to `s`, and a raw newline in the body is a
newline of `s`. -/
def WellQuoted (out s : List Char) : Prop :=
  ∃ q body, (q = SQ ∨ q = DQ) ∧ out = [q, q, q] ++ body ++ [q, q, q] ∧ body.all cleanB = true
    ∧ findClose q false (body ++ [q, q, q]) = some (body, []) ∧ unescape body = some s ∧ (LF ∈ body → LF ∈ s)

theorem WellQuoted.decode {out s : List Char} (h : WellQuoted out s) : decodeTriple out = some s := by
  obtain ⟨q, body, hq, rfl, hc, hf, hu, _⟩ := h
  rw [decodeTriple_of hq body hc hf, hu]

theorem plain_wq (enc : Char → List Char) (hsh : ∀ c, Tok lettersEscape c (enc c))
    (s : List Char) (first last : Char) (hf : first = SQ ∨ first = DQ) (hl : last = SQ ∨ last = DQ)
    (h1 : hasTriple first (s.flatMap enc) = false) (h2 : hasTriple last (s.flatMap enc) = false) :
    WellQuoted (plainQuoted (s.flatMap enc) first last) s := by
  have hcleanE := clean_flatMap enc (fun c => (hsh c).clean (by decide)) s
  have hLF : ∀ s' : List Char, LF ∈ s'.flatMap enc → LF ∈ s' :=
    mem_of_mem_flatMap _ fun c hc => (escapeTok_mem (hsh c) hc (.inr (.inr rfl))).1
  unfold plainQuoted
  generalize hq' : (if lastD (s.flatMap enc) == first then last else first) = q
  have hq : q = SQ ∨ q = DQ := by rw [← hq']; split <;> assumption
  have h3 : hasTriple q (s.flatMap enc) = false := by rw [← hq']; split <;> assumption
  have hqb := quote_ne_BS hq
  have hfc := findClose_flatMap hqb enc (fun c => (hsh c).ftok hq)
  have hun := unesc_flatMap enc (fun c => (hsh c).good)
  simp only []
  by_cases hfix : q = lastD (s.flatMap enc)
  · -- the text ends with the chosen quote: `...q` becomes `...\q`
    rw [if_pos (by simpa using hfix)]
    obtain ⟨s0, rfl, hE⟩ := flatMap_last_quote hq enc hsh s ((lastD_eq_quote hq _).mp hfix)
    rw [← hfix, hE, List.dropLast_concat]
    rw [hE] at h3 hcleanE
    have hT1 : hasTriple q (s0.flatMap enc ++ [BS, q]) = false := by
      rw [hasTriple_sep (Ne.symm hqb), hasTriple_prefix _ _ h3]; simp [hasTriple, startsQQ]
    have hcl : (s0.flatMap enc ++ [BS, q]).all cleanB = true := by
      rw [List.all_append, Bool.and_eq_true] at hcleanE ⊢
      exact ⟨hcleanE.1, by simp [cleanB_quote hq]; rfl⟩
    refine ⟨q, _, hq, rfl, hcl, ?_, ?_, ?_⟩
    · rw [List.append_assoc, hfc s0 [BS, q] [q, q, q] fun _ => ⟨hT1, by simp⟩]
      show pre _ (findClose q false (BS :: q :: [q, q, q])) = _
      rw [findClose_esc, findClose_closing hqb]; simp [pre]
    · rw [unescape, hun, ← List.append_nil [BS, q], good_quote hq]; rfl
    · intro hm
      rcases List.mem_append.mp hm with hm | hm
      · exact List.mem_append_left _ (hLF s0 hm)
      · have : LF = q := by simpa [LF, BS] using hm
        simp [← this]
  · rw [if_neg (by simpa using hfix)]
    have hlast := mt (lastD_eq_quote hq _).mpr hfix
    refine ⟨q, _, hq, rfl, hcleanE, ?_, ?_, hLF s⟩
    · rw [show [q, q, q] = [q, q] ++ [q] from rfl, hfc s [q, q] [q] fun _ => ⟨hasTriple_two _ h3 hlast, by simp⟩]
      show pre _ (findClose q false [q, q, q]) = _
      rw [findClose_closing hqb]; simp [pre]
    · rw [unescape, ← List.append_nil (s.flatMap _), hun]; simp [unesc]

/-! ### the `repr` branch: three `str.replace` calls over the tokens of `repr` -/

theorem replace2_cons_ne (a b : Char) (rep : List Char) {c : Char} (h : c ≠ a) (l : List Char) :
    replace2 a b rep (c :: l) = c :: replace2 a b rep l := by
  cases l with
  | nil => simp [replace2]
  | cons d l => simp [replace2, h]

theorem replace2_pass (a b : Char) (rep : List Char) (l rest : List Char) (h : ∀ x ∈ l, x ≠ a) :
    replace2 a b rep (l ++ rest) = l ++ replace2 a b rep rest := by
  induction l with
  | nil => rfl
  | cons c l ih =>
    rw [List.cons_append, replace2_cons_ne a b rep (h c (by simp)), ih (fun x hx => h x (by simp [hx]))]; rfl

theorem replace2_hit (a b : Char) (rep l : List Char) : replace2 a b rep (a :: b :: l) = rep ++ replace2 a b rep l := by
  simp [replace2]

theorem replace2_miss (a b : Char) (rep : List Char) {d : Char} (h1 : d ≠ b) (h2 : d ≠ a) (l : List Char) :
    replace2 a b rep (a :: d :: l) = a :: d :: replace2 a b rep l := by
  rw [replace2]; simp only [h1, beq_self_eq_true, Bool.true_and, beq_iff_eq, if_false]
  rw [replace2_cons_ne a b rep h2]

/-- letters after the backslash in `repr`'s escapes other than `\` and `\n` -/
def lettersRepr : List Char := [SQ, 't', 'r', 'x', 'u', 'U']

theorem lettersRepr_ne : ∀ d ∈ lettersRepr, d ≠ BS ∧ d ≠ 'n' ∧ d ≠ NUL := by decide

/-- one token of `repr` (quote `'`): the two the replacements act on, or one they pass over -/
def ReprShape (c : Char) (e : List Char) : Prop :=
  (c = BS ∧ e = [BS, BS]) ∨ (c = LF ∧ e = [BS, 'n']) ∨ (c ≠ BS ∧ c ≠ LF ∧ e ≠ [SQ] ∧ Tok lettersRepr c e)

theorem reprChar_shape (k : Cls) (c : Char) : ReprShape c (reprChar k SQ c) := by
  unfold reprChar
  have hne : ∀ d : Char, [BS, d] ≠ [SQ] := fun _ => nofun
  by_cases h1 : c = BS
  · subst h1; exact .inl ⟨rfl, rfl⟩
  by_cases h0 : c = SQ
  · subst h0; exact .inr (.inr ⟨by decide, by decide, hne _, .esc2 (by decide) (good_quote (.inl rfl))⟩)
  by_cases h2 : c = TAB
  · subst h2; exact .inr (.inr ⟨by decide, by decide, hne _, .esc2 (by decide) good_t⟩)
  by_cases h3 : c = LF
  · subst h3; exact .inr (.inl ⟨rfl, rfl⟩)
  by_cases h4 : c = CR
  · subst h4; exact .inr (.inr ⟨by decide, by decide, hne _, .esc2 (by decide) good_r⟩)
  rw [if_neg (by simp [h0, h1]), if_neg (by simpa using h2), if_neg (by simpa using h3), if_neg (by simpa using h4)]
  have fin : ∀ {e}, Tok lettersRepr c e → ReprShape c e := fun ht =>
    .inr (.inr ⟨h1, h3, fun he => h0 (ht.eq_singleton he).symm, ht⟩)
  split
  · next h5 =>
    have hlt : c.toNat < 256 := by
      simp only [Bool.or_eq_true, decide_eq_true_eq, beq_iff_eq] at h5; omega
    exact fin (hex2_eq _ ▸ hex_tok (by decide) esc_x c hlt)
  · next h5 =>
    have h5' : ¬ c.toNat < 32 := by intro hh; apply h5; simp [hh]
    have hraw : Tok lettersRepr c [c] := .raw h1 h5'
    split
    · exact fin hraw
    · split
      · exact fin hraw
      · exact fin (hexEscape_tok (by decide) c)

/-- the token after the three replacements -/
def replacedTok (k : Cls) (c : Char) : List Char :=
  if c == BS then [BS, BS] else if c == LF then [LF] else reprChar k SQ c

theorem replacedTok_other (k : Cls) {c : Char} (h1 : c ≠ BS) (h3 : c ≠ LF) : replacedTok k c = reprChar k SQ c := by
  simp [replacedTok, h1, h3]

theorem Tok.replace2 {L c e} (h : Tok L c e) (hc : c ≠ BS) {b : Char} (hL : ∀ d ∈ L, d ≠ BS ∧ d ≠ b)
    (rep rest : List Char) : replace2 BS b rep (e ++ rest) = e ++ replace2 BS b rep rest := by
  rcases h with ⟨rfl, _⟩ | ⟨d, hs, hd, rfl, hp, _⟩
  · exact replace2_cons_ne _ _ _ hc _
  · have hbs : ∀ x ∈ hs, x ≠ BS := fun x hx => plainB_ne (List.all_eq_true.mp hp x hx) (by decide)
    rw [List.cons_append, List.cons_append, replace2_miss _ _ _ (hL d hd).2 (hL d hd).1, replace2_pass _ _ _ _ _ hbs]
    rfl

theorem replace1_id (a : Char) (rep l : List Char) (h : ∀ x ∈ l, x ≠ a) : replace1 a rep l = l := by
  unfold replace1
  induction l with
  | nil => rfl
  | cons c l ih =>
    rw [List.flatMap_cons, if_neg (by simpa using h c (by simp)), ih (fun x hx => h x (by simp [hx]))]; rfl

theorem replace1_append (a : Char) (rep l1 l2 : List Char) :
    replace1 a rep (l1 ++ l2) = replace1 a rep l1 ++ replace1 a rep l2 :=
  List.flatMap_append

theorem Tok.replace1 {L c e} (h : Tok L c e) (hL : ∀ d ∈ L, d ≠ NUL) (rep : List Char) : replace1 NUL rep e = e := by
  apply replace1_id
  rcases h with ⟨rfl, _, h2, _⟩ | ⟨d, hs, hd, rfl, hp, _⟩
  · simpa using h2
  · intro x hx
    simp only [List.mem_cons] at hx
    rcases hx with rfl | rfl | hx
    · decide
    · exact hL _ hd
    · exact plainB_ne (List.all_eq_true.mp hp x hx) (by decide)

/-- the three `str.replace` calls of `repr_str_multiline`, in the order it applies them -/
def replaced (l : List Char) : List Char := replace1 NUL [BS, BS] (replace2 BS 'n' [LF] (replace2 BS BS [NUL] l))

/-- `\` goes to NUL and comes back, `\n` becomes a newline, every other token is copied three times -/
theorem replaced_tok (k : Cls) (c : Char) (rest : List Char) :
    replaced (reprChar k SQ c ++ rest) = replacedTok k c ++ replaced rest := by
  unfold replaced
  rcases reprChar_shape k c with ⟨rfl, he⟩ | ⟨rfl, he⟩ | ⟨h1, h3, _, ht⟩
  · rw [he, List.cons_append, List.cons_append, replace2_hit, List.singleton_append,
      replace2_cons_ne _ _ _ (by decide)]
    rfl
  · rw [he, List.cons_append, List.cons_append, replace2_miss _ _ _ (by decide) (by decide), replace2_hit]
    rfl
  · rw [replacedTok_other k h1 h3, ht.replace2 h1 (fun d hd => ⟨(lettersRepr_ne d hd).1, (lettersRepr_ne d hd).1⟩),
      ht.replace2 h1 (fun d hd => ⟨(lettersRepr_ne d hd).1, (lettersRepr_ne d hd).2.1⟩), replace1_append,
      ht.replace1 fun d hd => (lettersRepr_ne d hd).2.2]

theorem replaced_repr (k : Cls) (s : List Char) :
    replaced (SQ :: (s.flatMap (reprChar k SQ) ++ [SQ])) = SQ :: (s.flatMap (replacedTok k) ++ [SQ]) := by
  have hs : ∀ rest, replaced (s.flatMap (reprChar k SQ) ++ rest) = s.flatMap (replacedTok k) ++ replaced rest := by
    induction s with
    | nil => intro rest; rfl
    | cons c s ih =>
      intro rest
      rw [List.flatMap_cons, List.flatMap_cons, List.append_assoc, List.append_assoc, replaced_tok, ih]
  have e : ∀ l, replaced (SQ :: l) = SQ :: replaced l := fun l => by
    unfold replaced
    rw [replace2_cons_ne _ _ _ (by decide), replace2_cons_ne _ _ _ (by decide)]
    rfl
  rw [e, hs]
  rfl

theorem replacedTok_tok (k : Cls) (c : Char) :
    Tok (BS :: lettersRepr) c (replacedTok k c) ∧ replacedTok k c ≠ [SQ] := by
  rcases reprChar_shape k c with ⟨rfl, _⟩ | ⟨rfl, _⟩ | ⟨h1, h3, hsq, ht⟩
  · rw [show replacedTok k BS = [BS, BS] from rfl]
    exact ⟨.esc2 (by decide) good_bs, by decide⟩
  · rw [show replacedTok k LF = [LF] from rfl]
    exact ⟨.inl ⟨rfl, by decide, by decide, by decide⟩, by decide⟩
  · rw [replacedTok_other k h1 h3]
    exact ⟨ht.mono fun d hd => List.mem_cons_of_mem _ hd, hsq⟩

theorem repr_wq (k : Cls) (s : List Char) (h1 : SQ ∈ s) (h2 : DQ ∈ s) : WellQuoted (reprQuoted k s) s := by
  unfold reprQuoted reprStr
  have hr := replaced_repr k s
  unfold replaced at hr
  rw [show reprQuote s = SQ by simp [reprQuote, h1, h2], hr]
  simp only [List.headD_cons]
  have hp := replacedTok_tok k
  have e : [SQ, SQ] ++ SQ :: (s.flatMap (replacedTok k) ++ [SQ]) ++ [SQ, SQ]
      = [SQ, SQ, SQ] ++ s.flatMap (replacedTok k) ++ [SQ, SQ, SQ] := by simp
  rw [e]
  refine ⟨SQ, _, .inl rfl, rfl, clean_flatMap _ (fun c => (hp c).1.clean (by decide)) s, ?_, ?_,
    mem_of_mem_flatMap _ (fun c hc => ((hp c).1.mem hc (by decide) (by decide) rfl).1) s⟩
  · rw [show [SQ, SQ, SQ] = [] ++ [SQ, SQ, SQ] from rfl,
      findClose_flatMap (by decide) _ (fun c => (hp c).1.ftok (.inl rfl)) s [] _ fun ⟨c, _, he⟩ => absurd he (hp c).2,
      List.nil_append, findClose_closing (q := SQ) (by decide)]
    simp [pre]
  · rw [unescape, ← List.append_nil (s.flatMap _), unesc_flatMap _ (fun c => (hp c).1.good)]; simp [unesc]

theorem reprMultiline_wq (k : Cls) (hCR : k.printable CR = false) (hNUL : k.printable NUL = false) (s : List Char) :
    WellQuoted (reprMultiline k s) s := by
  unfold reprMultiline
  by_cases hs : s = []
  · subst hs
    exact ⟨DQ, [], .inr rfl, rfl, rfl, by decide, rfl, by simp⟩
  rw [if_neg (by simpa using hs)]
  simp only []
  have hsh := escapeChar_shape k hCR hNUL
  have hmem : ∀ q, q = SQ ∨ q = DQ → hasTriple q (s.flatMap (escapeChar k)) = true → q ∈ s := fun q hq h =>
    mem_of_mem_flatMap _ (fun c hc => (escapeTok_mem (hsh c) hc (hq.imp_right .inl)).1) s (hasTriple_mem _ h)
  cases hd : hasTriple DQ (s.flatMap (escapeChar k)) <;> cases hq : hasTriple SQ (s.flatMap (escapeChar k))
  · exact plain_wq _ hsh s DQ SQ (.inr rfl) (.inl rfl) hd hq
  · exact plain_wq _ hsh s DQ DQ (.inr rfl) (.inr rfl) hd hd
  · exact plain_wq _ hsh s SQ SQ (.inl rfl) (.inl rfl) hq hq
  · exact repr_wq k s (hmem SQ (.inl rfl) hq) (hmem DQ (.inr rfl) hd)

theorem reprMultiline_noLF (k : Cls) (hCR : k.printable CR = false) (hNUL : k.printable NUL = false) (s : List Char)
    (hs : LF ∉ s) : LF ∉ reprMultiline k s := by
  obtain ⟨q, body, hq, he, _, _, _, hl⟩ := reprMultiline_wq k hCR hNUL s
  rw [he]
  have hq' : q ≠ LF := by rcases hq with rfl | rfl <;> decide
  intro hm
  simp only [List.mem_append, List.mem_cons, List.not_mem_nil, or_false] at hm
  rcases hm with (hm | hm) | hm
  · rcases hm with e | e | e <;> exact hq' e.symm
  · exact hs (hl hm)
  · rcases hm with e | e | e <;> exact hq' e.symm

end Pfst.Quote
