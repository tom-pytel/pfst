/-
Model of `FST.subn` / `FST.sub` (src/fst/match.py) on generic labelled trees.

A tree node is a label plus a list of children.  AST fields are represented by pseudo nodes (one per field, the harness
chooses their labels), so "a list field" is simply the child list of such a pseudo node.  Every node carries the mark
`dirty`, which is the model of membership in the Python set `dirty` of `subn` (a set of AST identities): nodes of the
copied template are dirty, the root of a copy of the whole match is dirty, copies of captured nodes are clean.

The matcher is a parameter (`matches : Tree → Option Env`; the matcher itself is the subject of C17).  The model mirrors
the control structure of the code that exists: the `search`/`walk` order with the mutation rules of `walk`
(fst_traverse.py), the `dirty` test, the `while True` loop for `loop`, the `count` countdown with its `break`, the
slice-vs-one decision for every template slot and the index arithmetic of `_sub_quantifier_list_edge_item`.
No imports: this file is linked into the native driver.
-/
namespace Pfst.Sub

inductive Tree where
  | node (lbl : Nat) (dirty : Bool) (kids : List Tree)
deriving Repr, Inhabited

namespace Tree
def lbl : Tree → Nat | node l _ _ => l
def dirty : Tree → Bool | node _ d _ => d
def kids : Tree → List Tree | node _ _ k => k
end Tree

mutual
/-- `FST.copy()` of a subtree: new AST objects, none of which is in `dirty`. -/
def clean : Tree → Tree
  | .node l _ ks => .node l false (cleanList ks)
def cleanList : List Tree → List Tree
  | [] => []
  | t :: ts => clean t :: cleanList ts
end

/-- `dirty.add(root.a)` (b = true) on the root of a fresh copy. -/
def markRoot (b : Bool) : Tree → Tree
  | .node l _ ks => .node l b ks

mutual
def Tree.beq : Tree → Tree → Bool
  | .node l d ks, .node l' d' ks' => l == l' && d == d' && Tree.beqL ks ks'
def Tree.beqL : List Tree → List Tree → Bool
  | [], [] => true
  | a :: as, b :: bs => Tree.beq a b && Tree.beqL as bs
  | _, _ => false
end

mutual
def isClean : Tree → Bool
  | .node _ d ks => !d && isCleanL ks
def isCleanL : List Tree → Bool
  | [] => true
  | t :: ts => isClean t && isCleanL ts
end

mutual
def height : Tree → Nat
  | .node _ _ ks => heightL ks + 1
def heightL : List Tree → Nat
  | [] => 0
  | t :: ts => max (height t) (heightL ts)
end

/-! ## Captures -/

/-- One `FSTMatch` of a quantifier capture list as `_sub_quantifier_list_edge_item` sees it: `.matched` is either one
element (`FST` at `pfield.idx`: start = idx, stop = idx + 1; or a one-element `FSTView`: its start/stop) or a list of
such elements (a sub-sequence match, possibly empty). -/
inductive QItem where
  | one (start stop : Nat)
  | many (items : List (Nat × Nat))
deriving Repr, Inhabited

/-- `_sub_quantifier_list_edge_item(qlist, last=False)`: the start index of the first element found. -/
def edgeFirst : List QItem → Option Nat
  | [] => none
  | .one s _ :: _ => some s
  | .many [] :: rest => edgeFirst rest
  | .many ((s, _) :: _) :: _ => some s

/-- stop index of the last pair of a non-empty list (`matched[-1]`) -/
def lastStop : List (Nat × Nat) → Option Nat
  | [] => none
  | [(_, e)] => some e
  | _ :: b :: r => lastStop (b :: r)

/-- the `for match in reversed(qlist)` loop, on the already reversed list: stop index (last + 1) -/
def edgeLastRev : List QItem → Option Nat
  | [] => none
  | .one _ e :: _ => some e
  | .many l :: rest =>
    match lastStop l with
    | some e => some e
    | none => edgeLastRev rest

/-- `_sub_quantifier_list_edge_item(qlist, last)` (match.py), index part. -/
def edgeItem (q : List QItem) (last : Bool) : Option Nat :=
  if last then edgeLastRev q.reverse else edgeFirst q

/-- The `isinstance(repl_slot_new, list)` branch of `subn`: `None` (delete) when the list is empty or holds no element,
else `first_base._get_slice(first_idx, last_idx, first_field)`. -/
def qSlice (field : List Tree) (q : List QItem) : Option (List Tree) :=
  match q with
  | [] => none
  | _ =>
    match edgeItem q false with
    | none => none
    | some f =>
      match edgeItem q true with
      | none => none
      | some l => some ((field.drop f).take (l - f))

/-! ### virtual fields (`Call._args`, `ClassDef._bases`): args and keywords merged in source order -/

/-- One `FSTMatch` of a quantifier capture before the index mapping: an element is named by its real field
(`kind`: 0 = `args` / `bases` / any ordinary list field, 1 = `keywords`) and its index in that field (`pfield.idx`). -/
inductive RItem where
  | one (kind idx : Nat)
  | many (items : List (Nat × Nat))
deriving Repr, Inhabited

/-- `parent._cached_arglikes().index(matched.a)`: position of the element (kind, idx) in the virtual field, whose
layout `order` lists the (kind, idx) of every element in source order.  For an ordinary list field `order` is
`[(0,0), (0,1), …]` and the mapping is the identity. -/
def virtIdx : List (Nat × Nat) → Nat × Nat → Nat
  | [], _ => 0
  | o :: rest, p => if o.1 == p.1 && o.2 == p.2 then 0 else virtIdx rest p + 1

/-- an element at virtual index v: start = v, stop = v + 1 (`idx + 1 if last else idx`) -/
def virtPairs (order : List (Nat × Nat)) : List (Nat × Nat) → List (Nat × Nat)
  | [] => []
  | p :: r => (virtIdx order p, virtIdx order p + 1) :: virtPairs order r

/-- the `if parent_cls is Call: if field in ('args', 'keywords'): idx = parent._cached_arglikes().index(matched.a)`
step of `_sub_quantifier_list_edge_item`, applied to every element -/
def virtQ (order : List (Nat × Nat)) : List RItem → List QItem
  | [] => []
  | .one k i :: r => .one (virtIdx order (k, i)) (virtIdx order (k, i) + 1) :: virtQ order r
  | .many l :: r => .many (virtPairs order l) :: virtQ order r

/-- A tag value of a match: a node, a whole list field (`FSTView`), or a quantifier list (with the content of the
list field the matched elements live in). `stmts`: the slice container is a `Module` (statement slice).
`qlistV`: quantifier list whose elements live in real fields of a virtual field (`field` = the virtual field's
elements in source order, `order` = their (kind, idx)). -/
inductive Cap where
  | one (t : Tree) (isRoot : Bool)          -- `isRoot`: `repl_slot_new is matched`
  | view (ts : List Tree) (stmts : Bool)
  | qlist (field : List Tree) (q : List QItem) (stmts : Bool)
  | qlistV (field : List Tree) (order : List (Nat × Nat)) (q : List RItem) (stmts : Bool)
deriving Repr, Inhabited

abbrev Env := List (Nat × Cap)

/-- what goes into a slot after the `copy` step -/
inductive RCap where
  | none
  | one (t : Tree)
  | slice (ts : List Tree) (stmts : Bool)
deriving Repr, Inhabited

/-- The per-slot prologue of the `for tag, one_override, path, child in paths` loop: `not tag` = the whole match
(copy, root marked dirty), `m.tags.get(tag)`; copies are clean. -/
def resolve (env : Env) (matched : Tree) : Option Nat → RCap
  | none => .one (markRoot true (clean matched))
  | some g =>
    match env.lookup g with
    | none => .none
    | some (.one t r) => .one (markRoot r (clean t))
    | some (.view ts s) => .slice (cleanList ts) s
    | some (.qlist f q s) =>
      match qSlice f q with
      | none => .none
      | some ts => .slice (cleanList ts) s
    | some (.qlistV f order q s) =>
      match qSlice f (virtQ order q) with
      | none => .none
      | some ts => .slice (cleanList ts) s

/-! ## Templates -/

/-- result of filling: `refuse` = pfst raises (documented refusal), `unsup` = outside the modelled set -/
inductive R (α : Type) where
  | ok (a : α)
  | refuse
  | unsup
deriving Repr, Inhabited

/-- Template (`repl`) with the `Name` slots found by `_sub_repl_path_Name`.
`slot`: a `Name` `__FS[TSO]_<tag>` in an expression position; `inList` = `pfield.idx is not None` (or a virtual list
field such as `Call._args`); `ovr` = `one_override` (`_TAG2ONE`: T ↦ none, S ↦ false, O ↦ true).
`stmtSlot`: the same `Name` as the value of an `Expr` statement in a statement list (`parenta_cls is Expr` branch);
`exprLbl`, `valueLbl`: labels of the `Expr` node and of its `value` field pseudo node. -/
inductive Tmpl where
  | node (lbl : Nat) (kids : List Tmpl)
  | slot (tag : Option Nat) (inList : Bool) (ovr : Option Bool)
  | stmtSlot (tag : Option Nat) (ovr : Option Bool) (exprLbl valueLbl : Nat)
deriving Repr, Inhabited

/-- The `one` decision of `subn` for a slot with a parent: `one = not slice`; `one_override` wins; otherwise a slice
put to a non-list field (`pfield.idx is None`) is turned into a single put. -/
def decideOne (capSlice : Bool) (ovr : Option Bool) (idxNone : Bool) : Bool :=
  let one := !capSlice
  match ovr with
  | some o => o
  | none => if !one && idxNone then true else one

/-- expression slot: `repl_slot.replace(repl_slot_new, one=one)` / `parent._put_slice(..., virt_field, one)` -/
def fillSlot (rc : RCap) (inList : Bool) (ovr : Option Bool) : R (List Tree) :=
  match rc with
  | .none => if inList then .ok [] else .refuse            -- delete: list element removed / "cannot delete X.f"
  | .one t => if decideOne false ovr (!inList) then .ok [t] else (if inList then .unsup else .refuse)
  | .slice ts _ => if decideOne true ovr (!inList) then .unsup else (if inList then .ok ts else .refuse)

/-- `Name` slot whose parent is an `Expr` statement. -/
def fillStmtSlot (isStmt : Nat → Bool) (rc : RCap) (ovr : Option Bool) (exprLbl valueLbl : Nat) : R (List Tree) :=
  match rc with
  | .none => .ok []                                         -- `repl_slot = parent`; deleted
  | .one t =>
    if isStmt t.lbl then                                    -- `repl_slot = parent` (the Expr statement)
      (if decideOne false ovr false then .ok [t] else .unsup)
    else                                                    -- the Name inside Expr.value is replaced
      (if decideOne false ovr true then .ok [.node exprLbl true [.node valueLbl true [t]]] else .refuse)
  | .slice ts stmts =>
    if stmts then                                           -- Module: `repl_slot = parent; one = False`
      (if decideOne true ovr false then .unsup else .ok ts)
    else .unsup

def R.cat : R (List Tree) → R (List Tree) → R (List Tree)
  | .ok a, .ok b => .ok (a ++ b)
  | .unsup, _ => .unsup
  | _, .unsup => .unsup
  | _, _ => .refuse

mutual
/-- fill one template element; the result is spliced into the parent's child list.  Template nodes are dirty
(`dirty.update(walk(repl_.a))`). -/
def fillT (isStmt : Nat → Bool) (env : Env) (m : Tree) : Tmpl → R (List Tree)
  | .node l ks =>
    match fillKids isStmt env m ks with
    | .ok r => .ok [.node l true r]
    | .refuse => .refuse
    | .unsup => .unsup
  | .slot tag il ov => fillSlot (resolve env m tag) il ov
  | .stmtSlot tag ov e v => fillStmtSlot isStmt (resolve env m tag) ov e v
def fillKids (isStmt : Nat → Bool) (env : Env) (m : Tree) : List Tmpl → R (List Tree)
  | [] => .ok []
  | k :: ks => R.cat (fillT isStmt env m k) (fillKids isStmt env m ks)
end

/-- the parsed template: one node (`single`) or a `Module` of statements (`module`) -/
inductive TRoot where
  | single (t : Tmpl)
  | module (ks : List Tmpl)
deriving Repr, Inhabited

/-- Fill the template and decide how it is put back: `(trees, slice)`; `slice = true` is
`matched.replace(repl_, one=False)` (matched is a statement and the filled template is a `Module`). -/
def fillRoot (isStmt : Nat → Bool) (root : TRoot) (env : Env) (m : Tree) : R (List Tree × Bool) :=
  match root with
  | .module ks =>
    if isStmt m.lbl then
      match fillKids isStmt env m ks with
      | .ok r => .ok (r, true)
      | .refuse => .refuse
      | .unsup => .unsup
    else .unsup
  | .single (.slot tag _ _) =>                      -- slot without parent: `one` plays no role
    match resolve env m tag with
    | .none => .refuse                               -- "cannot delete root node"
    | .one t => .ok ([t], false)
    | .slice ts stmts => if stmts && isStmt m.lbl then .ok (ts, true) else .unsup
  | .single (.stmtSlot _ _ _ _) => .unsup
  | .single (.node l ks) =>
    match fillKids isStmt env m ks with
    | .ok r => .ok ([.node l true r], false)
    | .refuse => .refuse
    | .unsup => .unsup

/-! ## The driver -/

structure Params where
  mtch : Tree → Option Env
  isStmt : Nat → Bool
  tmpl : TRoot
  nested : Bool
  loop : Option Int          -- `False` = none; `True` = some 0
  lfuel : Nat                -- bound on re-applications of `loop` (model only; err = 3 when exhausted)

/-- `count`: the Python variable counted down; `stop`: the `break` of `for m in gen` was taken (or an error ended the
run); `err`: 0 ok, 1 pfst raises, 2 outside the modelled set, 3 fuel; `log`: every tree handed to the matcher. -/
structure St where
  count : Int
  total : Nat
  stop : Bool
  err : Nat
  log : List Tree
deriving Repr, Inhabited

/-- children in syntax order; results are spliced -/
def mapKids (f : Tree → St → List Tree × St) : List Tree → St → List Tree × St
  | [], st => ([], st)
  | k :: ks, st =>
    let r := f k st
    let r2 := mapKids f ks r.2
    (r.1 ++ r2.1, r2.2)

def St.fail (st : St) (e : Nat) : St := { st with err := e, stop := true }

/-- The `while True:  # for loop` body of `subn` on one matched node: fill, put back, `total_count += 1`, then
`if loop is not False: if loop := loop - 1: if m := replaced.match(pat): matched = replaced; continue`.
`replaced` after a slice put is the node now at the same index, i.e. the first new statement.
Returns (replacement, a slice put happened, state). -/
def loopSub (P : Params) : Nat → Env → Tree → Option Int → St → List Tree × Bool × St
  | 0, _, t, _, st => ([t], false, st.fail 3)
  | f + 1, env, t, loop, st =>
    match fillRoot P.isStmt P.tmpl env t with
    | .refuse => ([t], false, st.fail 1)
    | .unsup => ([t], false, st.fail 2)
    | .ok (r, slice) =>
      let st1 : St := { st with total := st.total + 1 }
      match loop with
      | none => (r, slice, st1)
      | some l =>
        if l - 1 == 0 then (r, slice, st1) else
        match r with
        | [] => (r, slice, st1.fail 2)        -- `replaced` is the following sibling or None: not modelled
        | h :: tl =>
          let st2 : St := { st1 with log := h :: st1.log }
          match P.mtch h with
          | none => (r, slice, st2)
          | some env' =>
            let q := loopSub P f env' h (some (l - 1)) st2
            (q.1 ++ tl, slice || q.2.1, q.2.2)

/-- `if not skip_sub: if not (count := count - 1): break` -/
def bump (st : St) : St :=
  { st with count := st.count - 1, stop := st.stop || (st.count - 1 == 0) }

/-- `search(..., on='enter')` driven by `subn`: one node popped from the walk stack. -/
def enterNode (P : Params) : Nat → Tree → St → List Tree × St
  | 0, t, st => ([t], if st.stop then st else st.fail 3)
  | f + 1, .node l d ks, st =>
    if st.stop then ([.node l d ks], st) else
    let st0 : St := { st with log := .node l d ks :: st.log }
    match P.mtch (.node l d ks) with
    | none =>                                              -- not yielded by search: walk pushes the children
      let r := mapKids (enterNode P f) ks st0
      ([.node l d r.1], r.2)
    | some env =>
      if d then                                            -- `if matched.a in dirty: continue`
        if P.nested then
          let r := mapKids (enterNode P f) ks st0
          ([.node l d r.1], r.2)
        else ([.node l d ks], st0)                         -- search: `elif not nested: gen.send(False)`
      else
        let q := loopSub P (P.lfuel + 1) env (.node l d ks) P.loop st0
        if q.2.2.stop then (q.1, q.2.2) else
        let st2 := bump q.2.2
        if st2.stop || !P.nested || q.2.1 then (q.1, st2) else
        match q.1 with
        | [.node l' d' ks'] =>                             -- walk: `ast := fst_.a`, push the NEW children
          let r := mapKids (enterNode P f) ks' st2
          ([.node l' d' r.1], r.2)
        | _ => (q.1, st2)

/-- `search(..., on='leave')` driven by `subn`: children first, then the node itself is yielded (if it still
exists); `nested` is ignored (send(False) on leaving does nothing); the replacement is never walked. -/
def leaveNode (P : Params) : Nat → Tree → St → List Tree × St
  | 0, t, st => ([t], if st.stop then st else st.fail 3)
  | f + 1, .node l d ks, st =>
    if st.stop then ([.node l d ks], st) else
    let r := mapKids (leaveNode P f) ks st
    if r.2.stop then ([.node l d r.1], r.2) else
    let st0 : St := { r.2 with log := .node l d r.1 :: r.2.log }
    match P.mtch (.node l d r.1) with
    | none => ([.node l d r.1], st0)
    | some env =>
      if d then ([.node l d r.1], st0) else
      let q := loopSub P (P.lfuel + 1) env (.node l d r.1) P.loop st0
      if q.2.2.stop then (q.1, q.2.2) else (q.1, bump q.2.2)

structure Result where
  trees : List Tree
  unique : Int
  total : Nat
  err : Nat
  log : List Tree
deriving Repr, Inhabited

/-- `if count < 0: count = 0` -/
def clamp (c : Int) : Int := if c < 0 then 0 else c

/-- `(-count if count < 0 else count_start - count)` -/
def uniqueOf (c0 c : Int) : Int := if c < 0 then -c else c0 - c

/-- `subn(pat, repl, nested, count=count, loop=loop, on=on)` on the tree `t` (the walk root).
`return self, (-count if count < 0 else count_start - count), total_count`. -/
def run (P : Params) (onLeave : Bool) (count : Int) (fuel : Nat) (t : Tree) : Result :=
  let st0 : St := ⟨clamp count, 0, false, 0, []⟩
  let r := if onLeave then leaveNode P fuel t st0 else enterNode P fuel t st0
  ⟨r.1, uniqueOf (clamp count) r.2.count, r.2.total, r.2.err, r.2.log⟩

/-- `FST.sub(pat, repl, nested, count=…, loop=…, on=…, …)`: the public wrapper.  It forwards every parameter to `subn`
unchanged and returns the first component (`return self.subn(pat, repl, nested, count=count, …)[0]`). -/
def sub (P : Params) (onLeave : Bool) (count : Int) (fuel : Nat) (t : Tree) : List Tree :=
  (run P onLeave count fuel t).trees

/-! ## Reference transformer (written independently of the driver) -/

mutual
/-- Replace every outermost matching node by `f env node`; do not look inside replaced nodes. -/
def rewriteOutermost (m : Tree → Option Env) (f : Env → Tree → List Tree) : Tree → List Tree
  | .node l d ks =>
    match m (.node l d ks) with
    | some env => f env (.node l d ks)
    | none => [.node l d (rewriteOutermostL m f ks)]
def rewriteOutermostL (m : Tree → Option Env) (f : Env → Tree → List Tree) : List Tree → List Tree
  | [] => []
  | k :: ks => rewriteOutermost m f k ++ rewriteOutermostL m f ks
end

mutual
/-- number of outermost matching nodes -/
def countOutermost (m : Tree → Option Env) : Tree → Nat
  | .node l d ks =>
    match m (.node l d ks) with
    | some _ => 1
    | none => countOutermostL m ks
def countOutermostL (m : Tree → Option Env) : List Tree → Nat
  | [] => 0
  | k :: ks => countOutermost m k + countOutermostL m ks
end

mutual
/-- number of matching nodes at any depth -/
def countAll (m : Tree → Option Env) : Tree → Nat
  | .node l d ks => (if (m (.node l d ks)).isSome then 1 else 0) + countAllL m ks
def countAllL (m : Tree → Option Env) : List Tree → Nat
  | [] => 0
  | k :: ks => countAll m k + countAllL m ks
end

mutual
/-- no node of the tree matches -/
def noMatch (m : Tree → Option Env) : Tree → Bool
  | .node l d ks => (m (.node l d ks)).isNone && noMatchL m ks
def noMatchL (m : Tree → Option Env) : List Tree → Bool
  | [] => true
  | k :: ks => noMatch m k && noMatchL m ks
end

/-- the replacement `subn` computes for one match when nothing refuses (used as `f` of the reference) -/
def fillD (P : Params) (env : Env) (t : Tree) : List Tree :=
  match fillRoot P.isStmt P.tmpl env t with
  | .ok (r, _) => r
  | _ => [t]

end Pfst.Sub
