/-! Facts about `take`, `drop`, `++`, `takeWhile`, `dropWhile` and `getElem?` on plain lists that several clusters use. -/
namespace Pfst

variable {α : Type _}

theorem mem_takeWhile_true {p : α → Bool} {l : List α} {x : α} (h : x ∈ l.takeWhile p) : p x = true :=
  List.all_eq_true.mp List.all_takeWhile x h

theorem head?_dropWhile_false {p : α → Bool} {l : List α} {x : α} (h : (l.dropWhile p).head? = some x) :
    p x = false := by
  simpa [h] using List.head?_dropWhile_not p l

theorem mem_takeWhile_or_dropWhile (p : α → Bool) {l : List α} {x : α} (h : x ∈ l) :
    x ∈ l.takeWhile p ∨ x ∈ l.dropWhile p :=
  List.mem_append.mp (List.takeWhile_append_dropWhile (p := p) ▸ h)

theorem span_unique {p : α → Bool} {a b : List α} (ha : ∀ x ∈ a, p x = true)
    (hb : ∀ x, b.head? = some x → p x = false) :
    (a ++ b).takeWhile p = a ∧ (a ++ b).dropWhile p = b := by
  rw [List.takeWhile_append_of_pos ha, List.dropWhile_append_of_pos ha]
  cases b with
  | nil => simp
  | cons x t => simp [hb x rfl]

theorem take_drop_append_mid (P X S : List α) (x y : Nat) (hy : y ≤ X.length) :
    ((P ++ X ++ S).drop (P.length + x)).take (y - x) = (X.drop x).take (y - x) := by
  rw [List.append_assoc, List.drop_length_add_append, ← List.drop_take, ← List.drop_take,
    List.take_append_of_le_length hy]

theorem drop_take_of_eq_append {l A M S : List α} (h : l = A ++ M ++ S) :
    (l.take (A.length + M.length)).drop A.length = M := by
  rw [h, ← List.length_append, List.take_left' rfl, List.drop_left]

theorem take_append_mid_append_drop (l : List α) {s e : Nat} (h : s ≤ e) :
    l.take s ++ (l.take e).drop s ++ l.drop e = l := by
  have : l.take s = (l.take e).take s := by rw [List.take_take, Nat.min_eq_left h]
  rw [this, List.take_append_drop, List.take_append_drop]

theorem getElem?_mid {A B C : List α} {j : Nat} (h1 : A.length ≤ j) (h2 : j < A.length + B.length) :
    ∃ x, (A ++ B ++ C)[j]? = some x ∧ x ∈ B := by
  have hj : j - A.length < B.length := by omega
  refine ⟨B[j - A.length], ?_, List.getElem_mem hj⟩
  rw [List.append_assoc, List.getElem?_append_right h1, List.getElem?_append_left hj]
  simp

/-! ### a replaced window `F.take a ++ X ++ F.drop b`: what is left of the text outside it -/

theorem drop_splice {F X : List α} {a b : Nat} (ha : a ≤ F.length) :
    (F.take a ++ X ++ F.drop b).drop a = X ++ F.drop b := by
  rw [List.append_assoc, List.drop_left' (List.length_take_of_le ha)]

theorem drop_splice_end {F X : List α} {a b n : Nat} (ha : a ≤ F.length) (hX : X.length = n) :
    (F.take a ++ X ++ F.drop b).drop (a + n) = F.drop b :=
  List.drop_left' (by rw [List.length_append, hX, List.length_take_of_le ha])

theorem splice_before (F X : List α) (a b s e : Nat) (ha : a ≤ F.length) (he : e ≤ a) :
    ((F.take a ++ X ++ F.drop b).drop s).take (e - s) = (F.drop s).take (e - s) := by
  rw [← List.drop_take, ← List.drop_take, List.append_assoc, List.take_append_of_le_length (by simp; omega),
    List.take_take, Nat.min_eq_left he]

theorem splice_after (F X : List α) (a b s e s' e' : Nat) (ha : a ≤ b) (hb : b ≤ F.length) (hs : b ≤ s) (hse : s ≤ e)
    (hs' : s' + b = s + a + X.length) (he' : e' + b = e + a + X.length) :
    ((F.take a ++ X ++ F.drop b).drop s').take (e' - s') = (F.drop s).take (e - s) := by
  obtain ⟨d, rfl⟩ := Nat.exists_eq_add_of_le hs
  obtain ⟨n, rfl⟩ := Nat.exists_eq_add_of_le hse
  have h1 : s' = (F.take a ++ X).length + d := by
    rw [List.length_append, List.length_take_of_le (Nat.le_trans ha hb)]; omega
  have h2 : e' - s' = n := by omega
  rw [h2, h1, List.drop_length_add_append, List.drop_drop, Nat.add_sub_cancel_left]

theorem splice_container (F X : List α) (a b s e e' : Nat) (ha : a ≤ b) (hb : b ≤ F.length) (hs : s ≤ a) (hbe : b ≤ e)
    (he' : e' + b = e + a + X.length) :
    ((F.take a ++ X ++ F.drop b).drop s).take (e' - s)
      = (F.drop s).take (a - s) ++ X ++ (F.drop b).take (e - b) := by
  obtain ⟨n, rfl⟩ := Nat.exists_eq_add_of_le hbe
  have hs' : s ≤ (F.take a).length := by rw [List.length_take_of_le (Nat.le_trans ha hb)]; exact hs
  have h1 : e' - s = ((F.take a).drop s ++ X).length + n := by
    rw [List.length_append, List.length_drop, List.length_take_of_le (Nat.le_trans ha hb)]; omega
  rw [List.append_assoc, List.drop_append_of_le_length hs', ← List.append_assoc, h1, List.take_length_add_append,
    List.drop_take, Nat.add_sub_cancel_left]

theorem drop_succ_of_cons {l : List α} {i : Nat} {a : α} {tl : List α} (h : l.drop i = a :: tl) : l.drop (i + 1) = tl := by
  have : l.drop (i + 1) = (l.drop i).drop 1 := by simp [List.drop_drop]
  rw [this, h]; rfl

theorem getElem?_of_drop_cons {l : List α} {i : Nat} {a : α} {tl : List α} (h : l.drop i = a :: tl) : l[i]? = some a := by
  have := List.head?_drop (l := l) (i := i)
  rw [h] at this; simpa using this.symm

theorem lt_of_drop_cons {l : List α} {i : Nat} {a : α} {tl : List α} (h : l.drop i = a :: tl) : i < l.length := by
  by_cases hh : i < l.length
  · exact hh
  · have : l.drop i = [] := List.drop_eq_nil_of_le (by omega)
    rw [this] at h; cases h

theorem getElem?_sub_of_drop {l body : List α} {i j : Nat} (hd : l.drop i = body) (h : i ≤ j) : body[j - i]? = l[j]? := by
  rw [← hd, List.getElem?_drop, Nat.add_sub_cancel' h]

theorem drop_pred_tail (l b : List α) (i g : Nat) (h : l.drop (i + g) = b.drop g) :
    l.drop (i + 1 + (g - 1)) = b.tail.drop (g - 1) := by
  cases g with
  | zero => rw [Nat.add_zero, List.drop_zero] at h; simp [← h]
  | succ g => rw [List.drop_tail]; simpa [Nat.add_assoc, Nat.add_comm 1] using h

end Pfst
