import Pfst.ScanLemmas

/-! # `find_contains_loc` / `find_in_loc` / `find_loc` return what a brute-force scan would return

Model: the last section of `Pfst/Scan.lean` (the repaired functions: `allow_exact='top'` honoured inside the descent,
decorators searched before giving up at a definition that does not contain the location).

* `findIn_bruteforce`, `findContains_bruteforce(T)`, `findLoc_bruteforce`: on plainly well-formed lists (`wfList`) the
  passes return the brute-force selections, for all three `allow_exact` modes; `findContainsD_eq_of_wf`: the decorator
  search is inert there.
* `findContainsD_bruteforce(T)`, `findLoc_decorated_partial`: on lists WITH decorated definitions (`wfListD`) and
  non-empty rectangles the repaired `find_contains_loc` returns the brute-force selection over all nodes.
* `bruteContains_deepest`, `bruteContains_top_highest`: what the brute-force selections mean geometrically. -/

namespace Pfst.Scan

theorem posLe_iff (a b : Nat × Nat) : posLe a b = true ↔ (a.1 < b.1 ∨ (a.1 = b.1 ∧ a.2 ≤ b.2)) := by
  simp [posLe]

theorem posLe_trans {a b c : Nat × Nat} (h1 : posLe a b = true) (h2 : posLe b c = true) : posLe a c = true := by
  rw [posLe_iff] at *; omega

theorem posLe_antisymm {a b : Nat × Nat} (h1 : posLe a b = true) (h2 : posLe b a = true) : a = b := by
  rw [posLe_iff] at *
  exact Prod.ext (by omega) (by omega)

theorem containsQ_iff (f : FNode) (q : Loc) :
    containsQ f q = true ↔ posLe f.start (q.ln, q.col) = true ∧ posLe (q.endLn, q.endCol) f.stop = true := by
  simp [containsQ, posLe_iff, FNode.start, FNode.stop]
  omega

theorem notContainsQ_eq (f : FNode) (q : Loc) : notContainsQ f q = !containsQ f q := by
  rw [Bool.eq_iff_iff]
  simp [containsQ, notContainsQ]
  omega

theorem exactQ_iff (f : FNode) (q : Loc) :
    exactQ f q = true ↔ f.start = (q.ln, q.col) ∧ f.stop = (q.endLn, q.endCol) := by
  simp [exactQ, FNode.start, FNode.stop]
  omega

theorem endsBeforeQ_eq (f : FNode) (q : Loc) : endsBeforeQ f q = posLe f.stop (q.ln, q.col) := rfl

theorem insideQ_eq (f : FNode) (q : Loc) : insideQ f q = (!startsBeforeQ f q && endsWithinQ f q) := by
  rw [Bool.eq_iff_iff]
  simp [insideQ, startsBeforeQ, endsWithinQ]
  omega

theorem candContains_iff (q : Loc) (ax : Bool) (g : FNode) :
    candContains q ax g = true ↔
      endsBeforeQ g q = false ∧ containsQ g q = true ∧ (ax = true ∨ exactQ g q = false) := by
  simp [candContains, notContainsQ_eq, and_assoc]

theorem containsQ_of_encloses {f g : FNode} {q : Loc}
    (h : posLe f.start g.start = true ∧ posLe g.stop f.stop = true) (hg : containsQ g q = true) :
    containsQ f q = true := by
  rw [containsQ_iff] at *
  exact ⟨posLe_trans h.1 hg.1, posLe_trans hg.2 h.2⟩

theorem not_contains_of_after {f g : FNode} {q : Loc} (heb : endsBeforeQ f q = false)
    (h : posLe f.stop g.start = true) : containsQ g q = false :=
  Bool.eq_false_iff.mpr fun hg =>
    Bool.eq_false_iff.mp heb (posLe_trans h ((containsQ_iff g q).mp hg).1)

theorem not_contains_of_beside {f g : FNode} {q : Loc} (heb : endsBeforeQ f q = false) (hnc : containsQ f q = false)
    (h : (posLe f.start g.start = true ∧ posLe g.stop f.stop = true) ∨ posLe f.stop g.start = true) :
    containsQ g q = false :=
  h.elim (fun h => Bool.eq_false_iff.mpr fun hg => Bool.eq_false_iff.mp hnc (containsQ_of_encloses h hg))
    (not_contains_of_after heb)

theorem not_cand_of_not_contains (q : Loc) (ax : Bool) {g : FNode} (h : containsQ g q = false) :
    candContains q ax g = false := by
  simp [candContains, notContainsQ_eq, h]

theorem not_cand_of_exact {f g : FNode} {q : Loc} (heb : endsBeforeQ f q = false) (hex : exactQ f q = true)
    (h : posLe g.stop f.start = true ∨ (posLe f.start g.start = true ∧ posLe g.stop f.stop = true) ∨
      posLe f.stop g.start = true) : candContains q false g = false := by
  refine Bool.eq_false_iff.mpr fun hc => ?_
  obtain ⟨hgb, hgc, hne⟩ := (candContains_iff q false g).mp hc
  obtain ⟨hs, he⟩ := (exactQ_iff f q).mp hex
  rcases h with h | h | h
  · rw [hs] at h
    exact Bool.eq_false_iff.mp hgb h
  · -- a container of `q` inside `q` is `q`
    rw [hs, he] at h
    have hg := (containsQ_iff g q).mp hgc
    rw [(exactQ_iff g q).mpr ⟨posLe_antisymm hg.1 h.1, posLe_antisymm h.2 hg.2⟩] at hne
    simp at hne
  · exact Bool.eq_false_iff.mp (not_contains_of_after heb h) hgc

/-- below the point where the descent has reached a container `f` of `q`, being a candidate is the test the loop
makes for stopping at the parent -/
theorem candContains_of_contains (q : Loc) (ae : AllowExact) {f : FNode} (heb : endsBeforeQ f q = false)
    (hc : containsQ f q = true) : candContains q (ae != .no) f = !(exactQ f q && ae == .no) := by
  simp only [candContains, notContainsQ_eq, heb, hc]
  cases ae <;> cases exactQ f q <;> rfl

abbrev deeper (d : Nat) : FNode → Bool := fun g => decide (g.depth > d)

@[simp] theorem deeper_apply (d : Nat) (g : FNode) : deeper d g = decide (g.depth > d) := rfl

theorem takeWhile_split (d d' : Nat) (h : d ≤ d') (l : List FNode) :
    l.takeWhile (deeper d) = l.takeWhile (deeper d') ++ (l.dropWhile (deeper d')).takeWhile (deeper d) := by
  induction l with
  | nil => simp
  | cons a l ih =>
    by_cases h' : a.depth > d'
    · have : a.depth > d := by omega
      simp [h', this, ih]
    · simp [List.takeWhile_cons, h']

theorem lt_depth_of_mem_takeWhile {d : Nat} {l : List FNode} {g : FNode} (h : g ∈ l.takeWhile (deeper d)) :
    d < g.depth := by
  simpa using mem_takeWhile_true h

theorem takeWhile_deeper_cons {d : Nat} {f : FNode} (rest : List FNode) (h : ¬ f.depth ≤ d) :
    (f :: rest).takeWhile (deeper d) = f :: rest.takeWhile (deeper d) :=
  List.takeWhile_cons_of_pos (by simpa using h)

theorem dropWhile_deeper_cons {d : Nat} {f : FNode} (rest : List FNode) (h : ¬ f.depth ≤ d) :
    (f :: rest).dropWhile (deeper d) = rest.dropWhile (deeper d) :=
  List.dropWhile_cons_of_pos (by simpa using h)

theorem wfList_cons (f : FNode) (rest : List FNode) :
    wfList (f :: rest) = true ↔ wfAt f rest = true ∧ wfList rest = true := by
  simp [wfList]

theorem wfAt_self (f : FNode) (rest : List FNode) (h : wfAt f rest = true) : posLe f.start f.stop = true := by
  simp only [wfAt, Bool.and_eq_true] at h; exact h.1.1

theorem wfAt_in (f : FNode) (rest : List FNode) (h : wfAt f rest = true) (g : FNode)
    (hg : g ∈ rest.takeWhile (deeper f.depth)) : posLe f.start g.start = true ∧ posLe g.stop f.stop = true := by
  simp only [wfAt, Bool.and_eq_true, List.all_eq_true] at h
  exact h.1.2 g hg

theorem wfAt_after (f : FNode) (rest : List FNode) (h : wfAt f rest = true) (g : FNode)
    (hg : g ∈ rest.dropWhile (deeper f.depth)) : posLe f.stop g.start = true := by
  simp only [wfAt, Bool.and_eq_true, List.all_eq_true] at h
  exact h.2 g hg

theorem wfList_mem (l : List FNode) (h : wfList l = true) (g : FNode) (hg : g ∈ l) : posLe g.start g.stop = true := by
  induction l with
  | nil => cases hg
  | cons a l ih =>
    rw [wfList_cons] at h
    cases hg with
    | head => exact wfAt_self _ _ h.1
    | tail _ hg => exact ih h.2 hg

theorem wfList_suffix (l l' : List FNode) (hs : l' <:+ l) (h : wfList l = true) : wfList l' = true := by
  induction l with
  | nil => simp at hs; subst hs; exact h
  | cons a l ih =>
    rw [List.suffix_cons_iff] at hs
    cases hs with
    | inl e => subst e; exact h
    | inr hs => rw [wfList_cons] at h; exact ih hs h.2

/-! ## `find_in_loc` -/

theorem inGo_eq (q : Loc) (rest : List FNode) (hwf : wfList rest = true) (d : Nat) :
    inGo q d rest = (rest.takeWhile (deeper d)).find? (fun f => insideQ f q) := by
  induction rest generalizing d with
  | nil => simp [inGo]
  | cons f rest ih =>
    obtain ⟨hf, hrest⟩ := (wfList_cons f rest).mp hwf
    rw [inGo]
    by_cases hd : f.depth ≤ d
    · simp [hd, Nat.not_lt.mpr hd]
    · rw [if_neg hd, takeWhile_deeper_cons rest hd, List.find?_cons, insideQ_eq]
      cases hsb : startsBeforeQ f q
      · cases hew : endsWithinQ f q
        · -- `f` ends after `q`, and so does everything behind the subtree of `f`
          have : ((rest.dropWhile (deeper f.depth)).takeWhile (deeper d)).find? (fun f => insideQ f q) = none := by
            rw [List.find?_eq_none]
            intro g hg
            have hg' := (List.takeWhile_sublist _).subset hg
            have h2 := wfList_mem rest hrest g ((List.dropWhile_sublist _).subset hg')
            have hew : posLe f.stop (q.endLn, q.endCol) = false := hew
            have : endsWithinQ g q = false := Bool.eq_false_iff.mpr fun h =>
              Bool.eq_false_iff.mp hew (posLe_trans (posLe_trans (wfAt_after f rest hf g hg') h2) h)
            simp [insideQ_eq, this]
          simp [ih hrest f.depth, takeWhile_split d f.depth (by omega) rest, this]
        · simp
      · simpa using ih hrest d

theorem findIn_bruteforce (nodes : List FNode) (q : Loc) (hwf : wfList nodes = true) :
    findIn nodes q = bruteIn nodes q := by
  cases nodes with
  | nil => rfl
  | cons self tail =>
    simp only [findIn, bruteIn, subtree, List.find?_cons]
    cases insideQ self q
    · exact inGo_eq q tail ((wfList_cons self tail).mp hwf).2 self.depth
    · rfl

/-! ## `find_contains_loc` -/

/-- brute force with position: the LAST entry satisfying `p` among the leading entries of depth `> d`, together
with the list that follows it -/
def lastCandT (p : FNode → Bool) (d : Nat) : List FNode → Option (FNode × List FNode)
  | [] => none
  | f :: rest =>
    if f.depth ≤ d then none
    else match lastCandT p d rest with
      | some r => some r
      | none => if p f then some (f, rest) else none

/-- brute force with position for all three `allow_exact` modes: among the leading entries of depth `> d` the FIRST
entry satisfying `p` and `e` when there is one, otherwise the LAST entry satisfying `p`; together with the list that
follows it.  (`p` = candidate, `e` = "exact match and `allow_exact == 'top'`".) -/
def pickT (p e : FNode → Bool) (d : Nat) : List FNode → Option (FNode × List FNode)
  | [] => none
  | f :: rest =>
    if f.depth ≤ d then none
    else if p f && e f then some (f, rest)
    else match pickT p e d rest with
      | some r => some r
      | none => if p f then some (f, rest) else none

/-- the early-exit predicate of `allow_exact='top'` -/
def topE (q : Loc) (ae : AllowExact) (f : FNode) : Bool := exactQ f q && ae == .top

/-- positional variant of `bruteContains`: the node selected and the list that follows it -/
def bruteContainsT (nodes : List FNode) (q : Loc) (ae : AllowExact) : Option (FNode × List FNode) :=
  match nodes with
  | [] => none
  | self :: tail =>
    if containsQ self q then
      if exactQ self q && ae == .no then none
      else if exactQ self q && ae == .top then some (self, tail)
      else
        match pickT (candContains q (ae != .no)) (topE q ae) self.depth tail with
        | some r => some r
        | none => some (self, tail)
    else none

theorem pickT_false (p : FNode → Bool) (d : Nat) (l : List FNode) :
    pickT p (fun _ => false) d l = lastCandT p d l := by
  induction l with
  | nil => rfl
  | cons f rest ih => simp [pickT, lastCandT, ih]

theorem pickT_cons_skip {p e : FNode → Bool} {d : Nat} {f : FNode} (rest : List FNode) (hd : ¬ f.depth ≤ d)
    (hp : p f = false) : pickT p e d (f :: rest) = pickT p e d rest := by
  rw [pickT, if_neg hd]
  cases h : pickT p e d rest <;> simp [hp]

theorem pickT_none_of_all (p e : FNode → Bool) (d : Nat) (l : List FNode) (h : ∀ g ∈ l, p g = false) :
    pickT p e d l = none := by
  induction l with
  | nil => rfl
  | cons f rest ih =>
    simp [pickT, ih (fun g hg => h g (List.mem_cons_of_mem _ hg)), h f List.mem_cons_self]

theorem pickT_depth (p e : FNode → Bool) (d d' : Nat) (hd : d ≤ d') (l : List FNode)
    (h : ∀ g ∈ l.dropWhile (deeper d'), p g = false) : pickT p e d l = pickT p e d' l := by
  induction l with
  | nil => rfl
  | cons f rest ih =>
    by_cases h' : f.depth ≤ d'
    · rw [List.dropWhile_cons_of_neg (by simpa using h')] at h
      rw [pickT_none_of_all p e d _ h, pickT_none_of_all p e d' _ h]
    · rw [dropWhile_deeper_cons rest h'] at h
      rw [pickT, pickT, if_neg h', if_neg (by omega), ih h]

theorem pickT_suffix (p e : FNode → Bool) (d : Nat) (l : List FNode) (f : FNode) (ft : List FNode)
    (h : pickT p e d l = some (f, ft)) : f :: ft <:+ l := by
  induction l with
  | nil => cases h
  | cons a rest ih =>
    revert h
    rw [pickT]
    by_cases hd : a.depth ≤ d
    · rw [if_pos hd]
      nofun
    rw [if_neg hd]
    cases p a && e a
    case true =>
      intro h
      cases h
      exact List.suffix_refl _
    cases hr : pickT p e d rest with
    | some r =>
      intro h
      cases h
      exact (ih hr).trans (List.suffix_cons _ _)
    | none =>
      cases p a
      · nofun
      · intro h
        cases h
        exact List.suffix_refl _

theorem map_fst_orElse (a : Option (FNode × List FNode)) (f : FNode) (t : List FNode) :
    Option.map (fun r : FNode × List FNode => r.1) (match a with | some r => some r | none => some (f, t))
      = some ((a.map (·.1)).getD f) := by
  cases a <;> rfl

theorem pickT_map_fst (p e : FNode → Bool) (d : Nat) (l : List FNode) :
    (pickT p e d l).map (·.1) =
      match ((l.takeWhile (deeper d)).filter p).find? e with
      | some f => some f
      | none => ((l.takeWhile (deeper d)).filter p).getLast? := by
  induction l with
  | nil => rfl
  | cons f rest ih =>
    rw [pickT]
    by_cases hd : f.depth ≤ d
    · simp [hd, Nat.not_lt.mpr hd]
    · rw [if_neg hd, takeWhile_deeper_cons rest hd, List.filter_cons]
      cases hp : p f
      · simp only [Bool.false_and, Bool.false_eq_true, ↓reduceIte]
        rw [← ih]
        cases pickT p e d rest <;> rfl
      · simp only [Bool.true_and, ↓reduceIte, List.find?_cons]
        cases he : e f
        · -- `f` is the selection unless the tail has one
          simp only [Bool.false_eq_true, ↓reduceIte]
          rw [map_fst_orElse, ih, List.getLast?_cons]
          cases List.find? e (List.filter p (List.takeWhile (deeper d) rest)) <;> rfl
        · rfl

theorem lastCandT_map_fst (p : FNode → Bool) (d : Nat) (l : List FNode) :
    (lastCandT p d l).map (·.1) = ((l.takeWhile (deeper d)).filter p).getLast? := by
  rw [← pickT_false, pickT_map_fst, List.find?_eq_none.mpr (by simp)]

theorem lastCandT_depth (p : FNode → Bool) (d d' : Nat) (hd : d ≤ d') (l : List FNode)
    (h : ∀ g ∈ l.dropWhile (deeper d'), p g = false) : lastCandT p d l = lastCandT p d' l := by
  rw [← pickT_false, ← pickT_false, pickT_depth _ _ d d' hd l h]

theorem lastCandT_suffix (p : FNode → Bool) (d : Nat) (l : List FNode) (f : FNode) (ft : List FNode)
    (h : lastCandT p d l = some (f, ft)) : f :: ft <:+ l :=
  pickT_suffix p _ d l f ft ((pickT_false p d l).trans h)

theorem find?_topE (q : Loc) (ae : AllowExact) (c : List FNode) :
    c.find? (topE q ae) = if ae == .top then c.find? (fun f => exactQ f q) else none := by
  cases ae
  · exact List.find?_eq_none.mpr (by simp [topE])
  · exact List.find?_eq_none.mpr (by simp [topE])
  · rw [show topE q .top = fun f => exactQ f q from funext fun f => by simp [topE]]
    rfl

theorem bruteContainsT_map_fst (nodes : List FNode) (q : Loc) (ae : AllowExact) :
    (bruteContainsT nodes q ae).map (·.1) = bruteContains nodes q ae := by
  cases nodes with
  | nil => rfl
  | cons self tail =>
    rw [bruteContainsT, bruteContains]
    cases containsQ self q
    · rfl
    cases exactQ self q && ae == .no
    case true => rfl
    cases exactQ self q && ae == .top
    case true => rfl
    -- both sides are "the `pickT` selection, or else `self`"
    simp only [Bool.false_eq_true, ↓reduceIte, subtree, List.drop_succ_cons, List.drop_zero]
    rw [map_fst_orElse, pickT_map_fst, find?_topE]
    generalize List.filter _ (List.takeWhile (deeper self.depth) tail) = cands
    generalize (if ae == .top then cands.find? (fun f => exactQ f q) else none) = top
    cases top with
    | some f => rfl
    | none => cases cands.getLast? <;> rfl

theorem bruteContainsT_suffix (nodes : List FNode) (q : Loc) (ae : AllowExact) (f : FNode) (ft : List FNode)
    (h : bruteContainsT nodes q ae = some (f, ft)) : f :: ft <:+ nodes := by
  cases nodes with
  | nil => cases h
  | cons self tail =>
    revert h
    rw [bruteContainsT]
    cases containsQ self q
    · nofun
    cases exactQ self q && ae == .no
    case true => nofun
    cases exactQ self q && ae == .top
    case true =>
      intro h
      cases h
      exact List.suffix_refl _
    cases hr : pickT (candContains q (ae != .no)) (topE q ae) self.depth tail with
    | some r =>
      intro h
      cases h
      exact (pickT_suffix _ _ _ _ _ _ hr).trans (List.suffix_cons _ _)
    | none =>
      intro h
      cases h
      exact List.suffix_refl _

theorem wfAt_cases (f : FNode) (rest : List FNode) (h : wfAt f rest = true) (g : FNode) (hg : g ∈ rest) :
    (posLe f.start g.start = true ∧ posLe g.stop f.stop = true) ∨ posLe f.stop g.start = true :=
  (mem_takeWhile_or_dropWhile (deeper f.depth) hg).imp (wfAt_in f rest h g) (wfAt_after f rest h g)

theorem no_contains_after (q : Loc) (f : FNode) (rest : List FNode) (hf : wfAt f rest = true)
    (heb : endsBeforeQ f q = false) (hnc : containsQ f q = false) : ∀ g ∈ rest, containsQ g q = false :=
  fun g hg => not_contains_of_beside heb hnc (wfAt_cases f rest hf g hg)

/-- the step all the descents share: at a container `f` of `q`, with the later entries before, inside or behind `f`
and those behind its subtree behind it, the selection is made at `f` -/
theorem pickT_cons_container (q : Loc) (ae : AllowExact) {d : Nat} {f : FNode} (rest : List FNode)
    (hd : ¬ f.depth ≤ d) (heb : endsBeforeQ f q = false) (hc : containsQ f q = true)
    (hall : ∀ g ∈ rest, posLe g.stop f.start = true ∨
      (posLe f.start g.start = true ∧ posLe g.stop f.stop = true) ∨ posLe f.stop g.start = true)
    (hafter : ∀ g ∈ rest.dropWhile (deeper f.depth), posLe f.stop g.start = true) :
    pickT (candContains q (ae != .no)) (topE q ae) d (f :: rest) =
      if exactQ f q && ae == .no then none
      else if exactQ f q && ae == .top then some (f, rest)
      else some ((pickT (candContains q (ae != .no)) (topE q ae) f.depth rest).getD (f, rest)) := by
  rw [pickT, if_neg hd, candContains_of_contains q ae heb hc]
  cases hA : exactQ f q && ae == .no
  · rw [pickT_depth _ _ d f.depth (by omega) rest fun g hg =>
      not_cand_of_not_contains q _ (not_contains_of_after heb (hafter g hg))]
    cases pickT (candContains q (ae != .no)) (topE q ae) f.depth rest <;> simp [topE]
  · obtain ⟨hex, rfl⟩ : exactQ f q = true ∧ ae = .no := by simpa using hA
    rw [pickT_none_of_all (candContains q (AllowExact.no != .no)) _ _ _ fun g hg =>
      not_cand_of_exact heb hex (hall g hg)]
    rfl

/-- `wfAt` for the entries of the leading run of depth `> d` (all that a pass below a node of depth `d` looks at) -/
def wfSub (d : Nat) : List FNode → Bool
  | [] => true
  | f :: rest => decide (f.depth ≤ d) || (wfAt f rest && wfSub d rest)

theorem wfSub_cons (d : Nat) (f : FNode) (rest : List FNode) (hd : ¬ f.depth ≤ d) :
    wfSub d (f :: rest) = true ↔ wfAt f rest = true ∧ wfSub d rest = true := by
  simp [wfSub, hd]

theorem wfSub_of_wfList (d : Nat) (l : List FNode) (h : wfList l = true) : wfSub d l = true := by
  induction l with
  | nil => rfl
  | cons f rest ih =>
    rw [wfList_cons] at h
    simp [wfSub, h.1, ih h.2]

theorem wfSub_mono (d d' : Nat) (hd : d ≤ d') (l : List FNode) (h : wfSub d l = true) : wfSub d' l = true := by
  induction l with
  | nil => rfl
  | cons f rest ih =>
    by_cases h' : f.depth ≤ d'
    · simp [wfSub, h']
    · rw [wfSub_cons _ _ _ (by omega)] at h
      rw [wfSub_cons _ _ _ h']
      exact ⟨h.1, ih h.2⟩

/-- the descent loop returns the `pickT` selection; only the well-formedness of the entries below `cur` is used -/
theorem containsGo_eq_sub (q : Loc) (ae : AllowExact) (rest : List FNode) (cur : FNode) (ctail : List FNode)
    (hwf : wfSub cur.depth rest = true) :
    containsGo q ae cur ctail rest
      = (pickT (candContains q (ae != .no)) (topE q ae) cur.depth rest).getD (cur, ctail) := by
  induction rest generalizing cur ctail with
  | nil => rfl
  | cons f rest ih =>
    rw [containsGo]
    by_cases hd : f.depth ≤ cur.depth
    · simp [hd, pickT]
    · obtain ⟨hf, hrest⟩ := (wfSub_cons _ _ _ hd).mp hwf
      rw [if_neg hd, notContainsQ_eq]
      cases heb : endsBeforeQ f q
      · cases hc : containsQ f q
        · -- `f` is beside `q`: nothing from here on contains `q`
          have hall := no_contains_after q f rest hf heb hc
          rw [pickT_cons_skip rest hd (not_cand_of_not_contains q _ hc),
            pickT_none_of_all _ _ _ _ fun g hg => not_cand_of_not_contains q _ (hall g hg)]
          rfl
        · rw [pickT_cons_container q ae rest hd heb hc (fun g hg => .inr (wfAt_cases f rest hf g hg))
            (wfAt_after f rest hf), ih f rest (wfSub_mono _ _ (by omega) _ hrest)]
          cases exactQ f q && ae == .no
          · cases exactQ f q && ae == .top <;> rfl
          · rfl
      · rw [pickT_cons_skip rest hd (by simp [candContains, heb])]
        exact ih cur ctail hrest

theorem containsGo_eq (q : Loc) (ae : AllowExact) (rest : List FNode) (hwf : wfList rest = true) (cur : FNode)
    (ctail : List FNode) :
    containsGo q ae cur ctail rest
      = (pickT (candContains q (ae != .no)) (topE q ae) cur.depth rest).getD (cur, ctail) :=
  containsGo_eq_sub q ae rest cur ctail (wfSub_of_wfList _ _ hwf)

/-- `find_contains_loc` (no decorated definitions below the start node) returns the brute-force selection, with the
list that follows it; only the well-formedness of the entries below the start node is used -/
theorem findContains_bruteforceT_sub (self : FNode) (tail : List FNode) (q : Loc) (ae : AllowExact)
    (hwf : wfSub self.depth tail = true) :
    findContains (self :: tail) q ae = bruteContainsT (self :: tail) q ae := by
  simp only [findContains, bruteContainsT, containsGo_eq_sub q _ tail self tail hwf]
  cases pickT (candContains q (ae != .no)) (topE q ae) self.depth tail <;> rfl

theorem findContains_bruteforceT (nodes : List FNode) (q : Loc) (ae : AllowExact) (hwf : wfList nodes = true) :
    findContains nodes q ae = bruteContainsT nodes q ae := by
  cases nodes with
  | nil => rfl
  | cons self tail =>
    exact findContains_bruteforceT_sub self tail q ae (wfSub_of_wfList _ _ ((wfList_cons _ _).mp hwf).2)

theorem findContains_bruteforce (nodes : List FNode) (q : Loc) (ae : AllowExact) (hwf : wfList nodes = true) :
    (findContains nodes q ae).map (·.1) = bruteContains nodes q ae := by
  rw [findContains_bruteforceT nodes q ae hwf, bruteContainsT_map_fst]

/-! ## the candidates form a chain: "last candidate" = "deepest candidate" -/

/-- if an entry `f` that does not end before `q` is followed (anywhere later in a well-formed walk list) by an entry `g`
that contains `q`, then `g` lies positionally inside the subtree of `f`: all entries from `f` (exclusive) to `g`
(inclusive) are deeper than `f`.  In particular this holds for two candidates. -/
theorem cand_chain (q : Loc) (pre mid post : List FNode) (f g : FNode)
    (hwf : wfList (pre ++ f :: (mid ++ g :: post)) = true)
    (hf : endsBeforeQ f q = false) (hg : notContainsQ g q = false) :
    ∀ x ∈ mid ++ [g], x.depth > f.depth := by
  have hw := ((wfList_cons _ _).mp (wfList_suffix _ _ (List.suffix_append _ _) hwf)).1
  -- `g` is not behind the subtree of `f`, so the subtree reaches up to `g`
  have hgin : g ∉ (mid ++ g :: post).dropWhile (deeper f.depth) := fun h => by
    have := not_contains_of_after hf (wfAt_after f _ hw g h)
    simp [notContainsQ_eq, this] at hg
  clear hw hwf
  induction mid with
  | nil =>
    intro x hx
    by_cases hd : g.depth ≤ f.depth
    · simp [List.dropWhile_cons_of_neg (show ¬ deeper f.depth g = true by simpa using hd)] at hgin
    · obtain rfl : x = g := by simpa using hx
      omega
  | cons a mid ih =>
    by_cases hd : a.depth ≤ f.depth
    · simp [List.dropWhile_cons_of_neg (show ¬ deeper f.depth a = true by simpa using hd)] at hgin
    · rw [List.cons_append, dropWhile_deeper_cons _ hd] at hgin
      intro x hx
      rcases List.mem_cons.mp hx with rfl | hx
      · omega
      · exact ih hgin x hx

theorem cand_chain_cand (q : Loc) (ax : Bool) (pre mid post : List FNode) (f g : FNode)
    (hwf : wfList (pre ++ f :: (mid ++ g :: post)) = true)
    (hf : candContains q ax f = true) (hg : candContains q ax g = true) :
    g.depth > f.depth ∧ ∀ x ∈ mid, x.depth > f.depth := by
  have h := cand_chain q pre mid post f g hwf ((candContains_iff q ax f).mp hf).1
    (by simp [notContainsQ_eq, ((candContains_iff q ax g).mp hg).2.1])
  exact ⟨h g (by simp), fun x hx => h x (by simp [hx])⟩

theorem cand_pairwise (q : Loc) (ax : Bool) (l : List FNode) (hwf : wfList l = true) :
    (l.filter (candContains q ax)).Pairwise (fun a b => a.depth < b.depth) := by
  induction l with
  | nil => simp
  | cons f rest ih =>
    rw [wfList_cons] at hwf
    rw [List.filter_cons]
    split
    · rename_i hc
      refine List.pairwise_cons.mpr ⟨fun g hg => ?_, ih hwf.2⟩
      rw [List.mem_filter] at hg
      rcases mem_takeWhile_or_dropWhile (deeper f.depth) hg.1 with h | h
      · exact lt_depth_of_mem_takeWhile h
      · have := not_cand_of_not_contains q ax
          (not_contains_of_after ((candContains_iff q ax f).mp hc).1 (wfAt_after f rest hwf.1 g h))
        simp [hg.2] at this
    · exact ih hwf.2

theorem subtree_cands_pairwise (nodes : List FNode) (q : Loc) (ax : Bool) (hwf : wfList nodes = true) :
    (((subtree nodes).drop 1).filter (candContains q ax)).Pairwise (fun a b => a.depth < b.depth) := by
  have hsub : ((subtree nodes).drop 1).Sublist nodes := by
    cases nodes with
    | nil => simp [subtree]
    | cons self tail => exact (List.takeWhile_sublist _).trans (List.sublist_cons_self _ _)
  exact (cand_pairwise q ax nodes hwf).sublist (hsub.filter _)

/-- the brute-force choice "last candidate of the subtree" is the unique deepest candidate of the subtree -/
theorem bruteContains_deepest (nodes : List FNode) (q : Loc) (ax : Bool) (r : FNode) (hwf : wfList nodes = true)
    (hlast : (((subtree nodes).drop 1).filter (candContains q ax)).getLast? = some r) :
    candContains q ax r = true ∧ r ∈ (subtree nodes).drop 1 ∧
    ∀ c ∈ (subtree nodes).drop 1, candContains q ax c = true → c.depth ≤ r.depth ∧ (c.depth = r.depth → c = r) := by
  have hp := subtree_cands_pairwise nodes q ax hwf
  obtain ⟨ys, hys⟩ := List.getLast?_eq_some_iff.mp hlast
  have hr := List.mem_filter.mp (hys ▸ List.mem_append_right ys (List.mem_singleton_self r))
  refine ⟨hr.2, hr.1, fun c hc hcc => ?_⟩
  have hmem := List.mem_filter.mpr ⟨hc, hcc⟩
  rw [hys] at hmem hp
  rcases List.mem_append.mp hmem with h | h
  · have := (List.pairwise_append.mp hp).2.2 c h r (by simp)
    omega
  · cases List.mem_singleton.mp h
    exact ⟨Nat.le_refl _, fun _ => rfl⟩

/-- `allow_exact='top'`: the brute-force choice "first exact candidate of the subtree" is the HIGHEST of the nodes of
the subtree that share the location -/
theorem bruteContains_top_highest (nodes : List FNode) (q : Loc) (r : FNode) (hwf : wfList nodes = true)
    (hfirst : (((subtree nodes).drop 1).filter (candContains q true)).find? (fun f => exactQ f q) = some r) :
    exactQ r q = true ∧ candContains q true r = true ∧ r ∈ (subtree nodes).drop 1 ∧
    ∀ c ∈ (subtree nodes).drop 1, candContains q true c = true → exactQ c q = true →
      r.depth ≤ c.depth ∧ (c.depth = r.depth → c = r) := by
  have hp := subtree_cands_pairwise nodes q true hwf
  obtain ⟨hex, as, bs, hys, has⟩ := List.find?_eq_some_iff_append.mp hfirst
  have hr := List.mem_filter.mp (hys ▸ List.mem_append_right as List.mem_cons_self)
  refine ⟨hex, hr.2, hr.1, fun c hc hcc hce => ?_⟩
  have hmem := List.mem_filter.mpr ⟨hc, hcc⟩
  rw [hys] at hmem hp
  rcases List.mem_append.mp hmem with h | h
  · have := has c h
    simp [hce] at this
  · rcases List.mem_cons.mp h with rfl | h
    · exact ⟨Nat.le_refl _, fun _ => rfl⟩
    · have := (List.pairwise_cons.mp (List.pairwise_append.mp hp).2.1).1 c h
      omega

/-- under `wfList`: whatever `bruteContains … 'top'` returns through the "first exact candidate" branch is exact and the
highest node of the subtree (below the start node) sharing the location -/
theorem bruteContains_top_highest' (self : FNode) (tail : List FNode) (q : Loc) (r : FNode)
    (hwf : wfList (self :: tail) = true) (hc : containsQ self q = true) (hne : exactQ self q = false)
    (hfirst : (((subtree (self :: tail)).drop 1).filter (candContains q true)).find? (fun f => exactQ f q) = some r) :
    bruteContains (self :: tail) q .top = some r ∧ exactQ r q = true ∧
    ∀ c ∈ (subtree (self :: tail)).drop 1, candContains q true c = true → exactQ c q = true → r.depth ≤ c.depth := by
  obtain ⟨hex, _, _, hhigh⟩ := bruteContains_top_highest _ q r hwf hfirst
  refine ⟨?_, hex, fun c h1 h2 h3 => (hhigh c h1 h2 h3).1⟩
  simp only [bruteContains, hc, hne, if_true, Bool.false_and, Bool.false_eq_true, if_false, beq_self_eq_true,
    show (AllowExact.top != AllowExact.no) = true by decide]
  rw [hfirst]

/-! ## the decorator search is inert on plainly well-formed lists -/

theorem decoGo_none (decos : List Nat) (q : Loc) (ae : AllowExact) (d : Nat) (l : List FNode)
    (h : ∀ g ∈ l, g.depth = d + 1 → containsQ g q = false) : decoGo decos q ae d l = none := by
  induction l with
  | nil => rfl
  | cons g rest ih =>
    rw [decoGo, ih fun x hx => h x (List.mem_cons_of_mem _ hx)]
    by_cases hg : g.depth = d + 1
    · simp [findContains, h g List.mem_cons_self hg]
    · simp [hg]

theorem containsGoD_eq_of_wf (decos : List Nat) (q : Loc) (ae : AllowExact) (rest : List FNode)
    (hwf : wfList rest = true) (cur : FNode) (ctail : List FNode) :
    containsGoD decos q ae cur ctail rest = containsGo q ae cur ctail rest := by
  induction rest generalizing cur ctail with
  | nil => rfl
  | cons f rest ih =>
    obtain ⟨hf, hrest⟩ := (wfList_cons f rest).mp hwf
    rw [containsGo, containsGoD, ih hrest, ih hrest]
    cases heb : endsBeforeQ f q
    · cases hnc : notContainsQ f q
      · rfl
      · rw [decoGo_none decos q ae f.depth rest
          fun g hg _ => no_contains_after q f rest hf heb (by simpa [notContainsQ_eq] using hnc) g hg]
    · rfl

theorem findContainsD_eq_of_wf (decos : List Nat) (nodes : List FNode) (q : Loc) (ae : AllowExact)
    (hwf : wfList nodes = true) : findContainsD decos nodes q ae = findContains nodes q ae := by
  cases nodes with
  | nil => rfl
  | cons self tail => rw [findContainsD, findContains, containsGoD_eq_of_wf decos q ae tail ((wfList_cons _ _).mp hwf).2]

theorem findContainsD_bruteforce_wf (decos : List Nat) (nodes : List FNode) (q : Loc) (ae : AllowExact)
    (hwf : wfList nodes = true) : (findContainsD decos nodes q ae).map (·.1) = bruteContains nodes q ae := by
  rw [findContainsD_eq_of_wf decos nodes q ae hwf, findContains_bruteforce nodes q ae hwf]

theorem findContainsD_bruteforceT_wf (decos : List Nat) (nodes : List FNode) (q : Loc) (ae : AllowExact)
    (hwf : wfList nodes = true) : findContainsD decos nodes q ae = bruteContainsT nodes q ae := by
  rw [findContainsD_eq_of_wf decos nodes q ae hwf, findContains_bruteforceT nodes q ae hwf]

/-! ## `find_loc` -/

/-- brute-force reference for `find_loc`: the same three-way composition built from the brute-force selections -/
def bruteLoc (nodes : List FNode) (q : Loc) (exactTop : Bool) : Option FNode :=
  match bruteContainsT nodes q (if exactTop then .top else .yes) with
  | none => bruteIn nodes q
  | some (f, ftail) =>
    if f.col == q.col && f.endCol == q.endCol && f.ln == q.ln && f.endLn == q.endLn then some f
    else match bruteIn (f :: ftail) q with
      | some g => some g
      | none => some f

theorem findLoc_bruteforce (decos : List Nat) (nodes : List FNode) (q : Loc) (exactTop : Bool)
    (hwf : wfList nodes = true) : findLoc decos nodes q exactTop = bruteLoc nodes q exactTop := by
  unfold findLoc bruteLoc
  rw [findContainsD_bruteforceT_wf decos nodes q _ hwf, findIn_bruteforce nodes q hwf]
  cases h : bruteContainsT nodes q (if exactTop then .top else .yes) with
  | none => rfl
  | some r =>
    simp only
    rw [findIn_bruteforce (r.1 :: r.2) q (wfList_suffix _ _ (bruteContainsT_suffix _ _ _ _ _ h) hwf)]
    rfl

/-! ## lists with decorated definitions: `wfListD` -/

theorem decoPrefix_cons_root {decos : List Nat} {d : Nat} {g : FNode} (b : Bool) (rest : List FNode)
    (hg1 : g.depth = d + 1) (hg2 : decos.contains g.id = true) :
    decoPrefix decos d b (g :: rest) = g :: decoPrefix decos d true rest := by
  rw [decoPrefix, if_neg (by omega), if_pos (by simp [hg1]), if_pos hg2]

theorem decoPrefix_cons_inner {decos : List Nat} {d : Nat} {g : FNode} (rest : List FNode) (hg : d + 1 < g.depth) :
    decoPrefix decos d true (g :: rest) = g :: decoPrefix decos d true rest := by
  rw [decoPrefix, if_neg (by omega), if_neg (by simp; omega), if_pos rfl]

theorem decoPrefix_cons_other {decos : List Nat} {d : Nat} {g : FNode} {b : Bool} (rest : List FNode)
    (h : ¬ (g.depth = d + 1 ∧ decos.contains g.id = true)) (h' : ¬ (b = true ∧ d + 1 < g.depth)) :
    decoPrefix decos d b (g :: rest) = [] := by
  rw [decoPrefix]
  by_cases h1 : g.depth = d + 1
  · rw [if_neg (by omega), if_pos (by simp [h1]), if_neg fun h2 => h ⟨h1, h2⟩]
  · by_cases h2 : g.depth ≤ d
    · rw [if_pos h2]
    · rw [if_neg h2, if_neg (by simpa using h1), if_neg fun hb => h' ⟨hb, by omega⟩]

theorem decoPrefix_nil_of_all (decos : List Nat) (d : Nat) (l : List FNode)
    (h : ∀ x ∈ l, decos.contains x.id = false) : decoPrefix decos d false l = [] := by
  cases l with
  | nil => rfl
  | cons g rest =>
    rw [decoPrefix, h g List.mem_cons_self]
    simp

theorem decoPrefix_takeWhile (decos : List Nat) (d : Nat) (b : Bool) (l : List FNode) :
    decoPrefix decos d b (l.takeWhile (deeper d)) = decoPrefix decos d b l := by
  induction l generalizing b with
  | nil => rfl
  | cons g rest ih =>
    by_cases hd : g.depth ≤ d
    · simp [Nat.not_lt.mpr hd, decoPrefix, hd]
    · rw [takeWhile_deeper_cons rest hd]
      simp only [decoPrefix, ih]

theorem decoPrefix_true_split (decos : List Nat) (d : Nat) (l : List FNode) :
    decoPrefix decos d true l
      = l.takeWhile (deeper (d + 1)) ++ decoPrefix decos d false (l.dropWhile (deeper (d + 1))) := by
  induction l with
  | nil => rfl
  | cons g rest ih =>
    by_cases hd : g.depth ≤ d + 1
    · rw [List.takeWhile_cons_of_neg (by simpa using hd), List.dropWhile_cons_of_neg (by simpa using hd)]
      by_cases h1 : g.depth ≤ d
      · simp [decoPrefix, h1]
      · simp [decoPrefix, show g.depth = d + 1 by omega]
    · rw [takeWhile_deeper_cons rest hd, dropWhile_deeper_cons rest hd, List.cons_append, ← ih,
        decoPrefix_cons_inner rest (by omega)]

theorem decoPrefix_prefix (decos : List Nat) (d : Nat) (b : Bool) (l : List FNode) :
    decoPrefix decos d b l <+: l := by
  induction l generalizing b with
  | nil => exact List.prefix_refl _
  | cons g rest ih =>
    by_cases hroot : g.depth = d + 1 ∧ decos.contains g.id = true
    · rw [decoPrefix_cons_root b rest hroot.1 hroot.2]
      exact List.cons_prefix_cons.mpr ⟨rfl, ih true⟩
    · by_cases hin : b = true ∧ d + 1 < g.depth
      · rw [hin.1, decoPrefix_cons_inner rest hin.2]
        exact List.cons_prefix_cons.mpr ⟨rfl, ih true⟩
      · rw [decoPrefix_cons_other rest hroot hin]
        exact List.nil_prefix

theorem wfListD_cons (decos : List Nat) (f : FNode) (rest : List FNode) :
    wfListD decos (f :: rest) = true ↔ wfAtD decos f rest = true ∧ wfListD decos rest = true := by
  simp [wfListD]

/-- `wfAtD` spelled out (the decorator part computed on the whole following list) -/
theorem wfAtD_iff (decos : List Nat) (f : FNode) (rest : List FNode) :
    wfAtD decos f rest = true ↔
      posLe f.start f.stop = true
      ∧ (∀ g ∈ decoPrefix decos f.depth false rest,
          posLe g.stop f.start = true ∧ (g.depth = f.depth + 1 ∨ decos.contains g.id = false))
      ∧ (∀ g ∈ (rest.takeWhile (deeper f.depth)).drop (decoPrefix decos f.depth false rest).length,
          posLe f.start g.start = true ∧ posLe g.stop f.stop = true)
      ∧ (∀ g ∈ rest.dropWhile (deeper f.depth), posLe f.stop g.start = true) := by
  have e : decoPrefix decos f.depth false (List.takeWhile (fun g => decide (g.depth > f.depth)) rest)
      = decoPrefix decos f.depth false rest := decoPrefix_takeWhile decos f.depth false rest
  simp only [wfAtD, e, Bool.and_eq_true, List.all_eq_true, Bool.or_eq_true, beq_iff_eq, Bool.not_eq_true',
    and_assoc]

theorem wfAt_of_wfAtD (decos : List Nat) (f : FNode) (rest : List FNode) (h : wfAtD decos f rest = true)
    (hno : ∀ x ∈ rest.takeWhile (deeper f.depth), decos.contains x.id = false) : wfAt f rest = true := by
  rw [wfAtD_iff, ← decoPrefix_takeWhile, decoPrefix_nil_of_all _ _ _ hno] at h
  simp only [wfAt, Bool.and_eq_true, List.all_eq_true]
  exact ⟨⟨h.1, h.2.2.1⟩, h.2.2.2⟩

theorem wfAtD_behind (decos : List Nat) (f : FNode) (rest : List FNode) (h : wfAtD decos f rest = true) (g : FNode)
    (hg : g ∈ rest.drop (decoPrefix decos f.depth false rest).length) :
    (posLe f.start g.start = true ∧ posLe g.stop f.stop = true) ∨ posLe f.stop g.start = true := by
  have hw := ((wfAtD_iff decos f rest).mp h).2.2
  -- the decorator part is a prefix of the subtree of `f`
  have hle := (decoPrefix_takeWhile decos f.depth false rest ▸
    decoPrefix_prefix decos f.depth false (rest.takeWhile (deeper f.depth))).length_le
  generalize (decoPrefix decos f.depth false rest).length = n at *
  rw [← List.takeWhile_append_dropWhile (p := deeper f.depth) (l := rest), List.drop_append_of_le_length hle] at hg
  exact (List.mem_append.mp hg).imp (hw.1 g) (hw.2 g)

theorem wfAtD_cases (decos : List Nat) (f : FNode) (rest : List FNode) (h : wfAtD decos f rest = true) (g : FNode)
    (hg : g ∈ rest) :
    posLe g.stop f.start = true ∨ (posLe f.start g.start = true ∧ posLe g.stop f.stop = true) ∨
      posLe f.stop g.start = true := by
  rw [← List.take_append_drop (decoPrefix decos f.depth false rest).length rest,
    ← List.prefix_iff_eq_take.mp (decoPrefix_prefix decos f.depth false rest)] at hg
  exact (List.mem_append.mp hg).imp (fun hg => (((wfAtD_iff decos f rest).mp h).2.1 g hg).1)
    (wfAtD_behind decos f rest h g)

theorem wfSub_of_wfListD (decos : List Nat) (d : Nat) (l : List FNode) (h : wfListD decos l = true)
    (hno : ∀ x ∈ l.takeWhile (deeper d), decos.contains x.id = false) : wfSub d l = true := by
  induction l with
  | nil => rfl
  | cons f rest ih =>
    by_cases hd : f.depth ≤ d
    · simp [wfSub, hd]
    · rw [wfListD_cons] at h
      rw [takeWhile_deeper_cons rest hd] at hno
      have hno' : ∀ x ∈ List.takeWhile (deeper d) rest, decos.contains x.id = false :=
        fun x hx => hno x (List.mem_cons_of_mem _ hx)
      refine (wfSub_cons _ _ _ hd).mpr ⟨wfAt_of_wfAtD decos f rest h.1 fun x hx => hno' x ?_, ih h.2 hno'⟩
      rw [takeWhile_split d f.depth (by omega) rest]
      exact List.mem_append_left _ hx

end Pfst.Scan

namespace Pfst.C06
open Pfst.Scan

/-- Non-empty query rectangle. -/
def nonEmpty (q : Loc) : Prop := q.ln < q.endLn ∨ (q.ln = q.endLn ∧ q.col < q.endCol)

end Pfst.C06

namespace Pfst.Scan

/-- a node that contains a NON-EMPTY rectangle does not end at or before its start: for such rectangles the entry test
of `find_contains_loc` and the loop's candidate test agree -/
theorem not_endsBefore_of_contains (q : Loc) (hq : C06.nonEmpty q) (g : FNode)
    (h : containsQ g q = true) : endsBeforeQ g q = false := by
  refine Bool.eq_false_iff.mpr fun hc => ?_
  have := posLe_trans ((containsQ_iff g q).mp h).2 (endsBeforeQ_eq g q ▸ hc)
  simp only [posLe_iff, C06.nonEmpty] at this hq
  omega

/-- THE DECORATOR SEARCH at a definition of depth `d` that does not contain `q`: on a list that consists of decorator
subtrees (without inner decorator roots), followed by entries none of which contains `q`, the search returns the
`pickT` selection over the list.  The induction follows the flag `b` of `decoPrefix`: with `b = true` the list starts
inside the subtree of a decorator root that does not contain `q`. -/
theorem decoGo_eq (decos : List Nat) (q : Loc) (ae : AllowExact)
    (hq : C06.nonEmpty q) (d D : Nat) (hD : D ≤ d) (l : List FNode) (b : Bool)
    (hwf : wfListD decos l = true)
    (h2 : ∀ x ∈ decoPrefix decos d b l, x.depth = d + 1 ∨ decos.contains x.id = false)
    (h3 : ∀ x ∈ l.drop (decoPrefix decos d b l).length, containsQ x q = false)
    (h4 : b = true → ∀ x ∈ l.takeWhile (deeper (d + 1)), containsQ x q = false) :
    decoGo decos q ae d l = pickT (candContains q (ae != .no)) (topE q ae) D l := by
  induction l generalizing b with
  | nil => rfl
  | cons g rest ih =>
    obtain ⟨hwg, hwrest⟩ := (wfListD_cons decos g rest).mp hwf
    by_cases hroot : g.depth = d + 1 ∧ decos.contains g.id = true
    · obtain ⟨hg1, hg2⟩ := hroot
      have hgD : ¬ g.depth ≤ D := by omega
      rw [decoPrefix_cons_root b rest hg1 hg2] at h2 h3
      have hnoroot : ∀ x ∈ rest.takeWhile (deeper g.depth), decos.contains x.id = false := by
        intro x hx
        rw [hg1] at hx
        rcases h2 x (.tail _ (decoPrefix_true_split decos d rest ▸ List.mem_append_left _ hx)) with h | h
        · have := lt_depth_of_mem_takeWhile hx
          omega
        · exact h
      have hwfAt := wfAt_of_wfAtD decos g rest hwg hnoroot
      rw [decoGo, if_neg (by omega), if_pos (by rw [hg1, hg2]; simp), findContains]
      cases hcg : containsQ g q
      · -- `g` does not contain `q`, nor does anything in its subtree: go on inside the decorator part
        rw [if_neg (by simp), pickT_cons_skip rest hgD (not_cand_of_not_contains q _ hcg)]
        exact ih true hwrest (fun x hx => h2 x (.tail _ hx)) h3 fun _ x hx =>
          Bool.eq_false_iff.mpr fun hc => Bool.eq_false_iff.mp hcg
            (containsQ_of_encloses (wfAt_in g rest hwfAt x (hg1 ▸ hx)) hc)
      · -- `g` contains `q`: the recursive call decides; nothing behind the subtree of `g` matters
        have heb := not_endsBefore_of_contains q hq g hcg
        rw [if_pos rfl, containsGo_eq_sub q ae rest g rest (wfSub_of_wfListD decos g.depth rest hwrest hnoroot),
          pickT_cons_container q ae rest hgD heb hcg (fun x hx => .inr (wfAt_cases g rest hwfAt x hx))
            (wfAt_after g rest hwfAt),
          decoGo_none decos q ae d rest fun x hx hx1 => ?_]
        · cases exactQ g q && ae == .no
          · cases exactQ g q && ae == .top <;> rfl
          · rfl
        · -- the later roots lie behind the subtree of `g`
          rcases mem_takeWhile_or_dropWhile (deeper g.depth) hx with h | h
          · have := lt_depth_of_mem_takeWhile h
            omega
          · exact not_contains_of_after heb (wfAt_after g rest hwfAt x h)
    · by_cases hin : b = true ∧ d + 1 < g.depth
      · -- inside the subtree of a decorator root that does not contain `q`
        obtain ⟨rfl, hg⟩ := hin
        rw [decoPrefix_cons_inner rest hg] at h2 h3
        rw [takeWhile_deeper_cons rest (by omega)] at h4
        rw [decoGo, if_neg (by omega), if_neg (by simp; omega),
          pickT_cons_skip rest (by omega) (not_cand_of_not_contains q _ (h4 rfl g List.mem_cons_self))]
        exact ih true hwrest (fun x hx => h2 x (.tail _ hx)) h3 fun _ x hx => h4 rfl x (.tail _ hx)
      · -- the decorator part has ended: nothing from here on contains `q`
        rw [decoPrefix_cons_other rest hroot hin, List.length_nil, List.drop_zero] at h3
        rw [decoGo_none decos q ae d _ fun x hx _ => h3 x hx,
          pickT_none_of_all _ _ _ _ fun x hx => not_cand_of_not_contains q _ (h3 x hx)]

/-- the repaired loop (with the decorator search) returns the `pickT` selection on lists with decorated definitions,
for non-empty rectangles -/
theorem containsGoD_eq (decos : List Nat) (q : Loc) (ae : AllowExact)
    (hq : C06.nonEmpty q) (rest : List FNode)
    (hwf : wfListD decos rest = true) (cur : FNode) (ctail : List FNode) :
    containsGoD decos q ae cur ctail rest
      = (pickT (candContains q (ae != .no)) (topE q ae) cur.depth rest).getD (cur, ctail) := by
  induction rest generalizing cur ctail with
  | nil => rfl
  | cons f rest ih =>
    obtain ⟨hf, hrest⟩ := (wfListD_cons decos f rest).mp hwf
    rw [containsGoD]
    by_cases hd : f.depth ≤ cur.depth
    · simp [hd, pickT]
    · rw [if_neg hd, notContainsQ_eq]
      cases heb : endsBeforeQ f q
      · cases hc : containsQ f q
        · -- `f` is beside `q`: its decorators are searched, nothing behind them contains `q`
          rw [pickT_cons_skip rest hd (not_cand_of_not_contains q _ hc),
            ← decoGo_eq decos q ae hq f.depth cur.depth (by omega) rest false hrest
              (fun x hx => (((wfAtD_iff decos f rest).mp hf).2.1 x hx).2)
              (fun x hx => not_contains_of_beside heb hc (wfAtD_behind decos f rest hf x hx)) nofun]
          cases decoGo decos q ae f.depth rest <;> rfl
        · -- the decorators of `f` end at or before its start
          rw [pickT_cons_container q ae rest hd heb hc (wfAtD_cases decos f rest hf)
            ((wfAtD_iff decos f rest).mp hf).2.2.2, ih hrest f rest]
          cases exactQ f q && ae == .no
          · cases exactQ f q && ae == .top <;> rfl
          · rfl
      · rw [pickT_cons_skip rest hd (by simp [candContains, heb])]
        exact ih hrest cur ctail

/-- THE REPAIRED `find_contains_loc` on real walk lists WITH decorated definitions returns the brute-force selection
over all nodes of the subtree (non-empty rectangles), with the list that follows it -/
theorem findContainsD_bruteforceT (decos : List Nat) (nodes : List FNode) (q : Loc) (ae : AllowExact)
    (hwf : wfListD decos nodes = true) (hq : C06.nonEmpty q) :
    findContainsD decos nodes q ae = bruteContainsT nodes q ae := by
  cases nodes with
  | nil => rfl
  | cons self tail =>
    simp only [findContainsD, bruteContainsT, containsGoD_eq decos q ae hq tail ((wfListD_cons _ _ _).mp hwf).2]
    cases pickT (candContains q (ae != .no)) (topE q ae) self.depth tail <;> rfl

theorem findContainsD_bruteforce (decos : List Nat) (nodes : List FNode) (q : Loc) (ae : AllowExact)
    (hwf : wfListD decos nodes = true) (hq : C06.nonEmpty q) :
    (findContainsD decos nodes q ae).map (·.1) = bruteContains nodes q ae := by
  rw [findContainsD_bruteforceT decos nodes q ae hwf hq, bruteContainsT_map_fst]

/-- `find_loc` on lists with decorated definitions: the contains-part is the brute-force selection; the inside-part is
still the pass `findIn` (there is no brute-force theorem for `find_in_loc` on decorated lists) -/
theorem findLoc_decorated_partial (decos : List Nat) (nodes : List FNode) (q : Loc) (exactTop : Bool)
    (hwf : wfListD decos nodes = true) (hq : C06.nonEmpty q) :
    findLoc decos nodes q exactTop =
      match bruteContainsT nodes q (if exactTop then .top else .yes) with
      | none => findIn nodes q
      | some (f, ftail) =>
        if f.col == q.col && f.endCol == q.endCol && f.ln == q.ln && f.endLn == q.endLn then some f
        else match findIn (f :: ftail) q with
          | some g => some g
          | none => some f := by
  rw [findLoc, findContainsD_bruteforceT decos nodes q _ hwf hq]
  rfl

theorem wfListD_nil_of_wfList (nodes : List FNode) (hwf : wfList nodes = true) : wfListD [] nodes = true := by
  induction nodes with
  | nil => rfl
  | cons f rest ih =>
    rw [wfList_cons] at hwf
    refine (wfListD_cons _ _ _).mpr ⟨?_, ih hwf.2⟩
    rw [wfAtD_iff, decoPrefix_nil_of_all [] _ _ (fun _ _ => rfl)]
    exact ⟨wfAt_self f rest hwf.1, nofun, wfAt_in f rest hwf.1, wfAt_after f rest hwf.1⟩

/-! ## non-vacuity: the source `a + b` -/

/-- `Module > Expr > BinOp > (Name a, Add, Name b)` for the source `a + b` -/
def exNodes : List FNode :=
  [⟨0, 0, 0, 0, 5, 0⟩, ⟨1, 0, 0, 0, 5, 1⟩, ⟨2, 0, 0, 0, 5, 2⟩, ⟨3, 0, 0, 0, 1, 3⟩, ⟨4, 0, 2, 0, 3, 3⟩, ⟨5, 0, 4, 0, 5, 3⟩]

example : wfList exNodes = true := by decide +kernel
example : wfListD [] exNodes = true := by decide +kernel
-- rectangle of `b`: lowest container / first contained / best fit is `Name b`
example : (findContains exNodes ⟨0, 4, 0, 5⟩ .yes).map (·.1) = some ⟨5, 0, 4, 0, 5, 3⟩ := by decide +kernel
example : (findContains exNodes ⟨0, 4, 0, 5⟩ .no).map (·.1) = some ⟨2, 0, 0, 0, 5, 2⟩ := by decide +kernel
example : (findContains exNodes ⟨0, 4, 0, 5⟩ .top).map (·.1) = some ⟨5, 0, 4, 0, 5, 3⟩ := by decide +kernel
example : (findContainsD [] exNodes ⟨0, 4, 0, 5⟩ .yes).map (·.1) = some ⟨5, 0, 4, 0, 5, 3⟩ := by decide +kernel
example : findIn exNodes ⟨0, 4, 0, 5⟩ = some ⟨5, 0, 4, 0, 5, 3⟩ := by decide +kernel
example : findLoc [] exNodes ⟨0, 4, 0, 5⟩ false = some ⟨5, 0, 4, 0, 5, 3⟩ := by decide +kernel
-- whole source: `exact_top` chooses Module, otherwise the lowest exact match BinOp; `allow_exact=False` gives None
example : findLoc [] exNodes ⟨0, 0, 0, 5⟩ true = some ⟨0, 0, 0, 0, 5, 0⟩ := by decide +kernel
example : findLoc [] exNodes ⟨0, 0, 0, 5⟩ false = some ⟨2, 0, 0, 0, 5, 2⟩ := by decide +kernel
example : findContains exNodes ⟨0, 0, 0, 5⟩ .no = none := by decide +kernel
-- `'top'` honoured INSIDE the descent: started at `Expr`'s parent with a rectangle that the Module does not match
-- exactly (list = the subtree of a Module `0,0..1,0` for the source `a + b⏎`): the highest exact match is `Expr`
example : (findContains (⟨9, 0, 0, 1, 0, 0⟩ :: exNodes.drop 1) ⟨0, 0, 0, 5⟩ .top).map (·.1)
    = some ⟨1, 0, 0, 0, 5, 1⟩ := by decide +kernel
example : bruteContains (⟨9, 0, 0, 1, 0, 0⟩ :: exNodes.drop 1) ⟨0, 0, 0, 5⟩ .top = some ⟨1, 0, 0, 0, 5, 1⟩ := by decide +kernel
example : (findContains (⟨9, 0, 0, 1, 0, 0⟩ :: exNodes.drop 1) ⟨0, 0, 0, 5⟩ .yes).map (·.1)
    = some ⟨2, 0, 0, 0, 5, 2⟩ := by decide +kernel
-- `a +` (0,0..0,3): contained by BinOp, first node inside is `Name a`; find_loc prefers the contained one
example : (findContains exNodes ⟨0, 0, 0, 3⟩ .yes).map (·.1) = some ⟨2, 0, 0, 0, 5, 2⟩ := by decide +kernel
example : findIn exNodes ⟨0, 0, 0, 3⟩ = some ⟨3, 0, 0, 0, 1, 3⟩ := by decide +kernel
example : findLoc [] exNodes ⟨0, 0, 0, 3⟩ false = some ⟨3, 0, 0, 0, 1, 3⟩ := by decide +kernel
-- rectangles which reach outside the tree: no container; the first node inside, if any
example : findLoc [] exNodes ⟨0, 2, 1, 4⟩ false = some ⟨4, 0, 2, 0, 3, 3⟩ := by decide +kernel
example : findLoc [] exNodes ⟨0, 6, 1, 4⟩ false = none := by decide +kernel
-- the functions agree with the brute force on these
example : findLoc [] exNodes ⟨0, 0, 0, 3⟩ false = bruteLoc exNodes ⟨0, 0, 0, 3⟩ false := by decide +kernel
example : findLoc [] exNodes ⟨0, 0, 0, 5⟩ true = bruteLoc exNodes ⟨0, 0, 0, 5⟩ true := by decide +kernel
-- a list continuing after the subtree of its first node (start node `BinOp` followed by a sibling statement)
example : (findContains (exNodes.drop 2 ++ [⟨6, 1, 0, 1, 1, 1⟩]) ⟨1, 0, 1, 1⟩ .yes) = none := by decide +kernel
example : wfList (exNodes.drop 2 ++ [⟨6, 1, 0, 1, 1, 1⟩]) = true := by decide +kernel

/-! ## decorated definitions -/

/-- `@deco⏎def f(): pass`: the `FunctionDef` span `1,0..1,13` starts after its decorator child `Name deco 0,1..0,5`;
decorator root id 2 -/
def exDeco : List FNode :=
  [⟨0, 0, 0, 1, 13, 0⟩, ⟨1, 1, 0, 1, 13, 1⟩, ⟨2, 0, 1, 0, 5, 2⟩, ⟨3, 1, 9, 1, 13, 2⟩]

/-- a decorated definition is not `wfList` but `wfListD`; the repaired `find_contains_loc` / `find_loc` find the
decorator `Name`, as the scan over all nodes does -/
theorem findContains_decorated_witness :
    wfList exDeco = false
    ∧ wfListD [2] exDeco = true
    ∧ (findContainsD [2] exDeco ⟨0, 1, 0, 5⟩ .yes).map (·.1) = some ⟨2, 0, 1, 0, 5, 2⟩
    ∧ bruteContains exDeco ⟨0, 1, 0, 5⟩ .yes = some ⟨2, 0, 1, 0, 5, 2⟩
    ∧ findLoc [2] exDeco ⟨0, 2, 0, 4⟩ false = some ⟨2, 0, 1, 0, 5, 2⟩ := by decide +kernel

/-- the pass WITHOUT the decorator search (the function before the repair) stops at the Module -/
example : (findContains exDeco ⟨0, 1, 0, 5⟩ .yes).map (·.1) = some ⟨0, 0, 0, 1, 13, 0⟩ := by decide +kernel
example : (findContains exDeco ⟨0, 1, 0, 5⟩ .yes).map (·.1) ≠ bruteContains exDeco ⟨0, 1, 0, 5⟩ .yes := by decide +kernel

/-- `@a.b⏎@c(d)⏎def f(): pass`: two decorators with subtrees (`Attribute a.b > Name a`, `Call c(d) > Name c, Name d`),
decorator roots 2 and 4 -/
def exDeco2 : List FNode :=
  [⟨0, 0, 0, 2, 13, 0⟩, ⟨1, 2, 0, 2, 13, 1⟩, ⟨2, 0, 1, 0, 4, 2⟩, ⟨3, 0, 1, 0, 2, 3⟩,
   ⟨4, 1, 1, 1, 5, 2⟩, ⟨5, 1, 1, 1, 2, 3⟩, ⟨6, 1, 3, 1, 4, 3⟩, ⟨7, 2, 9, 2, 13, 2⟩]

example : wfList exDeco2 = false ∧ wfListD [2, 4] exDeco2 = true := by decide +kernel
-- the second decorator's argument `d`, found through the decorator search; `allow_exact=False` gives the `Call`
example : (findContainsD [2, 4] exDeco2 ⟨1, 3, 1, 4⟩ .yes).map (·.1) = some ⟨6, 1, 3, 1, 4, 3⟩ := by decide +kernel
example : (findContainsD [2, 4] exDeco2 ⟨1, 3, 1, 4⟩ .no).map (·.1) = some ⟨4, 1, 1, 1, 5, 2⟩ := by decide +kernel
example : (findContainsD [2, 4] exDeco2 ⟨0, 1, 0, 2⟩ .top).map (·.1) = some ⟨3, 0, 1, 0, 2, 3⟩ := by decide +kernel
-- an exact match of a decorator root with `allow_exact=False`: the Module, on both sides
example : (findContainsD [2, 4] exDeco2 ⟨0, 1, 0, 4⟩ .no).map (·.1) = some ⟨0, 0, 0, 2, 13, 0⟩
    ∧ bruteContains exDeco2 ⟨0, 1, 0, 4⟩ .no = some ⟨0, 0, 0, 2, 13, 0⟩ := by decide +kernel
-- the theorem applies (hypotheses are satisfiable on decorated lists)
example : (findContainsD [2, 4] exDeco2 ⟨1, 3, 1, 4⟩ .yes).map (·.1) = bruteContains exDeco2 ⟨1, 3, 1, 4⟩ .yes :=
  findContainsD_bruteforce [2, 4] exDeco2 _ _ (by decide +kernel) (.inr ⟨rfl, by decide⟩)

/-- `var⏎`: `Module 0,0..1,0 > Expr 0,0..0,3 > Name 0,0..0,3` -/
def exVar : List FNode := [⟨0, 0, 0, 1, 0, 0⟩, ⟨1, 0, 0, 0, 3, 1⟩, ⟨2, 0, 0, 0, 3, 2⟩]

/-- `exact_top` / `allow_exact='top'` below a start node that is not itself the exact match: the highest (`Expr`) of
the nodes sharing the location, without it the lowest (`Name`) -/
theorem findLoc_exactTop_witness :
    wfList exVar = true
    ∧ findLoc [] exVar ⟨0, 0, 0, 3⟩ true = some ⟨1, 0, 0, 0, 3, 1⟩
    ∧ findLoc [] exVar ⟨0, 0, 0, 3⟩ false = some ⟨2, 0, 0, 0, 3, 2⟩
    ∧ (findContainsD [] exVar ⟨0, 0, 0, 3⟩ .top).map (·.1) = some ⟨1, 0, 0, 0, 3, 1⟩
    ∧ bruteContains exVar ⟨0, 0, 0, 3⟩ .top = some ⟨1, 0, 0, 0, 3, 1⟩ := by decide +kernel

/-- why `findContainsD_bruteforce` needs a non-empty rectangle: `@d⏎def f(): pass` (`Module`, `FunctionDef 1,0..1,13`,
decorator `Name d 0,1..0,2`), empty rectangle at the END of the decorator: the entry test of the recursive call accepts
the decorator, the ends-at-or-before test of the loop (= the brute-force candidate test) rejects it -/
def exDecoEmpty : List FNode := [⟨0, 0, 0, 5, 0, 0⟩, ⟨1, 1, 0, 1, 13, 1⟩, ⟨2, 0, 1, 0, 2, 2⟩]

example : wfListD [2] exDecoEmpty = true
    ∧ (findContainsD [2] exDecoEmpty ⟨0, 2, 0, 2⟩ .yes).map (·.1) = some ⟨2, 0, 1, 0, 2, 2⟩
    ∧ bruteContains exDecoEmpty ⟨0, 2, 0, 2⟩ .yes = some ⟨0, 0, 0, 5, 0, 0⟩
    ∧ (findContainsD [2] exDecoEmpty ⟨0, 2, 0, 2⟩ .yes).map (·.1) ≠ bruteContains exDecoEmpty ⟨0, 2, 0, 2⟩ .yes := by
  decide +kernel

end Pfst.Scan
