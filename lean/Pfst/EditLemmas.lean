import Pfst.Edit
/-! Lemmas for the one-dimensional replacement model. -/
namespace Pfst.Edit

variable {α : Type}

theorem shiftPt_mono (ed : Ed α) {p q : Nat} (h : p ≤ q) : shiftPt ed p ≤ shiftPt ed q := by
  unfold shiftPt; omega

theorem shiftPt_ge (ed : Ed α) (p : Nat) : ed.s + ed.new.length ≤ shiftPt ed p :=
  Nat.le_add_left _ _

theorem shiftPt_sub (ed : Ed α) {p : Nat} (q : Nat) (hp : ed.e ≤ p) : shiftPt ed q - shiftPt ed p = q - p := by
  unfold shiftPt
  rw [Nat.add_sub_add_right, Nat.sub_sub_sub_cancel_right hp]

theorem take_applyText (t : List α) (ed : Ed α) {p : Nat} (hp : p ≤ ed.s) (h2 : ed.s ≤ t.length) :
    (applyText t ed).take p = t.take p := by
  unfold applyText
  rw [List.append_assoc, List.take_append_of_le_length (by rw [List.length_take]; omega), List.take_take,
    Nat.min_eq_left hp]

theorem drop_applyText (t : List α) (ed : Ed α) {p : Nat} (hp : ed.e ≤ p) (h2 : ed.s ≤ t.length) :
    (applyText t ed).drop (shiftPt ed p) = t.drop p := by
  unfold applyText shiftPt
  have hl : (t.take ed.s ++ ed.new).length = ed.s + ed.new.length := by
    rw [List.length_append, List.length_take, Nat.min_eq_left h2]
  rw [Nat.add_comm, ← hl, List.drop_length_add_append, List.drop_drop]
  congr 1
  omega

theorem wfT_iff (t : T) : wfT t = true ↔ t.sp.s ≤ t.sp.e ∧ wfL t.sp.s t.sp.e t.kids = true := by
  cases t; simp only [wfT, T.sp, T.kids, Bool.and_eq_true, decide_eq_true_eq]

theorem wfL_nil {lo hi : Nat} : wfL lo hi [] = true ↔ lo ≤ hi := by
  simp only [wfL, decide_eq_true_eq]

theorem wfL_cons {lo hi : Nat} {t : T} {r : List T} :
    wfL lo hi (t :: r) = true ↔ lo ≤ t.sp.s ∧ wfT t = true ∧ wfL t.sp.e hi r = true := by
  cases t; simp only [wfL, T.sp, Bool.and_eq_true, decide_eq_true_eq, and_assoc]

mutual
theorem placeT_wf (o : Nat) : ∀ t : T, wfT t = true → wfT (placeT o t) = true
  | .mk i sp kids, h => by
    rw [wfT_iff] at h ⊢
    exact ⟨Nat.add_le_add_right h.1 o, placeL_wf o sp.s sp.e kids h.2⟩
theorem placeL_wf (o : Nat) : ∀ (lo hi : Nat) (l : List T), wfL lo hi l = true → wfL (lo + o) (hi + o) (placeL o l) = true
  | lo, hi, [], h => by
    rw [placeL, wfL_nil]
    exact Nat.add_le_add_right (wfL_nil.mp h) o
  | lo, hi, .mk i sp kids :: r, h => by
    rw [wfL_cons] at h
    rw [placeL, wfL_cons]
    exact ⟨Nat.add_le_add_right h.1 o, placeT_wf o _ h.2.1, placeL_wf o sp.e hi r h.2.2⟩
end

mutual
theorem wfT_shiftT (ed : Ed α) : ∀ t : T, wfT t = true → wfT (shiftT ed t) = true
  | .mk i sp kids, h => by
    rw [wfT_iff] at h ⊢
    exact ⟨shiftPt_mono ed h.1, shiftL_wf ed sp.s sp.e kids h.2⟩
theorem shiftL_wf (ed : Ed α) : ∀ (lo hi : Nat) (l : List T), wfL lo hi l = true →
    wfL (shiftPt ed lo) (shiftPt ed hi) (shiftL ed l) = true
  | lo, hi, [], h => by
    rw [shiftL, wfL_nil]
    exact shiftPt_mono ed (wfL_nil.mp h)
  | lo, hi, .mk i sp kids :: r, h => by
    rw [wfL_cons] at h
    rw [shiftL, wfL_cons]
    exact ⟨shiftPt_mono ed h.1, wfT_shiftT ed _ h.2.1, shiftL_wf ed sp.e hi r h.2.2⟩
end

theorem shiftT_wf (ed : Ed α) : ∀ t : T, wfT t = true → ed.e ≤ t.sp.s → wfT (shiftT ed t) = true :=
  fun t h _ => wfT_shiftT ed t h

theorem pathOk_contains (ed : Ed α) : ∀ (path : List Nat) (t : T), pathOk ed path t = true →
    t.sp.s ≤ ed.s ∧ ed.e ≤ t.sp.e
  | [], .mk _ sp _, h => by
    simp only [pathOk, Bool.and_eq_true, beq_iff_eq] at h
    exact ⟨Nat.le_of_eq h.1, Nat.le_of_eq h.2.symm⟩
  | i :: rest, .mk _ sp kids, h => by
    simp only [pathOk, Bool.and_eq_true, decide_eq_true_eq] at h
    exact ⟨h.1.1, h.1.2⟩

mutual
/-- The root span of the result is part of the statement: `replaceKids_wf` needs it to place the shifted siblings
behind the replaced child. -/
theorem replaceAt_wf (ed : Ed α) (sub : T) (hsub : wfT sub = true) (hsp : sub.sp = ⟨0, ed.new.length⟩) (h0 : ed.s ≤ ed.e) :
    ∀ (path : List Nat) (t : T), wfT t = true → pathOk ed path t = true →
      wfT (replaceAt ed sub path t) = true ∧ (replaceAt ed sub path t).sp = ⟨t.sp.s, shiftPt ed t.sp.e⟩
  | [], .mk i sp kids, _, hp => by
    simp only [pathOk, Bool.and_eq_true, beq_iff_eq] at hp
    obtain ⟨j, ssp, skids⟩ := sub
    simp only [T.sp] at hsp
    subst hsp
    refine ⟨placeT_wf ed.s _ hsub, ?_⟩
    simp only [replaceAt, placeT, T.sp, shiftPt, Span.mk.injEq]
    omega
  | n :: rest, .mk i sp kids, hw, hp => by
    rw [wfT_iff] at hw
    simp only [pathOk, Bool.and_eq_true, decide_eq_true_eq] at hp
    have hk := replaceKids_wf ed sub hsub hsp h0 n rest sp.s sp.e kids hw.2 hp.2
    refine ⟨(wfT_iff _).mpr ⟨?_, hk⟩, rfl⟩
    exact Nat.le_trans hp.1.1 (Nat.le_trans (Nat.le_add_right _ _) (shiftPt_ge ed sp.e))
theorem replaceKids_wf (ed : Ed α) (sub : T) (hsub : wfT sub = true) (hsp : sub.sp = ⟨0, ed.new.length⟩) (h0 : ed.s ≤ ed.e) :
    ∀ (n : Nat) (rest : List Nat) (lo hi : Nat) (kids : List T), wfL lo hi kids = true → pathOkKids ed n rest kids = true →
      wfL lo (shiftPt ed hi) (replaceKids ed sub n rest kids) = true
  | _, _, _, _, [], _, hp => by simp [pathOkKids] at hp
  | 0, rest, lo, hi, .mk i sp kids :: r, hw, hp => by
    rw [pathOkKids] at hp
    obtain ⟨hw1, hw2, hw3⟩ := wfL_cons.mp hw
    obtain ⟨h1, h2⟩ := replaceAt_wf ed sub hsub hsp h0 rest (.mk i sp kids) hw2 hp
    rw [replaceKids, wfL_cons, h2]
    exact ⟨hw1, h1, shiftL_wf ed sp.e hi r hw3⟩
  | n + 1, rest, lo, hi, .mk i sp kids :: r, hw, hp => by
    rw [pathOkKids] at hp
    obtain ⟨hw1, hw2, hw3⟩ := wfL_cons.mp hw
    rw [replaceKids, wfL_cons]
    exact ⟨hw1, hw2, replaceKids_wf ed sub hsub hsp h0 n rest sp.e hi r hw3 hp⟩
end

end Pfst.Edit
