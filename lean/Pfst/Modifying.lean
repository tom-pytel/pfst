/-
Model of the modification registry of pfst (src/fst/fst_core.py):

  `_MODIFYING = {}`                          process-global dict  root -> (node, depth)
  `class _Modifying`                         `enter / success / fail / __exit__`

and of the three places that drive it with a non-trivial control skeleton:

  `FST.unpar`   (fst.py)                      manual `enter() ... fail() | success()`
  `_put_one`    (fst_put_one.py)              guards, handler inside `with`, raw fallback inside a second `with`
  `_put_slice`  (fst_put_slice.py)            same skeleton (no `force`)
  `FST.replace` on a root node (fst.py)       guards (`code is None`, `to`, own root, consumed FST — the last two since
                                              fix C12-F2/F3) BEFORE `with self._modifying(): code_as_all; swap lines; _set_ast`
  `FST.put_src(action='reparse')` (fst.py)    `with parent._modifying(False, True): parent._reparse_raw(...)`: this is
                                              `Prog.withM parent (raw := true) (force := false) body`; the correspondence
                                              drives the real `put_src` with `_reparse_raw` stubbed to run `body`

plus an abstract edit step `step = validate >> apply` over an abstract tree state (the shape the put handlers are
supposed to have: all parsing / coercion / validation before the first splice).

The registry part mirrors the code that exists: a Python dict is an insertion-ordered association list with first-match
lookup; assigning an existing key keeps its place, a new key goes to the end, `del` removes the key.  The f-string
debug-text bookkeeping done by `enter`/`success` (fields `fst`, `field`, `data`) is NOT modelled: it does not touch the
registry.  No imports: this file is linked into the native driver.
-/
namespace Pfst.Modifying

abbrev Root := Nat
abbrev NodeId := Nat

/-- An `FST` node as the registry sees it: the root of its tree (`fst_.root` at `enter()` time, stored in `self.root`)
and its identity inside that tree. -/
structure NodeRef where
  root : Root
  node : NodeId
deriving DecidableEq, Repr, Inhabited

/-- `_MODIFYING`: `{root: (fst_, count)}` as an insertion-ordered association list. -/
abbrev Reg := List (Root × (NodeId × Nat))

/-- `_MODIFYING.get(root)` -/
def Reg.get : Reg → Root → Option (NodeId × Nat)
  | [], _ => none
  | (k, v) :: t, r => if k = r then some v else Reg.get t r

/-- `_MODIFYING[root] = v` (existing key: replaced in place; new key: appended) -/
def Reg.set : Reg → Root → (NodeId × Nat) → Reg
  | [], r, v => [(r, v)]
  | (k, w) :: t, r, v => if k = r then (k, v) :: t else (k, w) :: Reg.set t r v

/-- `del _MODIFYING[root]` -/
def Reg.del : Reg → Root → Reg
  | [], _ => []
  | (k, w) :: t, r => if k = r then t else (k, w) :: Reg.del t r

/-- Every entry has depth ≥ 1 (what `enter` establishes; the state space the code can reach). -/
def Reg.wf : Reg → Bool
  | [] => true
  | (_, (_, d)) :: t => decide (1 ≤ d) && Reg.wf t

/-- Exceptions that matter to the registry. -/
inductive Exc where
  /-- raised by the code running inside the modification (`catchable` = `NodeError | SyntaxError |
  NotImplementedError`, the classes the raw fallback of `_put_one` / `_put_slice` catches) -/
  | user (catchable : Bool)
  /-- `RuntimeError('nested modification of different nodes not allowed')` from `enter()` -/
  | nested
  /-- `TypeError`: `_MODIFYING.get(root)` returned `None` inside `success()` / `fail()` (unbalanced use) -/
  | internal
  /-- `ValueError` of the guards at the top of `_put_one` / `_put_slice` (circular put, consumed FST, 'to' on slice) -/
  | guard
deriving DecidableEq, Repr, Inhabited

/-- `_Modifying.enter`, registry effect only.  `raw` only decides whether f-string bookkeeping
data is collected (`self.fst = False`), it has no registry effect and is kept as a parameter for the record. -/
def enter (n : NodeRef) (_raw : Bool) (force : Bool) (reg : Reg) : Except Exc Reg :=
  match reg.get n.root with
  | some (n0, d) =>                               -- `if nesting := _MODIFYING.get(root):`
    if n.node != n0 && !force then .error .nested -- `if fst_ is not nesting[0] and not force: raise RuntimeError`
    else .ok (reg.set n.root (n0, d + 1))         -- `_MODIFYING[root] = (nesting[0], nesting[1] + 1)`
  | none => .ok (reg.set n.root (n.node, 1))      -- `_MODIFYING[root] = (fst_, 1)`

/-- `_Modifying.success`, registry effect only (the f-string fix-up after `del` is not modelled). -/
def success (root : Root) (reg : Reg) : Except Exc Reg :=
  match reg.get root with
  | none => .error .internal                       -- `None[1]`
  | some (n0, d) =>
    if d > 1 then .ok (reg.set root (n0, d - 1))   -- `_MODIFYING[root] = (nesting[0], nesting[1] - 1); return`
    else .ok (reg.del root)                        -- `del _MODIFYING[root]`

/-- `_Modifying.fail`. -/
def fail (root : Root) (reg : Reg) : Except Exc Reg :=
  match reg.get root with
  | none => .error .internal
  | some (n0, d) =>
    if d > 1 then .ok (reg.set root (n0, d - 1))
    else .ok (reg.del root)

/-- `_Modifying.__exit__`: `success()` if no exception else `fail(exc_val)`; returns `False`
(the exception keeps propagating). -/
def exit_ (root : Root) (exc : Option Exc) (reg : Reg) : Except Exc Reg :=
  match exc with
  | none => success root reg
  | some _ => fail root reg

/-- The `raw` option of a put: `False | 'auto' | True`. -/
inductive RawOpt where
  | off | auto | on
deriving DecidableEq, Repr, Inhabited

/-- Well-nested histories of registry events, as programs.  Exceptions can be raised at any depth and position. -/
inductive Prog where
  /-- `raise E(...)` at this point -/
  | raise (catchable : Bool)
  /-- `with n._modifying(field, raw, force=force): body` -/
  | withM (n : NodeRef) (raw force : Bool) (body : List Prog)
  /-- the manual skeleton of `FST.unpar` on node `n`: phase 1 (`if pars: modifying = enter(); body1`), phase 2
  (`if node and ...: modifying = modifying or enter(); body2`), `except: if modifying: modifying.fail(); raise`,
  `else: if modifying: modifying.success()` -/
  | unpar (n : NodeRef) (do1 : Bool) (body1 : List Prog) (do2 : Bool) (body2 : List Prog)
  /-- `try: body  except <catchable only | everything>: pass` -/
  | try_ (catchAll : Bool) (body : List Prog)
  /-- the skeleton of `_put_one` / `_put_slice` on parent node `n`: guards, handler body inside `with` (non-raw),
  raw body inside a second `with` when `raw=True` or (`raw='auto'` and the handler raised a catchable exception) -/
  | put (n : NodeRef) (raw : RawOpt) (force : Bool) (guardFails : Bool) (handler rawBody : List Prog)
  /-- the root branch of `FST.replace` on root node `n`: guards (`cannot delete root node`, `to` option, `circular put
  detected`, `already been consumed`) and only then `with self._modifying(): body` (`code_as_all`, line swap, `_set_ast`) -/
  | rootReplace (n : NodeRef) (guardFails : Bool) (body : List Prog)
deriving Repr, Inhabited

/-- Result of running a history: registry afterwards, exception propagating out (if any), and the registry as it was
after every registry event (each `enter` attempt, each `success`/`fail`). -/
structure Res where
  reg : Reg
  exc : Option Exc
  trace : List Reg
deriving DecidableEq, Repr, Inhabited

/-- `with M: body` given the already computed run of the body (shared by `withM` and `put`). -/
def withExit (root : Root) (reg1 : Reg) (b : Res) : Res :=
  match exit_ root b.exc b.reg with
  | .ok reg2 => ⟨reg2, b.exc, reg1 :: b.trace ++ [reg2]⟩
  | .error e => ⟨b.reg, some e, reg1 :: b.trace ++ [b.reg]⟩     -- exception raised inside `__exit__` replaces

/-- `with n._modifying(field, raw, force=force): body` where `body` is given as a function of the registry. -/
def withRun (n : NodeRef) (raw force : Bool) (body : Reg → Res) (reg : Reg) : Res :=
  match enter n raw force reg with
  | .error e => ⟨reg, some e, [reg]⟩             -- `__enter__` raised: body not run, `__exit__` not called
  | .ok reg1 => withExit n.root reg1 (body reg1)

/-- `except: if modifying: modifying.fail(); raise` / `else: if modifying: modifying.success()` of `FST.unpar`, reached
with `modifying` set; `b` is everything that ran since (and including) the `enter()`. -/
def unparFinish (root : Root) (b : Res) : Res :=
  match exit_ root b.exc b.reg with
  | .ok reg2 => ⟨reg2, b.exc, b.trace ++ [reg2]⟩
  | .error e => ⟨b.reg, some e, b.trace ++ [b.reg]⟩

/-- The skeleton of `FST.unpar` (fst.py), written out path by path:
```
modifying = None
try:
    if <pars present>:                       -- do1
        modifying = self._modifying().enter()
        self._unparenthesize_grouping(shared)                     -- body1
    if node and <delimited>:                 -- do2
        modifying = modifying or self._modifying().enter()
        self._undelimit_node()                                     -- body2
except:
    if modifying: modifying.fail()
    raise
else:
    if modifying: modifying.success()
```
An `enter()` that raises leaves `modifying` as it was (`None`): nothing to undo. -/
def unparRun (n : NodeRef) (do1 : Bool) (body1 : Reg → Res) (do2 : Bool) (body2 : Reg → Res) (reg : Reg) : Res :=
  if do1 then
    match enter n false false reg with
    | .error e => ⟨reg, some e, [reg]⟩
    | .ok reg1 =>
      let b1 := body1 reg1
      match b1.exc with
      | some x => unparFinish n.root ⟨b1.reg, some x, reg1 :: b1.trace⟩
      | none =>
        if do2 then
          let b2 := body2 b1.reg
          unparFinish n.root ⟨b2.reg, b2.exc, reg1 :: b1.trace ++ b2.trace⟩
        else unparFinish n.root ⟨b1.reg, none, reg1 :: b1.trace⟩
  else if do2 then
    match enter n false false reg with
    | .error e => ⟨reg, some e, [reg]⟩
    | .ok reg1 =>
      let b2 := body2 reg1
      unparFinish n.root ⟨b2.reg, b2.exc, reg1 :: b2.trace⟩
  else ⟨reg, none, []⟩

/-- `try: body  except (NodeError, SyntaxError, NotImplementedError) | except BaseException: pass` -/
def tryRun (catchAll : Bool) (b : Res) : Res :=
  match b.exc with
  | some (.user true) => ⟨b.reg, none, b.trace⟩
  | some x => if catchAll then ⟨b.reg, none, b.trace⟩ else ⟨b.reg, some x, b.trace⟩
  | none => b

/-- The skeleton of `_put_one` (fst_put_one.py) and `_put_slice` (fst_put_slice.py). -/
def putRun (n : NodeRef) (raw : RawOpt) (force : Bool) (guardFails : Bool) (handler rawBody : Reg → Res) (reg : Reg) :
    Res :=
  if guardFails then ⟨reg, some .guard, []⟩       -- the guards come before any `with`
  else
    -- `if raw is not True: try: with self._modifying(field, force=force_modifying): handler(...)`
    -- `except (NodeError, SyntaxError, NotImplementedError): if not raw: raise`
    let first : Res × Bool :=                       -- (result, fall through to the raw attempt)
      if raw == .on then (⟨reg, none, []⟩, true)
      else
        let r := withRun n false force handler reg
        match r.exc with
        | some (.user true) => if raw == .auto then (⟨r.reg, none, r.trace⟩, true) else (r, false)
        | _ => (r, false)
    if first.2 then
      -- `with self._modifying(field, True, force=force_modifying): _put_one_raw(...)`
      let r := withRun n true force rawBody first.1.reg
      ⟨r.reg, r.exc, first.1.trace ++ r.trace⟩
    else first.1

/-- The root branch of `FST.replace` (fst.py): every guard comes before the `with`. -/
def rootReplaceRun (n : NodeRef) (guardFails : Bool) (body : Reg → Res) (reg : Reg) : Res :=
  if guardFails then ⟨reg, some .guard, []⟩
  else withRun n false false body reg

mutual
def run : Prog → Reg → Res
  | .raise c, reg => ⟨reg, some (.user c), []⟩
  | .withM n raw force body, reg => withRun n raw force (runList body) reg
  | .unpar n do1 body1 do2 body2, reg => unparRun n do1 (runList body1) do2 (runList body2) reg
  | .try_ catchAll body, reg => tryRun catchAll (runList body reg)
  | .put n raw force guardFails handler rawBody, reg =>
    putRun n raw force guardFails (runList handler) (runList rawBody) reg
  | .rootReplace n guardFails body, reg => rootReplaceRun n guardFails (runList body) reg

def runList : List Prog → Reg → Res
  | [], reg => ⟨reg, none, []⟩
  | p :: ps, reg =>
    let a := run p reg
    match a.exc with
    | some _ => a
    | none => let b := runList ps a.reg; ⟨b.reg, b.exc, a.trace ++ b.trace⟩
end

/-- `k` nested `with` blocks on the same node around `body`. -/
def nest (n : NodeRef) : Nat → List Prog → Prog
  | 0, body => .withM n false false body
  | k + 1, body => .withM n false false [nest n k body]

/-! ## Abstract edit step -/

/-- An edit operation that has the validate-then-apply shape: `validate` reads the state and the request and either
refuses or produces a plan; `apply` cannot fail. -/
structure Op (σ ρ π ε : Type) where
  validate : σ → ρ → Except ε π
  apply : σ → π → σ

/-- `step := validate ≫ apply` -/
def Op.step {σ ρ π ε : Type} (op : Op σ ρ π ε) (s : σ) (r : ρ) : σ × Option ε :=
  match op.validate s r with
  | .error e => (s, some e)
  | .ok p => (op.apply s p, none)

/-- A sequence of requests, failing ones included; returns the final state and the outcome of each. -/
def Op.runSeq {σ ρ π ε : Type} (op : Op σ ρ π ε) : σ → List ρ → σ × List (Option ε)
  | s, [] => (s, [])
  | s, r :: rs =>
    let a := op.step s r
    let b := Op.runSeq op a.1 rs
    (b.1, a.2 :: b.2)

/-- Errors of the full put: the handler's own, or one of the registry's. -/
inductive Err (ε : Type) where
  | op (e : ε)
  | reg (e : Exc)
deriving DecidableEq, Repr

/-- One edit step under `with n._modifying(...)`: state and registry together. -/
def withStep {σ ρ π ε : Type} (op : Op σ ρ π ε) (n : NodeRef) (raw force : Bool) (w : σ × Reg) (r : ρ) :
    (σ × Reg) × Option (Err ε) :=
  match enter n raw force w.2 with
  | .error e => (w, some (.reg e))
  | .ok reg1 =>
    let a := op.step w.1 r
    match exit_ n.root (a.2.map fun _ => Exc.user true) reg1 with
    | .error e => ((a.1, reg1), some (.reg e))
    | .ok reg2 => ((a.1, reg2), a.2.map .op)

/-- `_put_one` over the abstract state: guards, non-raw handler under `with`, raw fallback under a second `with`
(on the preserved copy of the request: `preserved_code = code.copy() if raw and is_FST else code`). -/
def putOne {σ ρ π ε : Type} (handler rawHandler : Op σ ρ π ε) (catchable : ε → Bool) (guard : ρ → Bool)
    (n : NodeRef) (raw : RawOpt) (force : Bool) (w : σ × Reg) (r : ρ) : (σ × Reg) × Option (Err ε) :=
  if guard r then (w, some (.reg .guard))
  else
    let first : ((σ × Reg) × Option (Err ε)) × Bool :=
      if raw == .on then ((w, none), true)
      else
        let a := withStep handler n false force w r
        match a.2 with
        | some (.op e) => if catchable e && raw == .auto then ((a.1, none), true) else (a, false)
        | _ => (a, false)
    if first.2 then withStep rawHandler n true force first.1.1 r
    else first.1

end Pfst.Modifying
