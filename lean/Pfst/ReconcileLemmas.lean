import Pfst.Reconcile
/-! The trace interpreter `applyOps` (`Pfst/Reconcile.lean`) by itself, with the frame law for operations under a path
prefix; `erase`; the scalars `None` / primitive; induction on the size of a tree. -/
namespace Pfst.Reconcile

theorem applyOps_append (a b : List Op) (t : T) : applyOps (a ++ b) t = applyOps b (applyOps a t) := by
  induction a generalizing t with
  | nil => rfl
  | cons o r ih => simp [applyOps, ih]

theorem modKid_comp (i : Nat) (f g : T → T) (t : T) : modKid i g (modKid i f t) = modKid i (g ∘ f) t := by
  cases t <;> simp [modKid, List.modify_modify_eq]

theorem modKid_id (i : Nat) (t : T) : modKid i id t = t := by
  cases t <;> simp [modKid]

theorem applyOp_pre (i : Nat) (o : Op) (t : T) : applyOp (o.pre i) t = modKid i (applyOp o) t := by
  show applyAt (i :: o.path) o.act t = modKid i (applyAt o.path o.act) t
  rfl

theorem applyOps_preAll (i : Nat) (ops : List Op) (t : T) :
    applyOps (preAll i ops) t = modKid i (applyOps ops) t := by
  induction ops generalizing t with
  | nil =>
    have : applyOps ([] : List Op) = id := by funext x; rfl
    rw [this, modKid_id]; rfl
  | cons o r ih =>
    have h : applyOps (o :: r) = applyOps r ∘ applyOp o := by funext x; rfl
    simp only [preAll, List.map_cons, applyOps] at *
    rw [ih, applyOp_pre, modKid_comp, h]

theorem applyOps_put_last (ops : List Op) (s : Src) (p t : T) :
    applyOps (ops ++ [⟨[], .put s p⟩]) t = p := by
  rw [applyOps_append]; rfl

theorem modKid_node_at (o : Origin) (k : Nat) (pre : List T) (x : T) (post : List T) (f : T → T) :
    modKid pre.length f (.node o k (pre ++ x :: post)) = .node o k (pre ++ f x :: post) := by
  simp [modKid, List.modify_eq_take_drop]

theorem modKid_many_at (s : Option Nat) (md : Nat) (pre : List T) (x : T) (post : List T) (f : T → T) :
    modKid pre.length f (.many s md (pre ++ x :: post)) = .many s md (pre ++ f x :: post) := by
  simp [modKid, List.modify_eq_take_drop]

theorem eraseL_eq_map (l : List T) : eraseL l = l.map erase := by
  induction l with
  | nil => rfl
  | cons a r ih => simp [eraseL, ih]

theorem eraseL_length (l : List T) : (eraseL l).length = l.length := by simp [eraseL_eq_map]

theorem eraseL_getElem? (l : List T) (i : Nat) : ((eraseL l)[i]?).getD .nil = erase ((l[i]?).getD .nil) := by
  rw [eraseL_eq_map]
  cases h : l[i]? <;> simp [h, erase]

theorem headD_eraseL_drop (l : List T) (i : Nat) : (eraseL (l.drop i)).headD .nil = erase ((l[i]?).getD .nil) := by
  rw [← eraseL_getElem?, eraseL_eq_map, eraseL_eq_map, List.headD_eq_head?_getD, List.head?_map, List.head?_drop,
    List.getElem?_map]

theorem tail_eraseL_drop (l : List T) (i : Nat) : (eraseL (l.drop i)).tail = eraseL (l.drop (i + 1)) := by
  rw [eraseL_eq_map, eraseL_eq_map, ← List.map_tail, List.tail_drop]

theorem kids_erase (t : T) : (erase t).kids = eraseL t.kids := by
  cases t <;> simp [erase, T.kids, eraseL]

theorem erase_kid (t : T) (j : Nat) : ((erase t).kids[j]?).getD .nil = erase ((t.kids[j]?).getD .nil) := by
  rw [kids_erase, eraseL_getElem?]

theorem erase_isNode (t : T) : (erase t).isNode = t.isNode := by cases t <;> rfl

theorem erase_isNil (t : T) : (erase t).isNil = t.isNil := by cases t <;> rfl

theorem isNil_eq (t : T) (h : t.isNil = true) : t = .nil := by cases t <;> simp [T.isNil] at h ⊢

mutual
theorem erase_erase : ∀ t : T, erase (erase t) = erase t
  | .nil => rfl
  | .prim _ => rfl
  | .node _ k cs => by simp [erase, eraseL_eraseL cs]
  | .many s m cs => by simp [erase, eraseL_eraseL cs]
theorem eraseL_eraseL : ∀ l : List T, eraseL (eraseL l) = eraseL l
  | [] => rfl
  | c :: r => by simp [eraseL, erase_erase c, eraseL_eraseL r]
end

def scalar : T → Bool
  | .nil => true
  | .prim _ => true
  | _ => false

theorem scalar_eq_isScalar (c : T) : scalar c = c.isScalar := by cases c <;> rfl

theorem erase_of_scalar (c : T) (hc : scalar c = true) : erase c = c := by
  cases c <;> first | rfl | simp [scalar] at hc

theorem erase_scalar (c : T) (h : c.isNode = false) (h2 : ∀ s m cs, c ≠ .many s m cs) : erase c = c :=
  erase_of_scalar c (by cases c <;> first | rfl | exact absurd rfl (h2 _ _ _) | simp [T.isNode] at h)

/-- The recursions of the model (`recNode`, `recFields`, `recPlain` / `recSliceGo`, `recPair`) all go to smaller trees;
the lemmas about the list recursions take the induction hypothesis in the form `∀ d, sizeOf d < sizeOf l → P d`. -/
theorem T.induct {P : T → Prop} (h : ∀ t, (∀ d, sizeOf d < sizeOf t → P d) → P t) (t : T) : P t := by
  generalize hn : sizeOf t = n
  induction n using Nat.strongRecOn generalizing t with
  | _ n ih => subst hn; exact h t (fun d hd => ih _ hd d rfl)

end Pfst.Reconcile
