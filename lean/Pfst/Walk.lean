/-!
# Pfst.Walk — executable model of pfst tree traversal (property C14)

Import-free.  Mirrors `src/fst/fst_traverse.py`:

* `walk` (the three loops for `on='enter'|'leave'|'both'`, parameters `all` (filter), `self_`, `recurse`, `back`;
  no `send`, no `scope`, no `asts`, no tree modification during the walk — those belong to C15),
* `next/prev/first_child/last_child/next_child/prev_child`, `step_fwd/step_back` (without `top`),
* `FST.child_path/child_from_path` (`src/fst/fst.py`).

A tree is `Node id lab cat kind kids`: `kids` is the list `syntax_ordered_children(ast)` without its `None` entries,
`lab` encodes the node's `pfield` (field, idx) injectively, `cat` is the filter category of the node's class (see
`checkAll`), `kind` the class index.  Parent pointers of the implementation are represented by a zipper (`Loc`).

Stack orientation: the Python code uses a `list` as stack and pops from its END.  The Lean stack is a `List` whose
HEAD is the top, i.e. the Python list reversed: Python `stack.extend(children[::-1])` is `children ++ stack` here,
Python `stack.extend(children)` (back=True) is `children.reverse ++ stack`.
-/
namespace Pfst.Walk

inductive Node where
  | mk (id lab cat kind : Nat) (kids : List Node)

namespace Node
def id : Node → Nat | .mk i _ _ _ _ => i
def lab : Node → Nat | .mk _ l _ _ _ => l
def cat : Node → Nat | .mk _ _ c _ _ => c
def kind : Node → Nat | .mk _ _ _ k _ => k
def kids : Node → List Node | .mk _ _ _ _ ks => ks
end Node

mutual
def size : Node → Nat
  | .mk _ _ _ _ ks => 1 + sizeL ks
def sizeL : List Node → Nat
  | [] => 0
  | k :: ks => size k + sizeL ks
end

theorem sizeL_append (a b : List Node) : sizeL (a ++ b) = sizeL a + sizeL b := by
  induction a with
  | nil => simp [sizeL]
  | cons x xs ih => simp [sizeL, ih]; omega

theorem sizeL_reverse (a : List Node) : sizeL a.reverse = sizeL a := by
  induction a with
  | nil => rfl
  | cons x xs ih => simp [sizeL_append, sizeL, ih]; omega

theorem size_eq (n : Node) : size n = 1 + sizeL n.kids := by
  cases n; simp [size, Node.kids]

/-- `children if back else children[::-1]` pushed on the Python stack = this list put in front of the Lean stack. -/
def orient (back : Bool) (l : List α) : List α := bif back then l.reverse else l

theorem sizeL_orient (back : Bool) (a : List Node) : sizeL (orient back a) = sizeL a := by
  cases back <;> simp [orient, sizeL_reverse]

/-! ## the `all` parameter — `_check_all_param` (fst_traverse.py)

`cat`: 0 ordinary node, 1 expr_context (Load/Store/Del), 2 boolop (And/Or), 3 operator / unaryop / cmpop,
4 `arguments` without any argument, 5 `arguments` with at least one argument. -/
inductive AllMode where
  | all                      -- all=True
  | dflt                     -- all=False
  | loc                      -- all='loc'
  | kinds (ks : List Nat)    -- a type or a container of types

def checkAll (m : AllMode) (n : Node) : Bool :=
  match m with
  | .all => true
  | .dflt => !(n.cat == 1 || n.cat == 2 || n.cat == 3 || n.cat == 4)
  | .loc => !(n.cat == 1 || n.cat == 2)
  | .kinds ks => ks.contains n.kind

/-! ## recursive specifications -/
mutual
/-- preorder; `back` = children visited in reverse order at every level -/
def pre (back : Bool) : Node → List Node
  | .mk i l c k ks => .mk i l c k ks :: preL back ks
def preL (back : Bool) : List Node → List Node
  | [] => []
  | k :: ks => bif back then preL back ks ++ pre back k else pre back k ++ preL back ks
end

mutual
def post (back : Bool) : Node → List Node
  | .mk i l c k ks => postL back ks ++ [.mk i l c k ks]
def postL (back : Bool) : List Node → List Node
  | [] => []
  | k :: ks => bif back then postL back ks ++ post back k else post back k ++ postL back ks
end

mutual
/-- bracketed order: `(n, false)` on entering, `(n, true)` on leaving -/
def brk (back : Bool) : Node → List (Node × Bool)
  | .mk i l c k ks => (.mk i l c k ks, false) :: (brkL back ks ++ [(.mk i l c k ks, true)])
def brkL (back : Bool) : List Node → List (Node × Bool)
  | [] => []
  | k :: ks => bif back then brkL back ks ++ brk back k else brk back k ++ brkL back ks
end

mutual
/-- the tree with every child list reversed -/
def mirror : Node → Node
  | .mk i l c k ks => .mk i l c k (mirrorL ks)
def mirrorL : List Node → List Node
  | [] => []
  | k :: ks => mirrorL ks ++ [mirror k]
end

def ids (l : List Node) : List Nat := l.map Node.id
def ids2 (l : List (Node × Bool)) : List (Nat × Bool) := l.map (fun x => (x.1.id, x.2))

/-! ## `walk`, loop `on='enter'` -/

/-- `while stack:` of the `on == 'enter'` branch of `walk` (no send, no scope). -/
def enterLoop (p : Node → Bool) (back recurse : Bool) : List Node → List Nat
  | [] => []
  | n :: st =>
    if p n then                                             -- if check_all_param(fst_): yield; recurse_ = recurse
      if !recurse then n.id :: enterLoop p back recurse st  --   if not recurse_: continue
      else n.id :: enterLoop p back recurse (orient back n.kids ++ st)
    else if !recurse then enterLoop p back recurse st       -- elif not recurse: continue
    else enterLoop p back recurse (orient back n.kids ++ st)  -- stack.extend(children if back else children[::-1])
termination_by st => sizeL st
decreasing_by
  all_goals simp only [sizeL, sizeL_append, sizeL_orient, size_eq]
  all_goals omega

/-- `walk(all, 'enter', self_=, recurse=, back=)`: preamble (yield of `self`) + loop. -/
def walkEnter (p : Node → Bool) (back recurse self_ : Bool) (t : Node) : List Nat :=
  (if self_ && p t then [t.id] else []) ++ enterLoop p back recurse (orient back t.kids)

/-! ## `walk`, loops `on='leave'` and `on='both'`: the stack holds ASTs ("entering") and FSTs ("leaving") -/
inductive Item where
  | enter (n : Node)
  | leave (n : Node)

def weight : List Item → Nat
  | [] => 0
  | .enter n :: r => 2 * size n + weight r
  | .leave _ :: r => 1 + weight r

theorem weight_append (a b : List Item) : weight (a ++ b) = weight a + weight b := by
  induction a with
  | nil => simp [weight]
  | cons x xs ih => cases x <;> simp [weight, ih] <;> omega

theorem weight_enter (l : List Node) : weight (l.map Item.enter) = 2 * sizeL l := by
  induction l with
  | nil => rfl
  | cons x xs ih => simp [weight, sizeL, ih]; omega

/-- `while stack:` of the `is_leave` branch. -/
def leaveLoop (p : Node → Bool) (back : Bool) : List Item → List Nat
  | [] => []
  | .leave n :: st =>                                     -- isinstance(ast, FST): "leaving" node
    if !p n then leaveLoop p back st                      --   if not check_all_param(fst_): continue
    else n.id :: leaveLoop p back st                      --   yield
  | .enter n :: st =>                                     -- "entering" node
    if !p n then leaveLoop p back ((orient back n.kids).map Item.enter ++ st)   -- children still walked
    else if !n.kids.isEmpty then
      leaveLoop p back ((orient back n.kids).map Item.enter ++ Item.leave n :: st)  -- stack.append(fst_); extend
    else n.id :: leaveLoop p back st                      -- no children: yield immediately
termination_by st => weight st
decreasing_by
  all_goals simp only [weight, weight_append, weight_enter, sizeL_orient, size_eq]
  all_goals omega

/-- `walk(all, 'leave', ...)`.  With `recurse=False` the first level of children is put on the stack as FSTs
(`stack = [a.f for a in stack if a]`).  The final yield of `self` is subject to the `all` check like every other yield
(`if self_ and (ast := self.a) and check_all_param(self)`, fix of finding C14-F1). -/
def walkLeave (p : Node → Bool) (back recurse self_ : Bool) (t : Node) : List Nat :=
  leaveLoop p back (bif recurse then (orient back t.kids).map Item.enter else (orient back t.kids).map Item.leave)
    ++ (if self_ && p t then [t.id] else [])

/-- `while stack:` of the `on='both'` branch. -/
def bothLoop (p : Node → Bool) (back recurse : Bool) : List Item → List (Nat × Bool)
  | [] => []
  | .leave n :: st =>
    if !p n then bothLoop p back recurse st
    else (n.id, true) :: bothLoop p back recurse st       -- yield (fst_, True); recurse_ = False: continue
  | .enter n :: st =>
    if p n then                                           -- yield (fst_, False); stack.append(fst_)
      if !recurse then (n.id, false) :: bothLoop p back recurse (Item.leave n :: st)
      else (n.id, false) :: bothLoop p back recurse ((orient back n.kids).map Item.enter ++ Item.leave n :: st)
    else if !recurse then bothLoop p back recurse st      -- elif not recurse: continue
    else bothLoop p back recurse ((orient back n.kids).map Item.enter ++ st)
termination_by st => weight st
decreasing_by
  all_goals simp only [weight, weight_append, weight_enter, sizeL_orient, size_eq]
  all_goals omega

/-- `walk(all, 'both', ...)`: `(self, False)` and the final `(self, True)` are both subject to the `all` check. -/
def walkBoth (p : Node → Bool) (back recurse self_ : Bool) (t : Node) : List (Nat × Bool) :=
  (if self_ && p t then [(t.id, false)] else [])
    ++ bothLoop p back recurse ((orient back t.kids).map Item.enter)
    ++ (if self_ && p t then [(t.id, true)] else [])

/-! ## locations (zipper): a node together with its chain of parents -/
structure Frame where
  par : Node            -- the parent node
  lefts : List Node     -- siblings before the focus, nearest first
  rights : List Node    -- siblings after the focus, in order

structure Loc where
  focus : Node
  ctx : List Frame      -- innermost parent first; `[]` = root

def rootLoc (t : Node) : Loc := ⟨t, []⟩

/-- `self.parent` -/
def Loc.up : Loc → Option Loc
  | ⟨_, []⟩ => none
  | ⟨_, fr :: c⟩ => some ⟨fr.par, c⟩

/-- The loop `while True: self = NEXT_FUNCS[...](parenta, idx); if not self: return None; if check: return self`
shared by `next`, `first_child`, `next_child`: NEXT = successor in the syntax-ordered child list (table_consistent). -/
def nextFrom (p : Node → Bool) (par : Node) (c : List Frame) : List Node → List Node → Option Loc
  | _, [] => none
  | ls, r :: rs => if p r then some ⟨r, ⟨par, ls, rs⟩ :: c⟩ else nextFrom p par c (r :: ls) rs

/-- same for PREV_FUNCS -/
def prevFrom (p : Node → Bool) (par : Node) (c : List Frame) : List Node → List Node → Option Loc
  | [], _ => none
  | l :: ls, rs => if p l then some ⟨l, ⟨par, ls, rs⟩ :: c⟩ else prevFrom p par c ls (l :: rs)

/-- `FST.next(all)` -/
def next (p : Node → Bool) : Loc → Option Loc
  | ⟨_, []⟩ => none                                       -- is_root
  | ⟨f, fr :: c⟩ => nextFrom p fr.par c (f :: fr.lefts) fr.rights

/-- `FST.prev(all)` -/
def prev (p : Node → Bool) : Loc → Option Loc
  | ⟨_, []⟩ => none
  | ⟨f, fr :: c⟩ => prevFrom p fr.par c fr.lefts (f :: fr.rights)

/-- `FST.first_child(all)` -/
def firstChild (p : Node → Bool) (l : Loc) : Option Loc := nextFrom p l.focus l.ctx [] l.focus.kids

/-- `FST.last_child(all)` -/
def lastChild (p : Node → Bool) (l : Loc) : Option Loc := prevFrom p l.focus l.ctx l.focus.kids.reverse []

/-- `FST.next_child(from_child, all)`; `from_child` must be a child of `self` -/
def nextChild (p : Node → Bool) (l : Loc) : Option Loc → Option Loc
  | none => firstChild p l
  | some ch => next p ch

/-- `FST.prev_child(from_child, all)` -/
def prevChild (p : Node → Bool) (l : Loc) : Option Loc → Option Loc
  | none => lastChild p l
  | some ch => prev p ch

/-! ## `step_fwd` / `step_back` (without `top`) -/

/-- `while not (fst_ := self.next(True)): if (self := self.parent) in (None,): return None` -/
def ascendNext (f : Node) : List Frame → Option Loc
  | [] => none
  | ⟨par, ls, r :: rs⟩ :: c => some ⟨r, ⟨par, f :: ls, rs⟩ :: c⟩
  | ⟨par, _, []⟩ :: c => ascendNext par c

def ascendPrev (f : Node) : List Frame → Option Loc
  | [] => none
  | ⟨par, l :: ls, rs⟩ :: c => some ⟨l, ⟨par, ls, f :: rs⟩ :: c⟩
  | ⟨par, [], _⟩ :: c => ascendPrev par c

/-- nodes after `f` in forward preorder that are not below it -/
def restUp : List Frame → List Node
  | [] => []
  | ⟨_, _, rs⟩ :: c => preL false rs ++ restUp c

/-- nodes after the location in forward preorder -/
def rest (l : Loc) : List Node := preL false l.focus.kids ++ restUp l.ctx

def restUpB : List Frame → List Node
  | [] => []
  | ⟨_, ls, _⟩ :: c => preL true ls.reverse ++ restUpB c

/-- nodes after the location in backward (`back=True`) preorder -/
def restB (l : Loc) : List Node := preL true l.focus.kids ++ restUpB l.ctx

/-- The two inner loops of the `while True:` of `step_fwd`, entered with a candidate `fst_`:
`if check(fst_): return fst_; self = fst_; fst_ = self.first_child(True)` and, when that is None, back to
`self.next(True)` / parents.  `fuel` bounds the number of candidates inspected. -/
def fwdLoop (p : Node → Bool) : Nat → Loc → Option Loc
  | 0, _ => none
  | fuel + 1, l =>
    if p l.focus then some l
    else match firstChild (fun _ => true) l with
      | some ch => fwdLoop p fuel ch
      | none => match ascendNext l.focus l.ctx with
        | none => none
        | some n => fwdLoop p fuel n

def backLoop (p : Node → Bool) : Nat → Loc → Option Loc
  | 0, _ => none
  | fuel + 1, l =>
    if p l.focus then some l
    else match lastChild (fun _ => true) l with
      | some ch => backLoop p fuel ch
      | none => match ascendPrev l.focus l.ctx with
        | none => none
        | some n => backLoop p fuel n

/-- `FST.step_fwd(all, recurse_self)`.  The first `while` (descent along first children when `recurse_self`) is the
same check-then-descend loop; the fuel is the number of nodes after the location (proved sufficient: `stepFwd_spec`). -/
def stepFwd (p : Node → Bool) (recurseSelf : Bool) (l : Loc) : Option Loc :=
  let fuel := (rest l).length
  match (if recurseSelf then firstChild (fun _ => true) l else none) with
  | some ch => fwdLoop p fuel ch
  | none => match ascendNext l.focus l.ctx with
    | none => none
    | some n => fwdLoop p fuel n

/-- `FST.step_back(all, recurse_self)` -/
def stepBack (p : Node → Bool) (recurseSelf : Bool) (l : Loc) : Option Loc :=
  let fuel := (restB l).length
  match (if recurseSelf then lastChild (fun _ => true) l else none) with
  | some ch => backLoop p fuel ch
  | none => match ascendPrev l.focus l.ctx with
    | none => none
    | some n => backLoop p fuel n

/-- repeated application, collecting the visited nodes -/
def iter (f : Loc → Option Loc) : Nat → Option Loc → List Node
  | 0, _ => []
  | _ + 1, none => []
  | n + 1, some l => l.focus :: iter f n (f l)

/-! ## paths: `FST.child_path`, `FST.child_from_path` -/

/-- `while child is not self: path.append(child.pfield); child = child.parent` (raise if no parent);
node identity is identity of `id`.  The accumulator is built top-down, Python appends and reverses. -/
def childPathGo (selfId : Nat) (f : Node) (acc : List Nat) : List Frame → Option (List Nat)
  | [] => if f.id == selfId then some acc else none
  | fr :: c => if f.id == selfId then some acc else childPathGo selfId fr.par (f.lab :: acc) c

def childPath (self child : Loc) : Option (List Nat) := childPathGo self.focus.id child.focus [] child.ctx

/-- the child in field/index `lab` (`astfield.get_default`) together with its siblings -/
def findKid (lab : Nat) (par : Node) (c : List Frame) : List Node → List Node → Option Loc
  | _, [] => none
  | ls, r :: rs => if r.lab == lab then some ⟨r, ⟨par, ls, rs⟩ :: c⟩ else findKid lab par c (r :: ls) rs

/-- `for p in path: next = p.get_default(self.a); if next is False: return False; self = next.f` -/
def childFromPath (l : Loc) : List Nat → Option Loc
  | [] => some l
  | lab :: path => match findKid lab l.focus l.ctx [] l.focus.kids with
    | none => none
    | some ch => childFromPath ch path

/-- locate the node with identity `i` (first in forward preorder); used by the driver to address nodes -/
def locate (i : Nat) (t : Node) : Option Loc :=
  if t.id == i then some (rootLoc t) else stepFwd (fun n => n.id == i) true (rootLoc t)

end Pfst.Walk
