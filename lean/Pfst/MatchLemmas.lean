import Pfst.Match

/-!
Lemmas behind `Pfst/Props/C17.lean`.

For a quantifier whose body matches in at most one way (a single element pattern, or a sublist of element
patterns), the loops of `_match__inside_list_quantifier` (two counting phases, then back-off / extension) return the
first success of the ordered list-of-successes enumeration `allIter`.
The pattern built from a tree matches the trees of the same structure and no tree with one leaf changed.
A node that matches has a kind the pre-filter of `search` keeps; the event stream of `search`.
-/
namespace Pfst.Match

section Quant
variable (q : QSpec) (once : Dict → Nat → Option Entry) (rest : Dict → Nat → Option (Dict × Nat)) (ctx : Dict)

/-- the spec's body for a deterministic, single-result iteration -/
def bodyOf (once : Dict → Nat → Option Entry) : Dict → Nat → List Entry :=
  fun c j => match once c j with | none => [] | some en => [en]

/-- what trying the rest of the list after the quantifier gives, for one way `r` of iterating -/
def contK (rest : Dict → Nat → Option (Dict × Nat)) (ctx : Dict) (r : Dict × Nat) : Option (Dict × Nat) :=
  match rest (ctx ++ r.1) r.2 with
  | none => none
  | some (m, k) => some (r.1 ++ m, k)

/-- first success of the spec enumeration from a loop state -/
def firstSuccess (f : Nat) (st : QState) : Option (Dict × Nat) :=
  (allIter q (bodyOf once) ctx f st.count st.idx st.entries).findSome? (contK rest ctx)

/-- how many copies of the static tags are bound at count `c` -/
def staticCopies (c : Nat) : Nat := if q.mn ≤ c then 1 else 0

theorem staticCopies_of_le {c : Nat} (h : q.mn ≤ c) : staticCopies q c = 1 := if_pos h
theorem staticCopies_of_lt {c : Nat} (h : c < q.mn) : staticCopies q c = 0 := if_neg (Nat.not_le.2 h)

/-- the static tags the loop state carries are those the spec binds at this count -/
def StaticsOk (st : QState) : Prop := statics q st.nstatic = statics q (staticCopies q st.count)

theorem vis_eq (st : QState) (h : StaticsOk q st) : st.vis q = visible q st.entries (staticCopies q st.count) := by
  unfold StaticsOk at h
  simp only [QState.vis, visible]
  rw [h]

theorem staticsOk_push (st : QState) (e : Entry) (h : StaticsOk q st) (hc : q.mn ≤ st.count) :
    StaticsOk q (st.push e) := by
  simp only [StaticsOk, QState.push] at *
  rw [staticCopies_of_le q (Nat.le_succ_of_le hc), ← staticCopies_of_le q hc]; exact h

theorem staticsOk_addStatic (st : QState) (hn : st.nstatic = 0) (hc : st.count = q.mn) :
    StaticsOk q (addStatic q st) := by
  have h1 := staticCopies_of_le q (Nat.le_of_eq hc.symm)
  unfold addStatic
  split
  · next he =>
    have : q.static = [] := by simpa using he
    simp [StaticsOk, h1, hn, statics, staticDict, this]
  · simp [StaticsOk, h1, hn]

theorem firstSuccess_addStatic (f : Nat) (st : QState) :
    firstSuccess q once rest ctx f (addStatic q st) = firstSuccess q once rest ctx f st := by
  unfold addStatic; split <;> rfl

/-- trying the rest at the current state (what both `backOff` and `tryMore` do first) -/
def restHere (st : QState) : Option (Dict × Nat) := contK rest ctx (st.vis q, st.idx)

theorem stop_restHere (st : QState) (hv : StaticsOk q st) :
    (if q.mn ≤ st.count then [(visible q st.entries 1, st.idx)] else []).findSome? (contK rest ctx)
      = if q.mn ≤ st.count then restHere q rest ctx st else none := by
  split
  · next hc =>
    simp only [List.findSome?_cons, restHere, vis_eq q st hv, staticCopies_of_le q hc, List.findSome?_nil]
    cases contK rest ctx (visible q st.entries 1, st.idx) <;> rfl
  · rfl

theorem firstSuccess_zero (st : QState) (hv : StaticsOk q st) :
    firstSuccess q once rest ctx 0 st = if q.mn ≤ st.count then restHere q rest ctx st else none :=
  stop_restHere q rest ctx st hv

theorem push_nstatic (st : QState) (e : Entry) : (st.push e).nstatic = st.nstatic := rfl
theorem push_count (st : QState) (e : Entry) : (st.push e).count = st.count + 1 := rfl
theorem push_idx (st : QState) (e : Entry) : (st.push e).idx = e.stop := rfl
theorem push_entries (st : QState) (e : Entry) : (st.push e).entries = st.entries ++ [e] := rfl

/-- one more iteration, as the spec sees it -/
def oneMore (f : Nat) (st : QState) : Option (Dict × Nat) :=
  if ltTo st.count q.mx then
    match once (ctx ++ st.vis q) st.idx with
    | none => none
    | some e => firstSuccess q once rest ctx f (st.push e)
  else none

theorem firstSuccess_succ (hadv : ∀ c j e, once c j = some e → j < e.stop) (f : Nat) (st : QState)
    (hv : StaticsOk q st) :
    firstSuccess q once rest ctx (f + 1) st =
      if q.greedy then (oneMore q once rest ctx f st).or (if q.mn ≤ st.count then restHere q rest ctx st else none)
      else (if q.mn ≤ st.count then restHere q rest ctx st else none).or (oneMore q once rest ctx f st) := by
  have hstop := stop_restHere q rest ctx st hv
  have hmore : (if ltTo st.count q.mx then
        (bodyOf once (ctx ++ visible q st.entries (if q.mn ≤ st.count then 1 else 0)) st.idx).flatMap (fun e =>
          if q.mx.isSome || st.idx < e.stop then allIter q (bodyOf once) ctx f (st.count + 1) e.stop (st.entries ++ [e]) else [])
      else []).findSome? (contK rest ctx) = oneMore q once rest ctx f st := by
    unfold oneMore
    split
    · simp only [bodyOf, vis_eq q st hv, staticCopies]
      cases ho : once (ctx ++ visible q st.entries (if q.mn ≤ st.count then 1 else 0)) st.idx with
      | none => simp
      | some e =>
        simp only [List.flatMap_cons, List.flatMap_nil, List.append_nil, hadv _ _ _ ho, decide_true, Bool.or_true, if_true]
        rfl
    · rfl
  unfold firstSuccess
  simp only [allIter]
  cases q.greedy
  · rw [if_neg Bool.false_ne_true, if_neg Bool.false_ne_true, List.findSome?_append, hmore, hstop]
  · rw [if_pos rfl, if_pos rfl, List.findSome?_append, hmore, hstop]

/-- `leTo c mx`: the count has not passed the maximum -/
def leTo (c : Nat) : Option Nat → Bool
  | none => true
  | some m => decide (c ≤ m)

theorem ltTo_of_lt {c m : Nat} {mx : Option Nat} (h : c < m) (hm : leTo m mx = true) : ltTo c mx = true := by
  cases mx with
  | none => rfl
  | some k => simp only [leTo, ltTo, decide_eq_true_eq] at hm ⊢; omega

theorem leTo_succ {c : Nat} {mx : Option Nat} (h : ltTo c mx = true) : leTo (c + 1) mx = true := by
  cases mx with
  | none => rfl
  | some k => simp only [leTo, ltTo, decide_eq_true_eq] at h ⊢; omega

/-- at or below the maximum, "the maximum is reached" (the loop's test) is "no further iteration allowed" (the spec's) -/
theorem beq_mx {c : Nat} {mx : Option Nat} (h : leTo c mx = true) : (some c == mx) = !ltTo c mx := by
  cases mx with
  | none => rfl
  | some k =>
    simp only [leTo, decide_eq_true_eq] at h
    by_cases hk : c = k
    · simp [ltTo, hk]
    · have : c < k := by omega
      simp [ltTo, hk, this]

theorem staticsOk_below (st : QState) (hn : st.nstatic = 0) (h : st.count < q.mn) : StaticsOk q st := by
  simp [StaticsOk, hn, staticCopies_of_lt q h]

theorem phase_done {countTo : Option Nat} {st : QState} (h : ltTo st.count countTo = false) (f : Nat) :
    phase q once ctx countTo f st = (f, st, true) := by
  cases f <;> simp [phase, h]

/-- Phase 1 (counting up to `min`): levels below `min` cannot stop, so the spec's first success is that of the state
phase 1 ends in; and if phase 1 breaks, the spec has no success at all. -/
theorem phase1_firstSuccess (hadv : ∀ c j e, once c j = some e → j < e.stop) (hwf : leTo q.mn q.mx = true) :
    ∀ (f : Nat) (st : QState), st.nstatic = 0 → st.count ≤ q.mn →
      match phase q once ctx (some q.mn) f st with
      | (_, _, false) => firstSuccess q once rest ctx f st = none
      | (f1, st1, true) =>
        st1.count = q.mn ∧ st1.nstatic = 0 ∧ firstSuccess q once rest ctx f st = firstSuccess q once rest ctx f1 st1 := by
  intro f
  induction f with
  | zero =>
    intro st hn hc
    by_cases h : st.count < q.mn
    · have hlt : ltTo st.count (some q.mn) = true := by simpa [ltTo] using h
      rw [phase, if_pos hlt]
      exact (firstSuccess_zero q once rest ctx st (staticsOk_below q st hn h)).trans (if_neg (Nat.not_le.2 h))
    · rw [phase_done q once ctx (by simpa [ltTo] using h)]
      exact ⟨by omega, hn, rfl⟩
  | succ f ih =>
    intro st hn hc
    by_cases h : st.count < q.mn
    · have hlt : ltTo st.count (some q.mn) = true := by simpa [ltTo] using h
      have hG : firstSuccess q once rest ctx (f + 1) st = oneMore q once rest ctx f st := by
        rw [firstSuccess_succ q once rest ctx hadv f st (staticsOk_below q st hn h), if_neg (Nat.not_le.2 h)]
        cases q.greedy <;> simp
      rw [hG, phase, if_pos hlt, oneMore, if_pos (ltTo_of_lt h hwf)]
      cases once (ctx ++ st.vis q) st.idx with
      | none => rfl
      | some e => exact ih (st.push e) hn (by simp only [push_count]; omega)
    · rw [phase_done q once ctx (by simpa [ltTo] using h)]
      exact ⟨by omega, hn, rfl⟩

/-- `backOff` started with its recursion bound at the current count -/
def backOffFrom (st : QState) : Option (Dict × Nat) := backOff q rest ctx st.count st

theorem backOffFrom_unfold (st : QState) (hc : q.mn ≤ st.count) :
    backOffFrom q rest ctx st =
      (restHere q rest ctx st).or (if st.count = q.mn then none else backOffFrom q rest ctx (dropOne q st)) := by
  unfold backOffFrom
  rw [backOff.eq_def]
  simp only [restHere, contK]
  cases hr : rest (ctx ++ st.vis q) st.idx with
  | some r => obtain ⟨m, j⟩ := r; simp [Option.or]
  | none =>
    simp only [Option.or]
    by_cases h : st.count = q.mn
    · simp [h]
    · have hb : (st.count == q.mn) = false := by simp [h]
      simp only [hb, h, if_false, Bool.false_eq_true]
      have hpos : st.count = (st.count - 1) + 1 := by omega
      have hd : (dropOne q st).count = st.count - 1 := rfl
      rw [hd]
      generalize st.count - 1 = n at hpos
      rw [hpos]

theorem dropOne_push (st : QState) (e : Entry) (he : e.start = st.idx) : dropOne q (st.push e) = st := by
  simp [dropOne, QState.push, he]

/-- Phase 2 (counting up to `max`) followed by the back-off loop tries exactly the spec's candidates from the current
level upwards, best first, then continues below. -/
theorem phase2_backOffFrom (hst : ∀ c j e, once c j = some e → e.start = j)
    (hadv : ∀ c j e, once c j = some e → j < e.stop) :
    ∀ (f : Nat) (st : QState), StaticsOk q st → q.mn ≤ st.count → q.greedy = true →
      backOffFrom q rest ctx (phase q once ctx q.mx f st).2.1 =
        (firstSuccess q once rest ctx f st).or
          (if st.count = q.mn then none else backOffFrom q rest ctx (dropOne q st)) := by
  intro f
  induction f with
  | zero =>
    intro st hv hc hg
    have : (phase q once ctx q.mx 0 st).2.1 = st := by simp only [phase]; split <;> rfl
    rw [this, firstSuccess_zero q once rest ctx st hv, if_pos hc, backOffFrom_unfold q rest ctx st hc]
  | succ f ih =>
    intro st hv hc hg
    rw [firstSuccess_succ q once rest ctx hadv f st hv, hg]
    simp only [if_true, if_pos hc]
    simp only [phase]
    by_cases hlt : ltTo st.count q.mx = true
    · simp only [hlt, if_true]
      cases ho : once (ctx ++ st.vis q) st.idx with
      | none =>
        simp only [oneMore, hlt, ho, if_true, Option.none_or]
        exact backOffFrom_unfold q rest ctx st hc
      | some e =>
        simp only [oneMore, hlt, ho, if_true]
        have hne : ¬ (st.push e).count = q.mn := by simp [push_count]; omega
        rw [ih (st.push e) (staticsOk_push q st e hv hc) (by simp [push_count]; omega) hg, if_neg hne,
          dropOne_push q st e (hst _ _ _ ho), backOffFrom_unfold q rest ctx st hc, Option.or_assoc]
    · simp only [hlt, oneMore]
      exact backOffFrom_unfold q rest ctx st hc

theorem tryMore_firstSuccess (hadv : ∀ c j e, once c j = some e → j < e.stop) :
    ∀ (f : Nat) (st : QState), StaticsOk q st → q.mn ≤ st.count → leTo st.count q.mx = true → q.greedy = false →
      tryMore q once rest ctx f st = firstSuccess q once rest ctx f st := by
  intro f
  induction f with
  | zero =>
    intro st hv hc hle hg
    rw [firstSuccess_zero q once rest ctx st hv, if_pos hc, tryMore]
    unfold restHere contK
    cases hr : rest (ctx ++ st.vis q) st.idx with
    | some r => rfl
    | none => simp only; split <;> rfl
  | succ f ih =>
    intro st hv hc hle hg
    rw [firstSuccess_succ q once rest ctx hadv f st hv, hg, tryMore]
    simp only [Bool.false_eq_true, if_false, if_pos hc, beq_mx hle]
    unfold restHere contK
    cases hr : rest (ctx ++ st.vis q) st.idx with
    | some r => obtain ⟨m, j⟩ := r; simp [Option.or]
    | none =>
      simp only [Option.none_or, oneMore]
      cases hlt : ltTo st.count q.mx with
      | false => simp
      | true =>
        simp only [Bool.not_true, Bool.false_eq_true, if_false, if_true]
        cases ho : once (ctx ++ st.vis q) st.idx with
        | none => rfl
        | some e =>
          exact ih (st.push e) (staticsOk_push q st e hv hc) (by simp [push_count]; omega) (leTo_succ hlt) hg

/-- For a body that matches in at most one way, starts where it is asked to and
consumes at least one element, the loops return the first success of the spec's enumeration. -/
theorem matchQuant_eq (hst : ∀ c j e, once c j = some e → e.start = j) (hadv : ∀ c j e, once c j = some e → j < e.stop)
    (hwf : leTo q.mn q.mx = true) (fuel i : Nat) :
    matchQuant fuel q once rest ctx i =
      (allIter q (bodyOf once) ctx fuel 0 i []).findSome? (contK rest ctx) := by
  change _ = firstSuccess q once rest ctx fuel ⟨0, i, [], 0⟩
  unfold matchQuant
  have hp := phase1_firstSuccess q once rest ctx hadv hwf fuel ⟨0, i, [], 0⟩ rfl (Nat.zero_le _)
  rcases hph : phase q once ctx (some q.mn) fuel ⟨0, i, [], 0⟩ with ⟨f1, st1, done1⟩
  simp only [hph] at hp ⊢
  cases done1 with
  | false => simp [hp]
  | true =>
    obtain ⟨hc, hn, hG⟩ := hp
    simp only [Bool.not_true, Bool.false_eq_true, if_false]
    rw [hG, ← firstSuccess_addStatic q once rest ctx f1 st1]
    have hv := staticsOk_addStatic q st1 hn hc
    have hc' : (addStatic q st1).count = q.mn := by unfold addStatic; split <;> exact hc
    by_cases hg : q.greedy = true
    · simp only [hg, if_true]
      have h2 := phase2_backOffFrom q once rest ctx hst hadv f1 (addStatic q st1) hv (by omega) hg
      simp only [hc', if_true, Option.or_none] at h2
      rw [← h2]
      rfl
    · have hg' : q.greedy = false := by simpa using hg
      simp only [hg', Bool.false_eq_true, if_false]
      exact tryMore_firstSuccess q once rest ctx hadv f1 (addStatic q st1) hv (by omega) (by rw [hc']; exact hwf) hg'

end Quant

def isElem : LPat → Bool
  | .elem _ => true
  | _ => false

/-- every quantifier has `min ≤ max` and iterates a body without choice points: a single element pattern, or a
non-empty sublist of element patterns (static tags and a pattern tag are allowed) -/
def simpleItem : LPat → Bool
  | .elem _ => true
  | .qs q _ => leTo q.mn q.mx
  | .ql q ps => leTo q.mn q.mx && !ps.isEmpty && ps.all isElem

def okEnd (xs : List Nat) (allowPartial : Bool) (r : Dict × Nat) : Bool := allowPartial || r.2 == xs.length

theorem onceE_some {xs : List Nat} {e : EPat} {c : Dict} {j : Nat} {en : Entry} (h : onceE xs e c j = some en) :
    en.start = j ∧ en.stop = j + 1 := by
  unfold onceE at h
  split at h
  · cases h
  · split at h <;> cases h
    exact ⟨rfl, rfl⟩

theorem allSeq_elems (xs : List Nat) : ∀ (ps : List LPat), ps.all isElem = true → ∀ (ctx : Dict) (i : Nat),
    allSeq xs ps ctx i = (match matchInside xs ps true ctx i with | none => [] | some r => [r]) ∧
    (∀ r, matchInside xs ps true ctx i = some r → r.2 = i + ps.length) := by
  intro ps
  induction ps with
  | nil => intro _ ctx i; simp [allSeq, matchInside]
  | cons p rest ih =>
    intro h ctx i
    simp only [List.all_cons, Bool.and_eq_true] at h
    cases p with
    | qs q e => cases h.1
    | ql q ps' => cases h.1
    | elem e =>
      simp only [allSeq, matchInside, matchPat, allPat]
      cases hx : xs[i]? with
      | none => simp
      | some x =>
        simp only
        cases hm : matchE ctx e i x with
        | none => simp
        | some m =>
          have ihr := ih h.2 (ctx ++ m) (i + 1)
          simp only [List.flatMap_cons, List.flatMap_nil, List.append_nil, ihr.1]
          cases hr : matchInside xs rest true (ctx ++ m) (i + 1) with
          | none => exact ⟨rfl, fun _ h => nomatch h⟩
          | some r =>
            have := ihr.2 r hr
            refine ⟨rfl, fun r' h => ?_⟩
            cases h
            simp only [List.length_cons]
            omega

/-- `match_next_q_pat` for a sublist body, as `matchPat` has it -/
def onceL (xs : List Nat) (ps : List LPat) (c : Dict) (j : Nat) : Option Entry :=
  match matchInside xs ps true c j with
  | none => none
  | some (d, k) => some ⟨j, k, d⟩

theorem onceL_some {xs : List Nat} {ps : List LPat} {c : Dict} {j : Nat} {en : Entry} (hel : ps.all isElem = true)
    (h : onceL xs ps c j = some en) : en.start = j ∧ en.stop = j + ps.length := by
  unfold onceL at h
  cases hm : matchInside xs ps true c j with
  | none => simp [hm] at h
  | some r =>
    have := (allSeq_elems xs ps hel c j).2 r hm
    simp only [hm, Option.some.injEq] at h
    subst h
    exact ⟨rfl, this⟩

theorem bodyOf_onceL (xs : List Nat) (ps : List LPat) (hel : ps.all isElem = true) :
    bodyOf (onceL xs ps) = fun c j => (allSeq xs ps c j).map (fun r => ⟨j, r.2, r.1⟩) := by
  funext c j
  simp only [bodyOf, onceL, (allSeq_elems xs ps hel c j).1]
  cases matchInside xs ps true c j <;> rfl

theorem contK_head? (xs : List Nat) (ap : Bool) (A : Dict → Nat → List (Dict × Nat)) (ctx : Dict) (r : Dict × Nat) :
    (((A (ctx ++ r.1) r.2).map (fun r' => (r.1 ++ r'.1, r'.2))).filter (okEnd xs ap)).head? =
      contK (fun c j => ((A c j).filter (okEnd xs ap)).head?) ctx r := by
  rw [List.filter_map, List.head?_map]
  show Option.map _ ((A (ctx ++ r.1) r.2).filter (okEnd xs ap)).head? = _
  simp only [contK]
  cases ((A (ctx ++ r.1) r.2).filter (okEnd xs ap)).head? <;> rfl

theorem matchInside_eq (xs : List Nat) : ∀ (ps : List LPat), ps.all simpleItem = true →
    ∀ (ap : Bool) (ctx : Dict) (i : Nat),
      matchInside xs ps ap ctx i = ((allSeq xs ps ctx i).filter (okEnd xs ap)).head? := by
  intro ps
  induction ps with
  | nil =>
    intro _ ap ctx i
    cases h : (ap || i == xs.length) <;> simp [matchInside, allSeq, okEnd, h]
  | cons p rest ih =>
    intro hsimple ap ctx i
    simp only [List.all_cons, Bool.and_eq_true] at hsimple
    -- both sides try the candidates of `p` in order and continue each with the first acceptable match of `rest`
    rw [matchInside, allSeq, List.filter_flatMap, List.head?_flatMap,
      show (fun c j => matchInside xs rest ap c j) = _ from funext fun c => funext (ih hsimple.2 ap c),
      show (fun r : Dict × Nat => _) = _ from funext (contK_head? xs ap (allSeq xs rest) ctx)]
    cases p with
    | elem e =>
      simp only [matchPat, allPat]
      cases xs[i]? with
      | none => rfl
      | some x =>
        simp only
        cases matchE ctx e i x with
        | none => rfl
        | some m =>
          simp only [List.findSome?_cons, contK, List.findSome?_nil]
          cases ((allSeq xs rest (ctx ++ m) (i + 1)).filter (okEnd xs ap)).head? <;> rfl
    | qs q e =>
      rw [matchPat, allPat]
      exact matchQuant_eq q (onceE xs e) _ ctx (fun _ _ _ h => (onceE_some h).1)
        (fun _ _ _ h => by rw [(onceE_some h).2]; exact Nat.lt_succ_self _) hsimple.1 _ i
    | ql q ps' =>
      simp only [simpleItem, Bool.and_eq_true, Bool.not_eq_true', List.isEmpty_eq_false_iff] at hsimple
      obtain ⟨⟨⟨hwf, hne⟩, hel⟩, _⟩ := hsimple
      have hlen : 0 < ps'.length := List.length_pos_iff.2 hne
      rw [matchPat, allPat, ← bodyOf_onceL xs ps' hel]
      exact matchQuant_eq q (onceL xs ps') _ ctx (fun _ _ _ h => (onceL_some hel h).1)
        (fun _ _ _ h => by rw [(onceL_some hel h).2]; omega) hwf _ i

theorem matchList_eq_spec (ps : List LPat) (xs : List Nat) (h : ps.all simpleItem = true) :
    matchList ps xs = specMatch ps xs := by
  unfold matchList specMatch allMatches
  rw [matchInside_eq xs ps h false [] 0, List.head?_map]
  have : (fun r : Dict × Nat => r.2 == xs.length) = okEnd xs false := by funext r; simp [okEnd]
  rw [this]
  cases ((allSeq xs ps [] 0).filter (okEnd xs false)).head? with
  | none => rfl
  | some v => obtain ⟨d, j⟩ := v; rfl

mutual
theorem matchTree_refl : ∀ t : Tree, matchTree t t = true
  | .node i k ks => by simp [matchTree, Tree.kind, Tree.kids, matchTrees_refl ks]
theorem matchTrees_refl : ∀ ts : List Tree, matchTrees ts ts = true
  | [] => by simp [matchTrees]
  | t :: ts => by simp [matchTrees, matchTree_refl t, matchTrees_refl ts]
end

mutual
theorem toPattern_of_same (K : Kinds) : ∀ (p t : Tree) (ctx : TEnv), matchTree p t = true →
    matchNode K (toPattern p) ctx t = some []
  | .node i k ps, t, ctx, h => by
    simp only [matchTree, Bool.and_eq_true] at h
    simp only [toPattern, matchNode, h.1, if_true]
    exact toPatterns_of_same K ps t.kids ctx h.2
theorem toPatterns_of_same (K : Kinds) : ∀ (ps ts : List Tree) (ctx : TEnv), matchTrees ps ts = true →
    matchFields K (toPatterns ps) ctx ts = some []
  | [], ts, ctx, h => by
    simp only [matchTrees] at h
    simp [toPatterns, matchFields, h]
  | p :: ps, [], ctx, h => by simp [matchTrees] at h
  | p :: ps, t :: ts, ctx, h => by
    simp only [matchTrees, Bool.and_eq_true] at h
    simp only [toPatterns, matchFields, toPattern_of_same K p t ctx h.1, List.append_nil,
      toPatterns_of_same K ps ts ctx h.2]
end

mutual
/-- `diff1 t t'`: `t'` is `t` with exactly one leaf (a node without children) given another kind; ids are ignored -/
def diff1 : Tree → Tree → Bool
  | .node _ k ks, t' =>
    if ks.isEmpty && t'.kids.isEmpty then k != t'.kind else k == t'.kind && diff1List ks t'.kids
termination_by structural t => t
def diff1List : List Tree → List Tree → Bool
  | [], _ => false
  | t :: ts, ts' =>
    match ts' with
    | [] => false
    | t' :: ts'' => (diff1 t t' && matchTrees ts ts'') || (matchTree t t' && diff1List ts ts'')
termination_by structural ts => ts
end

mutual
theorem toPattern_of_diff1 (K : Kinds) : ∀ (p t : Tree) (ctx : TEnv), diff1 p t = true →
    matchNode K (toPattern p) ctx t = none
  | .node i k ps, t, ctx, h => by
    simp only [diff1] at h
    simp only [toPattern, matchNode]
    split at h
    · have : (k == t.kind) = false := by simpa using h
      simp [this]
    · simp only [Bool.and_eq_true] at h
      simp only [h.1, if_true]
      exact toPatterns_of_diff1 K ps t.kids ctx h.2
theorem toPatterns_of_diff1 (K : Kinds) : ∀ (ps ts : List Tree) (ctx : TEnv), diff1List ps ts = true →
    matchFields K (toPatterns ps) ctx ts = none
  | [], ts, ctx, h => by simp [diff1List] at h
  | p :: ps, [], ctx, h => by simp [diff1List] at h
  | p :: ps, t :: ts, ctx, h => by
    simp only [diff1List, Bool.or_eq_true, Bool.and_eq_true] at h
    simp only [toPatterns, matchFields]
    rcases h with h | h
    · simp [toPattern_of_diff1 K p t ctx h.1]
    · simp [toPattern_of_same K p t ctx h.1, toPatterns_of_diff1 K ps ts ctx h.2]
end

theorem mem_union (a b : List Nat) (x : Nat) : x ∈ union a b ↔ x ∈ a ∨ x ∈ b := by
  by_cases h : x ∈ a <;> simp [union, h]

theorem mem_inter (a b : List Nat) (x : Nat) : x ∈ inter a b ↔ x ∈ a ∧ x ∈ b := by
  simp [inter]

theorem mem_diff (a b : List Nat) (x : Nat) : x ∈ diff a b ↔ x ∈ a ∧ x ∉ b := by
  simp [diff]

theorem isFull_mem (K : Kinds) (la : List Nat) (tk : Nat) (hall : tk ∈ K.all) (hf : isFull K la = true) : tk ∈ la := by
  simp only [isFull, List.all_eq_true] at hf
  simpa using hf tk hall

/-- What the tables must satisfy at the kind `tk` of a target node (checked for the extracted tables in
`Pfst.C17.leaf_table_ok`): it is a leaf kind, `AST2ASTSLEAF[tk]` contains it, and `AST2ASTSLEAF[k]` lists it exactly
for the classes `k` it is an instance of. -/
def TargetOK (K : Kinds) (tk : Nat) : Prop :=
  tk ∈ K.all ∧ tk ∈ K.leafOf tk ∧ (∀ k, tk ∈ K.inst k → tk ∈ K.leafOf k) ∧ (∀ k, tk ∈ K.leafOf k → tk ∈ K.inst k)

/-- `MTYPES._leaf_asts` is the union of the entries (and of what was accumulated), as far as leaf kinds go: the early
exits return a full set -/
theorem mem_leafTypes (K : Kinds) (tk : Nat) (hall : tk ∈ K.all) : ∀ (ks : List Nat) (acc : List Nat),
    tk ∈ leafTypes K ks acc ↔ tk ∈ acc ∨ ∃ k ∈ ks, tk ∈ K.leafOf k
  | [], acc => by simp [leafTypes]
  | k :: ks, acc => by
    simp only [leafTypes]
    split
    · next hf => simp [isFull_mem K _ tk hall hf]
    · split
      · next hf =>
        have hm := isFull_mem K _ tk hall hf
        simp only [hm, true_iff]
        exact ((mem_union _ _ _).1 hm).imp_right fun h => ⟨k, List.mem_cons_self, h⟩
      · rw [mem_leafTypes K tk hall ks, mem_union]
        simp [or_assoc]

/-- a type-only pattern matches every node whose kind is in its leaf set (the leaf set is never too large, which is
what complementing it for `MNOT` needs) -/
theorem typeOnly_exact (K : Kinds) (p : Pat) (hp : typeOnly p = true) (ctx : TEnv) (t : Tree) (la : List Nat)
    (hk : TargetOK K t.kind) (hl : leafAsts K p = some la) (hm : matchNode K p ctx t = none) : t.kind ∉ la := by
  intro hin
  cases p with
  | wild => simp [matchNode] at hm
  | type k =>
    cases hl
    simp [matchNode, hk.2.2.2 k hin] at hm
  | types ks =>
    cases hl
    rcases (mem_leafTypes K t.kind hk.1 ks []).1 hin with h | ⟨k, hk1, hk2⟩
    · cases h
    · simp only [matchNode, List.any_eq_true, List.contains_eq_mem, decide_eq_true_eq] at hm
      rw [if_pos ⟨k, hk1, hk.2.2.2 k hk2⟩] at hm
      cases hm
  | _ => simp [typeOnly] at hp

mutual
theorem sound_node (K : Kinds) : ∀ (p : Pat) (ctx : TEnv) (t : Tree) (e : TEnv) (la : List Nat),
    TargetOK K t.kind → leafAsts K p = some la → matchNode K p ctx t = some e → t.kind ∈ la
  | .wild, ctx, t, e, la, hk, hl, _ | .mmaybe _ _ _, ctx, t, e, la, hk, hl, _ => by
    cases hl; exact hk.1
  | .node k ps, ctx, t, e, la, hk, hl, hm => by
    cases hl
    simp only [matchNode, Option.ite_none_right_eq_some, beq_iff_eq] at hm
    rw [hm.1]; exact hk.2.1
  | .type _, ctx, t, e, la, hk, hl, hm | .ctxInst, ctx, t, e, la, hk, hl, hm => by
    cases hl
    simp only [matchNode, Option.ite_none_right_eq_some, List.contains_eq_mem, decide_eq_true_eq] at hm
    exact hk.2.2.1 _ hm.1
  | .types ks, ctx, t, e, la, hk, hl, hm | .typesF ks _ _, ctx, t, e, la, hk, hl, hm => by
    cases hl
    simp only [matchNode, Option.ite_none_right_eq_some, List.any_eq_true, List.contains_eq_mem,
      decide_eq_true_eq] at hm
    obtain ⟨⟨k, hk1, hk2⟩, _⟩ := hm
    exact (mem_leafTypes K t.kind hk.1 ks []).2 (Or.inr ⟨k, hk1, hk.2.2.1 k hk2⟩)
  | .m p tag st, ctx, t, e, la, hk, hl, hm => by
    simp only [leafAsts] at hl
    simp only [matchNode] at hm
    split at hm
    · cases hm
    · next e' he => exact sound_node K p ctx t e' la hk hl he
  | .mnot p tag st, ctx, t, e, la, hk, hl, hm => by
    simp only [leafAsts] at hl
    simp only [matchNode] at hm
    split at hm
    · cases hm
    · next hnone =>
      split at hl
      · cases hl; exact hk.1
      · next hto =>
        have hto' : typeOnly p = true := by simpa using hto
        split at hl
        · cases hl
        · next la' hla' =>
          have hnot := typeOnly_exact K p hto' ctx t la' hk hla' hnone
          split at hl
          · cases hl; exact hk.1
          · split at hl
            · next hf => exact absurd (isFull_mem K la' t.kind hk.1 hf) hnot
            · cases hl
              exact (mem_diff _ _ _).2 ⟨hk.1, hnot⟩
  | .mor ps, ctx, t, e, la, hk, hl, hm => by
    simp only [leafAsts] at hl
    simp only [matchNode] at hm
    exact (sound_or K ps ctx t [] la hk hl).2 e hm
  | .mand ps, ctx, t, e, la, hk, hl, hm => by
    simp only [leafAsts] at hl
    simp only [matchNode] at hm
    exact sound_and K ps ctx t K.all la e hk hl hk.1 hm
  | .ref n, ctx, t, e, la, hk, hl, _ => by simp [leafAsts] at hl
theorem sound_or (K : Kinds) : ∀ (ps : List (Option Name × Pat)),
    ∀ (ctx : TEnv) (t : Tree) (acc r : List Nat), TargetOK K t.kind → leafOr K ps acc = some r →
      (t.kind ∈ acc → t.kind ∈ r) ∧ (∀ e, matchOr K ps ctx t = some e → t.kind ∈ r)
  | [], ctx, t, acc, r, hk, hl => by
    cases hl
    exact ⟨id, fun e h => by simp [matchOr] at h⟩
  | (tag, p) :: ps, ctx, t, acc, r, hk, hl => by
    simp only [leafOr] at hl
    split at hl
    · cases hl
    · next la hla =>
      split at hl
      · next hf =>
        cases hl
        have := isFull_mem K _ t.kind hk.1 hf
        exact ⟨fun _ => this, fun _ _ => this⟩
      · split at hl
        · next hf =>
          cases hl
          have := isFull_mem K _ t.kind hk.1 hf
          exact ⟨fun _ => this, fun _ _ => this⟩
        · have ih := sound_or K ps ctx t (union acc la) r hk hl
          refine ⟨fun h => ih.1 ((mem_union _ _ _).2 (Or.inl h)), fun e hm => ?_⟩
          simp only [matchOr] at hm
          split at hm
          · next e' he => exact ih.1 ((mem_union _ _ _).2 (Or.inr (sound_node K p ctx t e' la hk hla he)))
          · exact ih.2 e hm
theorem sound_and (K : Kinds) : ∀ (ps : List (Option Name × Pat)),
    ∀ (ctx : TEnv) (t : Tree) (acc r : List Nat) (e : TEnv), TargetOK K t.kind → leafAnd K ps acc = some r →
      t.kind ∈ acc → matchAnd K ps ctx t = some e → t.kind ∈ r
  | [], ctx, t, acc, r, e, hk, hl, ha, _ => by
    cases hl; exact ha
  | (tag, p) :: ps, ctx, t, acc, r, e, hk, hl, ha, hm => by
    simp only [leafAnd] at hl
    simp only [matchAnd] at hm
    split at hm
    · cases hm
    · next e0 he0 =>
      split at hm
      · cases hm
      · next e1 he1 =>
        split at hl
        · cases hl
        · next la hla =>
          have hin := sound_node K p ctx t e0 la hk hla he0
          split at hl
          · next hemp => simp [List.isEmpty_iff] at hemp; subst hemp; cases hin
          · split at hl
            · next hemp =>
              have : t.kind ∈ inter acc la := (mem_inter _ _ _).2 ⟨ha, hin⟩
              simp [List.isEmpty_iff] at hemp; rw [hemp] at this; cases this
            · exact sound_and K ps _ t (inter acc la) r e1 hk hl ((mem_inter _ _ _).2 ⟨ha, hin⟩) he1
end

/-- the walk, restricted to an `on` mode, filtered by the verdict of each event's own node -/
def matchedEvents (K : Kinds) (p : Pat) (on : On) (t : Tree) : List (Tree × Bool × TEnv) :=
  ((walkBoth K t).filter (fun ev => on.keeps ev.2)).filterMap (fun ev =>
    match matchNode K p [] ev.1 with
    | none => none
    | some e => some (ev.1, ev.2, e))

theorem filterMap_filter_of_imp {α β} (l : List α) (q : α → Bool) (f : α → Option β)
    (h : ∀ a ∈ l, (f a).isSome = true → q a = true) : (l.filter q).filterMap f = l.filterMap f := by
  induction l with
  | nil => rfl
  | cons a l ih =>
    have ih' := ih (fun b hb => h b (List.mem_cons_of_mem _ hb))
    by_cases hq : q a = true
    · simp [hq, List.filterMap_cons, ih']
    · have hf : f a = none := by
        cases hfa : f a with
        | none => rfl
        | some b => exact absurd (h a List.mem_cons_self (by simp [hfa])) hq
      simp [hq, hf, ih']

mutual
theorem mem_walkBoth_kind (K : Kinds) : ∀ (t : Tree) (ev : Tree × Bool), ev ∈ walkBoth K t → ev.1.kind ∈ K.all
  | .node i k ks, ev, h => by
    simp only [walkBoth] at h
    split at h
    · next hk =>
      simp only [List.mem_cons, List.mem_append, List.not_mem_nil, or_false] at h
      rcases h with h | h | h
      · subst h; simpa [Tree.kind] using hk
      · exact mem_walkBothList_kind K ks ev h
      · subst h; simpa [Tree.kind] using hk
    · exact mem_walkBothList_kind K ks ev h
theorem mem_walkBothList_kind (K : Kinds) : ∀ (ts : List Tree) (ev : Tree × Bool), ev ∈ walkBothList K ts → ev.1.kind ∈ K.all
  | [], ev, h => by simp [walkBothList] at h
  | t :: ts, ev, h => by
    simp only [walkBothList, List.mem_append] at h
    rcases h with h | h
    · exact mem_walkBoth_kind K t ev h
    · exact mem_walkBothList_kind K ts ev h
end

mutual
theorem walk_of_both (K : Kinds) : ∀ t : Tree, ((walkBoth K t).filter (fun ev => !ev.2)).map (·.1) = walk K t
  | .node i k ks => by
    simp only [walkBoth, walk]
    split
    · simp [List.filter_append, walkList_of_both K ks]
    · exact walkList_of_both K ks
theorem walkList_of_both (K : Kinds) : ∀ ts : List Tree,
    ((walkBothList K ts).filter (fun ev => !ev.2)).map (·.1) = walkList K ts
  | [] => by simp [walkBothList, walkList]
  | t :: ts => by simp [walkBothList, walkList, List.filter_append, walk_of_both K t, walkList_of_both K ts]
end

end Pfst.Match
