import Pfst.Links
import Pfst.OffsetLemmas

/-!
Lemmas for C02.  The cache clearing of the `_offset` walk (`touchNode`) covers every node whose subtree positions change,
on geometrically ordered trees.  The link store: walks that rewrite the record of `a.f` at every AST they visit
(`foldl_fst`: `_unmake_fst_tree`, `_touchall`), `_make_fst_tree` on fresh subtrees (`Frame`), operations that only empty
caches (`CacheOnly`), the renumbering loop.  View windows.
-/
namespace Pfst.Links
open Pfst.Offset

mutual
/-- `s'` has the shape and ids of `s`, and every node of `s` is in `T` or heads an entirely unchanged subtree. -/
def okNode (T : List Nat) : Node → Node → Bool
  | .mk i p d ks, n' =>
    match n' with
    | .mk i' p' d' ks' =>
      (i == i') && (T.contains i || decide (flatten (.mk i p d ks) = flatten (.mk i' p' d' ks'))) && okList T ks ks'
def okList (T : List Nat) : List Node → List Node → Bool
  | [], l' => l'.isEmpty
  | k :: r, l' =>
    match l' with
    | [] => false
    | k' :: r' => okNode T k k' && okList T r r'
end

mutual
theorem okNode_refl (T : List Nat) : ∀ t : Node, okNode T t t = true
  | .mk i p d ks => by
    simp only [okNode, beq_self_eq_true, decide_true, Bool.or_true, Bool.true_and, okList_refl T ks]
theorem okList_refl (T : List Nat) : ∀ l : List Node, okList T l l = true
  | [] => by simp [okList]
  | k :: r => by simp only [okList, okNode_refl T k, okList_refl T r, Bool.and_self]
end

mutual
theorem okNode_mono (T T' : List Nat) (h : ∀ x ∈ T, x ∈ T') :
    ∀ t t' : Node, okNode T t t' = true → okNode T' t t' = true
  | .mk i p d ks, .mk i' p' d' ks', hok => by
    simp only [okNode, Bool.and_eq_true, Bool.or_eq_true, List.contains_iff_mem] at hok ⊢
    exact ⟨⟨hok.1.1, hok.1.2.imp (h i) id⟩, okList_mono T T' h ks ks' hok.2⟩
theorem okList_mono (T T' : List Nat) (h : ∀ x ∈ T, x ∈ T') :
    ∀ l l' : List Node, okList T l l' = true → okList T' l l' = true
  | [], l', hok => by simpa [okList] using hok
  | k :: r, [], hok => by simp [okList] at hok
  | k :: r, k' :: r', hok => by
    simp only [okList, Bool.and_eq_true] at hok ⊢
    exact ⟨okNode_mono T T' h k k' hok.1, okList_mono T T' h r r' hok.2⟩
end

theorem touchNode_flag (π : Params) : ∀ n : Node, (touchNode π n).2 = (goNode π n).2
  | .mk i pos deco kids => by
    rw [touchNode, goNode]
    by_cases hx : (π.exclude == some i && !π.offsetExcluded) = true
    · rw [if_pos hx, if_pos hx]
    · rw [if_neg hx, if_neg hx]
      cases pos with
      | none => rfl
      | some p =>
        dsimp only
        by_cases hb : endsBefore π p = true
        · rw [if_pos hb, if_pos hb]
        · rw [if_neg hb, if_neg hb]
          by_cases hs : skipKids π p deco = true
          · rw [if_pos hs, if_pos hs]
          · rw [if_neg hs, if_neg hs]

theorem touchList_flag (π : Params) : ∀ l : List Node, (touchList π l).2 = (goList π l).2
  | [] => rfl
  | n :: rest => by
    simp only [touchList, goList, ← touchList_flag π rest]
    split
    · assumption
    · exact touchNode_flag π n

theorem okNode_cons_self {i : Nat} {L : List Nat} {p p' : Option Pos} {d : Option Int} {ks ks' : List Node}
    (h : okList (i :: L) ks ks' = true) : okNode (i :: L) (.mk i p d ks) (.mk i p' d ks') = true := by
  simp [okNode, h]

mutual
theorem touchNode_ok (π : Params) : ∀ t : Node, geo t = true → okNode (touchNode π t).1 t (naiveNode π t) = true
  | .mk i pos deco kids, h => by
    simp only [geo, Bool.and_eq_true] at h
    have hk := touchList_ok π kids h.2
    -- the node itself is cleared; below it either the walk recursed (`hk`) or nothing moves
    have hrec : ∀ c : Bool, okList (i :: if c then (touchList π kids).1 else []) kids
        (if c then naiveList π kids else kids) = true := by
      intro c
      cases c
      · exact okList_refl _ _
      · exact okList_mono _ _ (fun _ => List.mem_cons_of_mem i) _ _ hk
    rw [touchNode, naiveNode]
    by_cases hx : (π.exclude == some i && !π.offsetExcluded) = true
    · rw [if_pos hx, if_pos hx]
      exact okNode_refl _ _
    · rw [if_neg hx, if_neg hx]
      cases pos with
      | none => exact okNode_cons_self (hrec _)
      | some p =>
        simp only [Bool.and_eq_true] at h
        obtain ⟨⟨⟨hw, he⟩, hl⟩, _⟩ := h
        dsimp only [Option.map_some]
        by_cases hb : endsBefore π p = true
        · rw [if_pos hb, naiveList_of_endsLe π p hb kids he, ite_self]
          exact okNode_cons_self (okList_refl _ _)
        · rw [if_neg hb]
          by_cases hs : skipKids π p deco = true
          · rw [if_pos hs, naiveList_of_skipKids π p deco kids hs hl, ite_self]
            exact okNode_cons_self (okList_refl _ _)
          · rw [if_neg hs]
            exact okNode_cons_self (hrec _)
theorem touchList_ok (π : Params) : ∀ l : List Node, geoList l = true →
    okList (touchList π l).1 l (naiveList π l) = true
  | [], _ => by simp [okList, naiveList]
  | n :: rest, h => by
    simp only [geoList, Bool.and_eq_true] at h
    obtain ⟨⟨hg, hb⟩, hr⟩ := h
    have ih := touchList_ok π rest hr
    simp only [touchList, naiveList]
    split
    · next hf =>
      obtain ⟨k, hk, q, hq, hqb⟩ := goList_flag π rest (touchList_flag π rest ▸ hf)
      simp only [okList, naive_of_endsLe π q hqb n (beforeAll_mem n rest hb k hk q hq), okNode_refl, ih, Bool.and_self]
    · simp only [okList, Bool.and_eq_true]
      exact ⟨okNode_mono _ _ (fun _ => List.mem_append_left _) _ _ (touchNode_ok π n hg),
             okList_mono _ _ (fun _ => List.mem_append_right _) _ _ ih⟩
end

mutual
def subnodes : Node → List Node
  | .mk i p d ks => .mk i p d ks :: subnodesList ks
def subnodesList : List Node → List Node
  | [] => []
  | k :: r => subnodes k ++ subnodesList r
end

mutual
theorem ok_mem (T : List Nat) : ∀ t t' : Node, okNode T t t' = true → ∀ s' ∈ subnodes t',
    ∃ s ∈ subnodes t, s.id = s'.id ∧ (T.contains s.id = true ∨ flatten s = flatten s')
  | .mk i p d ks, .mk i' p' d' ks', hok, s', hs' => by
    simp only [okNode, Bool.and_eq_true, Bool.or_eq_true, beq_iff_eq, decide_eq_true_eq] at hok
    simp only [subnodes, List.mem_cons] at hs'
    cases hs' with
    | inl h0 =>
      subst h0
      exact ⟨.mk i p d ks, by simp [subnodes], hok.1.1, hok.1.2⟩
    | inr h1 =>
      obtain ⟨s, hs, h⟩ := okList_mem T ks ks' hok.2 s' h1
      exact ⟨s, by simp only [subnodes, List.mem_cons]; exact Or.inr hs, h⟩
theorem okList_mem (T : List Nat) : ∀ l l' : List Node, okList T l l' = true → ∀ s' ∈ subnodesList l',
    ∃ s ∈ subnodesList l, s.id = s'.id ∧ (T.contains s.id = true ∨ flatten s = flatten s')
  | [], l', hok, s', hs' => by
    cases l' with
    | nil => simp [subnodesList] at hs'
    | cons a b => simp [okList] at hok
  | k :: r, [], hok, _, _ => by simp [okList] at hok
  | k :: r, k' :: r', hok, s', hs' => by
    simp only [okList, Bool.and_eq_true] at hok
    simp only [subnodesList, List.mem_append] at hs' ⊢
    cases hs' with
    | inl h0 =>
      obtain ⟨s, hs, h⟩ := ok_mem T k k' hok.1 s' h0
      exact ⟨s, Or.inl hs, h⟩
    | inr h1 =>
      obtain ⟨s, hs, h⟩ := okList_mem T r r' hok.2 s' h1
      exact ⟨s, Or.inr hs, h⟩
end

theorem upd_same {β} (g : Nat → β) (k : Nat) (v : β) : upd g k v k = v := by simp [upd]
theorem upd_other {β} (g : Nat → β) (k x : Nat) (v : β) (h : x ≠ k) : upd g k v x = g x := by simp [upd, h]

theorem id_mem_ids (t : Ast) : t.id ∈ ids t := by
  cases t; simp [ids, Ast.id]

theorem idsList_kids_sub (t : Ast) : ∀ y ∈ idsList t.kids, y ∈ ids t := by
  obtain ⟨j, k, f, ks⟩ := t
  intro y hy
  exact List.mem_cons_of_mem _ hy

theorem linkedB_iff {σ : Store} {pf : Option Nat} {t : Ast} :
    linkedB σ pf t = true ↔ ∃ f, σ.astF t.id = some f ∧ (σ.fst f).a = some t.id ∧ (σ.fst f).parent = pf ∧
      (σ.fst f).pfield = t.fld ∧ linkedListB σ (some f) t.kids = true := by
  obtain ⟨a, k, fl, ks⟩ := t
  simp only [linkedB, Ast.id, Ast.fld, Ast.kids]
  cases σ.astF a with
  | none => simp
  | some f => simp [and_assoc]

theorem foldl_fst {step : Store → Nat → Store} {u : FstRec → FstRec} (hu : ∀ r, u (u r) = u r)
    (hfst : ∀ σ a g, (step σ a).fst g = if σ.astF a = some g then u (σ.fst g) else σ.fst g)
    (hastF : ∀ σ a x, (step σ a).astF x = σ.astF x ∨ (x = a ∧ (step σ a).astF x = none)) :
    ∀ (I : List Nat) (σ : Store) (g : Nat),
      (I.foldl step σ).fst g = if ∃ x ∈ I, σ.astF x = some g then u (σ.fst g) else σ.fst g
  | [], σ, g => by simp
  | a :: I, σ, g => by
    rw [List.foldl_cons, foldl_fst hu hfst hastF I (step σ a) g, hfst]
    by_cases h1 : σ.astF a = some g
    · rw [if_pos h1, if_pos (show ∃ x ∈ a :: I, σ.astF x = some g from ⟨a, List.mem_cons_self, h1⟩)]
      split
      · exact hu _
      · rfl
    · -- `a` has another FST, so the step does not change which ASTs have `g`
      have key : ∀ x, (step σ a).astF x = some g ↔ σ.astF x = some g := fun x => by
        rcases hastF σ a x with e | ⟨rfl, e⟩
        · rw [e]
        · exact ⟨fun h => absurd (e.symm.trans h) nofun, fun h => absurd h h1⟩
      simp only [key, h1, if_false, List.mem_cons, or_and_right, exists_or, exists_eq_left, false_or]

theorem unlink_astF (σ : Store) (a x : Nat) : (unlink σ a).astF x = if x = a then none else σ.astF x := by
  unfold unlink
  split
  · rfl
  · next h =>
    split
    · next e => rw [e, h]
    · rfl

theorem unlink_fst (σ : Store) (a g : Nat) :
    (unlink σ a).fst g = if σ.astF a = some g then { σ.fst g with a := none } else σ.fst g := by
  unfold unlink
  split
  · next f hf =>
    by_cases e : g = f
    · subst e; simp [hf, upd]
    · simp [hf, upd, e, Ne.symm e]
  · next h => simp [h]

theorem unlink_next (σ : Store) (a : Nat) : (unlink σ a).next = σ.next := by
  unfold unlink; split <;> rfl

mutual
theorem unmake_eq_foldl : ∀ (t : Ast) (σ : Store), unmake σ t = (ids t).foldl unlink σ
  | .mk a _ _ kids, σ => by simp only [unmake, ids, List.foldl_cons, unmakeList_eq_foldl kids]
theorem unmakeList_eq_foldl : ∀ (l : List Ast) (σ : Store), unmakeList σ l = (idsList l).foldl unlink σ
  | [], _ => rfl
  | k :: rest, σ => by
    simp only [unmakeList, idsList, List.foldl_append, unmake_eq_foldl k, unmakeList_eq_foldl rest]
end

theorem unlinkAll_astF : ∀ (I : List Nat) (σ : Store) (x : Nat),
    (I.foldl unlink σ).astF x = if x ∈ I then none else σ.astF x
  | [], _, _ => by simp
  | a :: I, σ, x => by
    rw [List.foldl_cons, unlinkAll_astF I, unlink_astF]
    by_cases h1 : x ∈ I <;> by_cases h2 : x = a <;> simp [h1, h2]

theorem unlinkAll_next : ∀ (I : List Nat) (σ : Store), (I.foldl unlink σ).next = σ.next
  | [], _ => rfl
  | a :: I, σ => by rw [List.foldl_cons, unlinkAll_next I, unlink_next]

theorem unlinkAll_fst (I : List Nat) (σ : Store) (g : Nat) :
    (I.foldl unlink σ).fst g = if ∃ x ∈ I, σ.astF x = some g then { σ.fst g with a := none } else σ.fst g :=
  foldl_fst (step := unlink) (u := fun r => { r with a := none }) (fun _ => rfl) unlink_fst (fun σ a x => by
    rw [unlink_astF]
    by_cases e : x = a
    · exact Or.inr ⟨e, if_pos e⟩
    · exact Or.inl (if_neg e)) I σ g

theorem unmake_astF (t : Ast) (σ : Store) (x : Nat) :
    (unmake σ t).astF x = if x ∈ ids t then none else σ.astF x := by
  rw [unmake_eq_foldl, unlinkAll_astF]

theorem unmakeList_astF (l : List Ast) (σ : Store) (x : Nat) :
    (unmakeList σ l).astF x = if x ∈ idsList l then none else σ.astF x := by
  rw [unmakeList_eq_foldl, unlinkAll_astF]

/-- `_unmake_fst_tree` writes `f.a = None` for the FSTs of the ASTs of the subtree and nothing else of any FST:
parent and pfield "are still useful after node has been removed" -/
theorem unmake_fst (t : Ast) (σ : Store) (g : Nat) :
    (unmake σ t).fst g = if ∃ x ∈ ids t, σ.astF x = some g then { σ.fst g with a := none } else σ.fst g := by
  rw [unmake_eq_foldl, unlinkAll_fst]

theorem unmakeList_fst (l : List Ast) (σ : Store) (g : Nat) :
    (unmakeList σ l).fst g = if ∃ x ∈ idsList l, σ.astF x = some g then { σ.fst g with a := none } else σ.fst g := by
  rw [unmakeList_eq_foldl, unlinkAll_fst]

theorem unmake_next (t : Ast) (σ : Store) : (unmake σ t).next = σ.next := by
  rw [unmake_eq_foldl, unlinkAll_next]

theorem unmakeList_next (l : List Ast) (σ : Store) : (unmakeList σ l).next = σ.next := by
  rw [unmakeList_eq_foldl, unlinkAll_next]

theorem unmakeList_fst_other : ∀ (l : List Ast) (σ : Store) (f : Nat),
    ((unmakeList σ l).fst f).parent = (σ.fst f).parent ∧ ((unmakeList σ l).fst f).pfield = (σ.fst f).pfield := by
  intro l σ f
  rw [unmakeList_fst]
  split <;> exact ⟨rfl, rfl⟩

theorem unmake_parent_pfield (t : Ast) (σ : Store) (f : Nat) :
    ((unmake σ t).fst f).parent = (σ.fst f).parent ∧ ((unmake σ t).fst f).pfield = (σ.fst f).pfield := by
  rw [unmake_fst]
  split <;> exact ⟨rfl, rfl⟩

theorem unmakeList_astF_sub : ∀ (l : List Ast) (σ : Store) (x g : Nat), σ.astF x ≠ some g →
    (unmakeList σ l).astF x ≠ some g := by
  intro l σ x g h
  rw [unmakeList_astF]
  split
  · simp
  · exact h

/-- relative to `σ0`, an AST either keeps its FST or is dead together with that FST -/
def Coupled (σ0 σ : Store) : Prop :=
  ∀ x f, σ0.astF x = some f → σ.astF x = some f ∨ (σ.astF x = none ∧ (σ.fst f).a = none)

theorem unmakeList_coupled (σ0 : Store) : ∀ (l : List Ast) (σ : Store), Coupled σ0 σ → Coupled σ0 (unmakeList σ l) := by
  intro l σ h x f hx
  rw [unmakeList_astF, unmakeList_fst]
  rcases h x f hx with hl | ⟨hd, hfa⟩
  · by_cases hm : x ∈ idsList l
    · right
      rw [if_pos hm, if_pos ⟨x, hm, hl⟩]
      exact ⟨rfl, rfl⟩
    · left
      rw [if_neg hm]
      exact hl
  · right
    refine ⟨by split <;> first | rfl | exact hd, ?_⟩
    split
    · rfl
    · exact hfa

mutual
theorem linkedB_congrP (σ σ' : Store) (P : Nat → Prop) :
    ∀ (t : Ast) (pf : Option Nat), (∀ x ∈ ids t, σ'.astF x = σ.astF x) →
      (∀ x ∈ ids t, ∀ f, σ.astF x = some f → P f) → (∀ f, P f → σ'.fst f = σ.fst f) →
      linkedB σ pf t = true → linkedB σ' pf t = true
  | .mk a _ fld kids, pf, h1, h2, h3, hl => by
    obtain ⟨f, hf, ha, hp, hq, hk⟩ := linkedB_iff.mp hl
    refine linkedB_iff.mpr ⟨f, (h1 a List.mem_cons_self).trans hf, ?_⟩
    rw [h3 f (h2 a List.mem_cons_self f hf)]
    exact ⟨ha, hp, hq, linkedListB_congrP σ σ' P kids (some f)
      (fun x hx => h1 x (List.mem_cons_of_mem _ hx)) (fun x hx => h2 x (List.mem_cons_of_mem _ hx)) h3 hk⟩
theorem linkedListB_congrP (σ σ' : Store) (P : Nat → Prop) :
    ∀ (l : List Ast) (pf : Option Nat), (∀ x ∈ idsList l, σ'.astF x = σ.astF x) →
      (∀ x ∈ idsList l, ∀ f, σ.astF x = some f → P f) → (∀ f, P f → σ'.fst f = σ.fst f) →
      linkedListB σ pf l = true → linkedListB σ' pf l = true
  | [], _, _, _, _, _ => by simp [linkedListB]
  | k :: rest, pf, h1, h2, h3, hl => by
    simp only [linkedListB, Bool.and_eq_true] at hl ⊢
    exact ⟨linkedB_congrP σ σ' P k pf (fun x hx => h1 x (List.mem_append_left _ hx))
             (fun x hx => h2 x (List.mem_append_left _ hx)) h3 hl.1,
           linkedListB_congrP σ σ' P rest pf (fun x hx => h1 x (List.mem_append_right _ hx))
             (fun x hx => h2 x (List.mem_append_right _ hx)) h3 hl.2⟩
end

theorem linkedListB_congr (σ σ' : Store) (B : Nat) :
    ∀ (l : List Ast) (pf : Option Nat), (∀ x ∈ idsList l, σ'.astF x = σ.astF x) →
      (∀ x ∈ idsList l, ∀ f, σ.astF x = some f → f < B) → (∀ f, f < B → σ'.fst f = σ.fst f) →
      linkedListB σ pf l = true → linkedListB σ' pf l = true :=
  linkedListB_congrP σ σ' (· < B)

/-- what `makeKids`/`makeChild` may change when no AST of the subtree has an FST yet -/
structure Frame (I : List Nat) (σ σ' : Store) : Prop where
  next_le : σ.next ≤ σ'.next
  astF_out : ∀ x, x ∉ I → σ'.astF x = σ.astF x
  fst_old : ∀ f, f < σ.next → σ'.fst f = σ.fst f
  astF_lt : ∀ x, x ∈ I → ∀ f, σ'.astF x = some f → f < σ'.next

theorem Frame.refl (σ : Store) : Frame [] σ σ :=
  ⟨Nat.le_refl _, fun _ _ => rfl, fun _ _ => rfl, fun x hx => by cases hx⟩

theorem Frame.trans {I J : List Nat} {σ σ1 σ2 : Store} (h1 : Frame I σ σ1) (h2 : Frame J σ1 σ2) :
    Frame (I ++ J) σ σ2 where
  next_le := Nat.le_trans h1.next_le h2.next_le
  astF_out x hx := by
    rw [List.mem_append, not_or] at hx
    rw [h2.astF_out x hx.2, h1.astF_out x hx.1]
  fst_old f hf := by rw [h2.fst_old f (Nat.lt_of_lt_of_le hf h1.next_le), h1.fst_old f hf]
  astF_lt x hx f hxf := by
    by_cases hJ : x ∈ J
    · exact h2.astF_lt x hJ f hxf
    · rw [h2.astF_out x hJ] at hxf
      exact Nat.lt_of_lt_of_le (h1.astF_lt x ((List.mem_append.mp hx).resolve_right hJ) f hxf) h2.next_le

/-- the store after `FST(a, parent, fld)` when `a` has no FST yet -/
def newStore (σ : Store) (a : Nat) (pf : Nat) (fld : Option Fld) : Store :=
  { astF := upd σ.astF a (some σ.next),
    fst := upd σ.fst σ.next { a := some a, parent := some pf, pfield := fld, cache := [] },
    next := σ.next + 1 }

theorem fstNew_fresh (σ : Store) (a : Nat) (pf : Nat) (fld : Option Fld) (ha : σ.astF a = none) :
    fstNew σ a pf fld = (newStore σ a pf fld, σ.next) := by
  simp [fstNew, ha, newStore]

theorem newStore_frame (σ : Store) (a : Nat) (pf : Nat) (fld : Option Fld) : Frame [a] σ (newStore σ a pf fld) where
  next_le := Nat.le_succ _
  astF_out x hx := upd_other _ _ _ _ (by simpa using hx)
  fst_old f hf := upd_other _ _ _ _ (Nat.ne_of_lt hf)
  astF_lt x hx f hxf := by
    obtain rfl : x = a := by simpa using hx
    simp only [newStore, upd_same, Option.some.injEq] at hxf
    exact hxf ▸ Nat.lt_succ_self _

mutual
/-- `_make_fst_tree` on a subtree of pairwise distinct ASTs none of which has an FST: afterwards the subtree is linked,
and only fresh FST objects and the subtree's own `a.f` were written. -/
theorem makeChild_spec : ∀ (t : Ast) (σ : Store) (pf : Nat), pf < σ.next → (ids t).Nodup →
    (∀ x ∈ ids t, σ.astF x = none) →
    Frame (ids t) σ (makeChild σ pf t) ∧ linkedB (makeChild σ pf t) (some pf) t = true
  | .mk a kind fld kids, σ, pf, hpf, hnd, hfresh => by
    simp only [ids, List.nodup_cons] at hnd
    simp only [makeChild, fstNew_fresh σ a pf fld (hfresh a List.mem_cons_self)]
    have h1 := newStore_frame σ a pf fld
    have hkfresh : ∀ x ∈ idsList kids, (newStore σ a pf fld).astF x = none := fun x hx => by
      rw [h1.astF_out x (fun e => hnd.1 (List.mem_singleton.mp e ▸ hx))]
      exact hfresh x (List.mem_cons_of_mem _ hx)
    obtain ⟨hfr, hlk⟩ := makeKids_spec kids (newStore σ a pf fld) σ.next (Nat.lt_succ_self _) hnd.2 hkfresh
    have hA : (makeKids (newStore σ a pf fld) σ.next kids).astF a = some σ.next := by
      rw [hfr.astF_out a hnd.1]
      exact upd_same _ _ _
    have hF : (makeKids (newStore σ a pf fld) σ.next kids).fst σ.next =
        { a := some a, parent := some pf, pfield := fld, cache := [] } := by
      rw [hfr.fst_old σ.next (Nat.lt_succ_self _)]
      exact upd_same _ _ _
    exact ⟨h1.trans hfr, linkedB_iff.mpr ⟨σ.next, hA, by rw [hF]; exact ⟨rfl, rfl, rfl, hlk⟩⟩⟩
theorem makeKids_spec : ∀ (l : List Ast) (σ : Store) (pf : Nat), pf < σ.next → (idsList l).Nodup →
    (∀ x ∈ idsList l, σ.astF x = none) →
    Frame (idsList l) σ (makeKids σ pf l) ∧ linkedListB (makeKids σ pf l) (some pf) l = true
  | [], σ, _, _, _, _ => ⟨Frame.refl σ, rfl⟩
  | k :: rest, σ, pf, hpf, hnd, hfresh => by
    simp only [idsList, List.nodup_append] at hnd
    obtain ⟨hndk, hndr, hdisj⟩ := hnd
    obtain ⟨hfk, hlk⟩ := makeChild_spec k σ pf hpf hndk (fun x hx => hfresh x (List.mem_append_left _ hx))
    have hrfresh : ∀ x ∈ idsList rest, (makeChild σ pf k).astF x = none := fun x hx => by
      rw [hfk.astF_out x (fun hk => hdisj x hk x hx rfl)]
      exact hfresh x (List.mem_append_right _ hx)
    obtain ⟨hfr, hlr⟩ :=
      makeKids_spec rest (makeChild σ pf k) pf (Nat.lt_of_lt_of_le hpf hfk.next_le) hndr hrfresh
    simp only [makeKids, linkedListB, Bool.and_eq_true]
    -- the first child stays linked while its later siblings are made
    exact ⟨hfk.trans hfr, linkedB_congrP (makeChild σ pf k) _ (· < (makeChild σ pf k).next) k (some pf)
      (fun x hx => hfr.astF_out x (fun hr => hdisj x hx x hr rfl)) hfk.astF_lt hfr.fst_old hlk, hlr⟩
end

/-- `σ'` differs from `σ` at most in cache contents -/
def CacheOnly (σ σ' : Store) : Prop :=
  σ'.astF = σ.astF ∧ σ'.next = σ.next ∧
    ∀ g, (σ'.fst g).a = (σ.fst g).a ∧ (σ'.fst g).parent = (σ.fst g).parent ∧ (σ'.fst g).pfield = (σ.fst g).pfield

theorem CacheOnly.refl (σ : Store) : CacheOnly σ σ := ⟨rfl, rfl, fun _ => ⟨rfl, rfl, rfl⟩⟩

theorem CacheOnly.trans {σ σ' σ'' : Store} (h1 : CacheOnly σ σ') (h2 : CacheOnly σ' σ'') : CacheOnly σ σ'' :=
  ⟨h2.1.trans h1.1, h2.2.1.trans h1.2.1, fun g =>
    ⟨(h2.2.2 g).1.trans (h1.2.2 g).1, (h2.2.2 g).2.1.trans (h1.2.2 g).2.1, (h2.2.2 g).2.2.trans (h1.2.2 g).2.2⟩⟩

mutual
theorem linkedB_cacheOnly {σ σ' : Store} (h : CacheOnly σ σ') : ∀ (t : Ast) (pf : Option Nat),
    linkedB σ' pf t = linkedB σ pf t
  | .mk a _ fld kids, pf => by
    simp only [linkedB, h.1]
    cases σ.astF a with
    | none => rfl
    | some f => simp only [(h.2.2 f).1, (h.2.2 f).2.1, (h.2.2 f).2.2, linkedListB_cacheOnly h kids (some f)]
theorem linkedListB_cacheOnly {σ σ' : Store} (h : CacheOnly σ σ') : ∀ (l : List Ast) (pf : Option Nat),
    linkedListB σ' pf l = linkedListB σ pf l
  | [], _ => rfl
  | k :: rest, pf => by simp only [linkedListB, linkedB_cacheOnly h k pf, linkedListB_cacheOnly h rest pf]
end

theorem touch_fst (σ : Store) (f g : Nat) :
    (touch σ f).fst g = if g = f then { σ.fst g with cache := [] } else σ.fst g := by
  simp only [touch, upd]
  split
  · next e => rw [e]
  · rfl

theorem touch_cacheOnly (σ : Store) (f : Nat) : CacheOnly σ (touch σ f) :=
  ⟨rfl, rfl, fun g => by rw [touch_fst]; split <;> exact ⟨rfl, rfl, rfl⟩⟩

theorem linkedB_touch (σ : Store) (g : Nat) : ∀ (t : Ast) (pf : Option Nat),
    linkedB (touch σ g) pf t = linkedB σ pf t :=
  linkedB_cacheOnly (touch_cacheOnly σ g)

theorem linkedListB_touch (σ : Store) (g : Nat) : ∀ (l : List Ast) (pf : Option Nat),
    linkedListB (touch σ g) pf l = linkedListB σ pf l :=
  linkedListB_cacheOnly (touch_cacheOnly σ g)

theorem touch_cache_stays (σ : Store) (g f : Nat) (h : (σ.fst f).cache = []) : ((touch σ g).fst f).cache = [] := by
  rw [touch_fst]
  split
  · rfl
  · exact h

theorem touch_cache_self (σ : Store) (f : Nat) : ((touch σ f).fst f).cache = [] := by simp [touch_fst]

theorem touchAst_fst (σ : Store) (a g : Nat) :
    (touchAst σ a).fst g = if σ.astF a = some g then { σ.fst g with cache := [] } else σ.fst g := by
  unfold touchAst
  split
  · next f hf =>
    rw [touch_fst, hf]
    by_cases e : g = f
    · simp [e]
    · simp [e, Ne.symm e]
  · next h => simp [h]

theorem touchAst_cacheOnly (σ : Store) (a : Nat) : CacheOnly σ (touchAst σ a) := by
  unfold touchAst
  split
  · exact touch_cacheOnly σ _
  · exact CacheOnly.refl σ

mutual
theorem touchTree_eq_foldl : ∀ (t : Ast) (σ : Store), touchTree σ t = (ids t).foldl touchAst σ
  | .mk a _ _ kids, σ => by simp only [touchTree, ids, List.foldl_cons, touchTreeList_eq_foldl kids]
theorem touchTreeList_eq_foldl : ∀ (l : List Ast) (σ : Store), touchTreeList σ l = (idsList l).foldl touchAst σ
  | [], _ => rfl
  | k :: rest, σ => by
    simp only [touchTreeList, idsList, List.foldl_append, touchTree_eq_foldl k, touchTreeList_eq_foldl rest]
end

theorem touchKids_eq_foldl : ∀ (l : List Ast) (σ : Store), touchKids σ l = (l.map Ast.id).foldl touchAst σ
  | [], _ => rfl
  | k :: rest, σ => by simp only [touchKids, List.map_cons, List.foldl_cons, touchKids_eq_foldl rest]

theorem touchAll_cacheOnly : ∀ (I : List Nat) (σ : Store), CacheOnly σ (I.foldl touchAst σ)
  | [], σ => CacheOnly.refl σ
  | a :: I, σ => (touchAst_cacheOnly σ a).trans (touchAll_cacheOnly I _)

theorem touchAll_fst (I : List Nat) (σ : Store) (g : Nat) :
    (I.foldl touchAst σ).fst g = if ∃ x ∈ I, σ.astF x = some g then { σ.fst g with cache := [] } else σ.fst g :=
  foldl_fst (step := touchAst) (u := fun r => { r with cache := [] }) (fun _ => rfl) touchAst_fst
    (fun σ a x => Or.inl (by rw [(touchAst_cacheOnly σ a).1])) I σ g

theorem touchTree_cacheOnly (t : Ast) (σ : Store) : CacheOnly σ (touchTree σ t) := by
  rw [touchTree_eq_foldl]; exact touchAll_cacheOnly _ σ

theorem touchTreeList_cacheOnly (l : List Ast) (σ : Store) : CacheOnly σ (touchTreeList σ l) := by
  rw [touchTreeList_eq_foldl]; exact touchAll_cacheOnly _ σ

theorem touchKids_cacheOnly (l : List Ast) (σ : Store) : CacheOnly σ (touchKids σ l) := by
  rw [touchKids_eq_foldl]; exact touchAll_cacheOnly _ σ

theorem touchTree_cache_stays : ∀ (t : Ast) (σ : Store) (g : Nat), (σ.fst g).cache = [] →
    ((touchTree σ t).fst g).cache = [] := by
  intro t σ g h
  rw [touchTree_eq_foldl, touchAll_fst]
  split
  · rfl
  · exact h

/-- `_touchall(children=True)` empties the cache of every node of the subtree -/
theorem touchTree_clears (t : Ast) (σ : Store) : ∀ x ∈ ids t, ∀ g, σ.astF x = some g →
    ((touchTree σ t).fst g).cache = [] := by
  intro x hx g hg
  rw [touchTree_eq_foldl, touchAll_fst, if_pos ⟨x, hx, hg⟩]

theorem touchTreeList_clears : ∀ (l : List Ast) (σ : Store), ∀ x ∈ idsList l, ∀ g, σ.astF x = some g →
    ((touchTreeList σ l).fst g).cache = [] := by
  intro l σ x hx g hg
  rw [touchTreeList_eq_foldl, touchAll_fst, if_pos ⟨x, hx, hg⟩]

theorem touchParents_cacheOnly : ∀ (fuel : Nat) (σ : Store) (f : Nat), CacheOnly σ (touchParents σ fuel f)
  | 0, σ, _ => CacheOnly.refl σ
  | fuel + 1, σ, f => by
    simp only [touchParents]
    split
    · exact CacheOnly.refl σ
    · next p _ => exact (touch_cacheOnly σ p).trans (touchParents_cacheOnly fuel _ p)

theorem touchParents_cache_stays : ∀ (fuel : Nat) (σ : Store) (g f : Nat), (σ.fst f).cache = [] →
    ((touchParents σ fuel g).fst f).cache = []
  | 0, _, _, _, h => h
  | fuel + 1, σ, g, f, h => by
    simp only [touchParents]
    split
    · exact h
    · exact touchParents_cache_stays fuel _ _ f (touch_cache_stays σ _ f h)

theorem touchall_cacheOnly (σ : Store) (f : Nat) (t : Ast) (p sf c : Bool) : CacheOnly σ (touchall σ f t p sf c) := by
  have h1 : CacheOnly σ (if c then (if sf then touchTree σ t else touchTreeList σ t.kids)
      else if sf then touch σ f else σ) := by
    cases c <;> cases sf <;> simp only [if_true, if_false, Bool.false_eq_true]
    · exact CacheOnly.refl σ
    · exact touch_cacheOnly σ f
    · exact touchTreeList_cacheOnly _ σ
    · exact touchTree_cacheOnly t σ
  simp only [touchall]
  cases p <;> simp only [if_true, if_false, Bool.false_eq_true]
  · exact h1
  · exact h1.trans (touchParents_cacheOnly _ _ f)

theorem setPfield_astF (σ : Store) (k : Ast) : (setPfield σ k).astF = σ.astF := by
  unfold setPfield; split <;> rfl

theorem setPfield_fst (σ : Store) (k : Ast) (g : Nat) :
    (setPfield σ k).fst g = if σ.astF k.id = some g then { σ.fst g with pfield := k.fld } else σ.fst g := by
  unfold setPfield
  split
  · next f hf =>
    by_cases e : g = f
    · subst e; simp [hf, upd]
    · simp [hf, upd, e, Ne.symm e]
  · next h => simp [h]

theorem renumberKids_astF : ∀ (l : List Ast) (σ : Store), (renumberKids σ l).astF = σ.astF
  | [], _ => rfl
  | k :: rest, σ => by rw [renumberKids, renumberKids_astF rest, setPfield_astF]

theorem renumberKids_other : ∀ (l : List Ast) (σ : Store) (f : Nat), (∀ k ∈ l, σ.astF k.id ≠ some f) →
    (renumberKids σ l).fst f = σ.fst f
  | [], _, _, _ => rfl
  | k :: rest, σ, f, h => by
    rw [renumberKids, renumberKids_other rest (setPfield σ k) f (fun k' hk' => by
      rw [setPfield_astF]; exact h k' (List.mem_cons_of_mem _ hk')), setPfield_fst, if_neg (h k List.mem_cons_self)]

theorem renumberKids_fst : ∀ (l : List Ast) (σ : Store),
    l.Pairwise (fun k k' => ∀ f, σ.astF k.id = some f → σ.astF k'.id ≠ some f) →
    ∀ k ∈ l, ∀ f, σ.astF k.id = some f → (renumberKids σ l).fst f = { σ.fst f with pfield := k.fld }
  | c :: rest, σ, hp, k, hk, f, hf => by
    obtain ⟨hc, hp⟩ := List.pairwise_cons.mp hp
    rw [renumberKids]
    rcases List.mem_cons.mp hk with rfl | hk
    · rw [renumberKids_other rest _ f (fun k' hk' => by rw [setPfield_astF]; exact hc k' hk' f hf),
        setPfield_fst, if_pos hf]
    · rw [renumberKids_fst rest (setPfield σ c) (by rw [setPfield_astF]; exact hp) k hk f (by rw [setPfield_astF]; exact hf),
        setPfield_fst, if_neg (fun h => hc k hk f h hf)]

/-- `_base_indices` clamps `stop` into `[0, len]` and then `start` into `[0, stop]`. -/
theorem baseIndices_eq (v : View) (n : Nat) :
    baseIndices v n =
      (⟨min v.start (min (v.stop.getD n) n), v.stop.map (min · n)⟩,
        min v.start (min (v.stop.getD n) n), min (v.stop.getD n) n, n) := by
  obtain ⟨start, stop⟩ := v
  cases stop with
  | none =>
    simp only [baseIndices, Option.getD_none, Option.map_none, Nat.min_self]
    split
    · next h => rw [Nat.min_eq_right (Nat.le_of_lt h)]
    · next h => rw [Nat.min_eq_left (Nat.le_of_not_lt h)]
  | some s =>
    simp only [baseIndices, Option.getD_some, Option.map_some]
    split
    · next h1 =>
      rw [Nat.min_eq_right (Nat.le_of_lt h1)]
      dsimp only
      split
      · next h2 => rw [Nat.min_eq_right (Nat.le_of_lt h2)]
      · next h2 => rw [Nat.min_eq_left (Nat.le_of_not_lt h2)]
    · next h1 =>
      rw [Nat.min_eq_left (Nat.le_of_not_lt h1)]
      dsimp only
      split
      · next h2 => rw [Nat.min_eq_right (Nat.le_of_lt h2)]
      · next h2 => rw [Nat.min_eq_left (Nat.le_of_not_lt h2)]

end Pfst.Links
