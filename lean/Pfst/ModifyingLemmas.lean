import Pfst.Modifying
/-! Lemmas about the registry model (`Pfst/Modifying.lean`): the dict operations, the bracket law (`enter` then
`success`/`fail`/`__exit__` is the identity on a well-formed registry), and `Restores`, the invariant that every control
skeleton of the model passes from its bodies to itself. -/
namespace Pfst.Modifying

theorem Reg.get_set_self (reg : Reg) (r : Root) (v : NodeId × Nat) : (reg.set r v).get r = some v := by
  fun_induction Reg.set reg r v <;> simp_all [Reg.get]

theorem Reg.del_set_of_get_none (reg : Reg) (r : Root) (v : NodeId × Nat) (h : reg.get r = none) :
    (reg.set r v).del r = reg := by
  fun_induction Reg.set reg r v <;> simp_all [Reg.get, Reg.del]

theorem Reg.set_set_of_get (reg : Reg) (r : Root) (v v0 : NodeId × Nat) (h : reg.get r = some v0) :
    (reg.set r v).set r v0 = reg := by
  fun_induction Reg.set reg r v <;> simp_all [Reg.get, Reg.set]

theorem Reg.wf_set (reg : Reg) (r : Root) (v : NodeId × Nat) (h : reg.wf = true) (hv : 1 ≤ v.2) :
    (reg.set r v).wf = true := by
  fun_induction Reg.set reg r v <;> simp_all [Reg.wf]

theorem Reg.wf_get (reg : Reg) (r : Root) (n : NodeId) (d : Nat) (h : reg.wf = true) (hg : reg.get r = some (n, d)) :
    1 ≤ d := by
  fun_induction Reg.get reg r <;> simp_all [Reg.wf]

theorem fail_eq_success (root : Root) (reg : Reg) : fail root reg = success root reg := rfl

theorem exit_eq_success (root : Root) (exc : Option Exc) (reg : Reg) : exit_ root exc reg = success root reg := by
  cases exc <;> rfl

theorem enter_then_exit (n : NodeRef) (raw force : Bool) (reg reg1 : Reg) (h : reg.wf = true)
    (he : enter n raw force reg = .ok reg1) :
    reg1.wf = true ∧ ∀ exc, exit_ n.root exc reg1 = .ok reg := by
  unfold enter at he
  split at he
  · next n0 d hg =>
    split at he
    · cases he
    · cases he
      have hd := Reg.wf_get reg n.root n0 d h hg
      refine ⟨Reg.wf_set _ _ _ h (by simp), fun exc => ?_⟩
      simp [exit_eq_success, success, Reg.get_set_self, Reg.set_set_of_get reg n.root _ _ hg, Nat.ne_of_gt hd]
  · next hg =>
    cases he
    refine ⟨Reg.wf_set _ _ _ h (by simp), fun exc => ?_⟩
    simp [exit_eq_success, success, Reg.get_set_self, Reg.del_set_of_get_none reg n.root _ hg]

theorem enter_error (n : NodeRef) (raw force : Bool) (reg : Reg) (e : Exc) (he : enter n raw force reg = .error e) :
    e = .nested := by
  unfold enter at he
  split at he
  · split at he <;> cases he
    rfl
  · cases he

/-- A piece of code (as a function of the registry) restores the registry and never trips over a missing entry. -/
def Restores (f : Reg → Res) : Prop := ∀ r, r.wf = true → (f r).reg = r ∧ (f r).exc ≠ some .internal

/-- Both ways of leaving a modification: `__exit__` of a `with`, the `except`/`else` of `unpar`. -/
theorem exit_restores {root : Root} {reg reg1 : Reg} (hx : ∀ exc, exit_ root exc reg1 = .ok reg) {b : Res}
    (hb : b.reg = reg1 ∧ b.exc ≠ some .internal) :
    ((withExit root reg1 b).reg = reg ∧ (withExit root reg1 b).exc ≠ some .internal) ∧
    ((unparFinish root b).reg = reg ∧ (unparFinish root b).exc ≠ some .internal) := by
  simp [withExit, unparFinish, hb.1, hx, hb.2]

theorem withRun_restores (n : NodeRef) (raw force : Bool) (body : Reg → Res) (hbody : Restores body) :
    Restores (withRun n raw force body) := by
  intro reg h
  unfold withRun
  cases he : enter n raw force reg with
  | error e => cases enter_error n raw force reg e he; simp
  | ok reg1 =>
    obtain ⟨hw, hx⟩ := enter_then_exit n raw force reg reg1 h he
    exact (exit_restores hx (hbody reg1 hw)).1

theorem tryRun_restores (c : Bool) (b : Res) (r : Reg) (h : b.reg = r ∧ b.exc ≠ some .internal) :
    (tryRun c b).reg = r ∧ (tryRun c b).exc ≠ some .internal := by
  unfold tryRun
  split
  · simp [h.1]
  · split <;> simp_all
  · exact h

theorem unparRun_restores (n : NodeRef) (do1 do2 : Bool) (body1 body2 : Reg → Res) (h1 : Restores body1)
    (h2 : Restores body2) : Restores (unparRun n do1 body1 do2 body2) := by
  intro reg h
  unfold unparRun
  cases he : enter n false false reg with
  | error e => cases enter_error n false false reg e he; cases do1 <;> cases do2 <;> simp
  | ok reg1 =>
    obtain ⟨hw, hx⟩ := enter_then_exit n false false reg reg1 h he
    have fin {b : Res} hb := (exit_restores (b := b) hx hb).2
    obtain ⟨a1, a2⟩ := h1 reg1 hw
    have b := h2 reg1 hw
    -- every path that entered ends in `unparFinish` on something that ran from `reg1` and restored it
    split
    · simp only
      split
      · next hx1 => exact fin ⟨a1, hx1 ▸ a2⟩
      · split
        · rw [a1]; exact fin b
        · exact fin ⟨a1, by simp⟩
    · split
      · exact fin b
      · simp

theorem rootReplaceRun_restores (n : NodeRef) (g : Bool) (body : Reg → Res) (h : Restores body) :
    Restores (rootReplaceRun n g body) := by
  intro reg hr
  unfold rootReplaceRun
  split
  · simp
  · exact withRun_restores n false false body h reg hr

theorem putRun_restores (n : NodeRef) (raw : RawOpt) (force guardFails : Bool) (handler rawBody : Reg → Res)
    (h1 : Restores handler) (h2 : Restores rawBody) : Restores (putRun n raw force guardFails handler rawBody) := by
  intro reg h
  have hw1 := withRun_restores n false force handler h1 reg h
  have hw2 := withRun_restores n true force rawBody h2 reg h
  unfold putRun
  cases guardFails
  · by_cases hr : (raw == .on) = true
    · simpa [hr] using hw2
    · simp only [Bool.false_eq_true, if_false, hr]
      split
      · split
        · -- the raw attempt starts from the registry that the failed handler attempt restored
          simpa [hw1.1] using hw2
        · exact hw1
      · exact hw1
  · simp

end Pfst.Modifying
