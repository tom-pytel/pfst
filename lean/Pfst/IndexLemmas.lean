import Pfst.Index
import Pfst.View
import Pfst.Virt
import Pfst.ListLemmas
/-! Helper lemmas for C03: clipping arithmetic, `putSlice` on lists, view windows, insertion sort. -/
namespace Pfst.Index

theorem clipStart_eq_clipStop (n : Nat) (a : Idx) (k : Nat) : clipStart n a k = clipStop n a k := by
  cases a <;> rfl

theorem clipStop_int (n : Nat) (k : Int) : clipStop n (.i k) 0 = pyClamp n k := by
  simp only [clipStop, pyClamp]; grind

theorem clipStop_range (n : Nat) (a : Idx) (k : Nat) (hk : k ≤ n) :
    (k : Int) ≤ clipStop n a k ∧ clipStop n a k ≤ n := by
  cases a with
  | «end» => simp [clipStop]; omega
  | i j => simp only [clipStop]; grind

theorem clipStop_shift (n : Nat) (a : Idx) : clipStop (n + 1) a 1 = clipStop n a 0 + 1 := by
  cases a with
  | «end» => simp [clipStop]
  | i j => simp only [clipStop]; grind

theorem pySliceIndices_clip (n : Nat) (a b : Idx) :
    pySliceIndices n (a.pyStart n) b.pyStop = (clipStart n a 0, clipStop n b 0) := by
  -- `'end'` as a start reads as `len`, which `pyClamp` keeps
  have hn : pyClamp n n = n := by simp only [pyClamp]; omega
  cases a <;> cases b <;>
    simp only [pySliceIndices, Idx.pyStart, Idx.pyStop, clipStart_eq_clipStop, clipStop_int, hn] <;> rfl

theorem fixupSlice_eq_some {n : Nat} {a b : Idx} {k : Nat} {s e : Int} :
    fixupSlice n a b k = some (s, e) ↔ s = clipStart n a k ∧ e = clipStop n b k ∧ s ≤ e := by
  unfold fixupSlice
  simp only
  split
  · simp only [reduceCtorEq, false_iff]; omega
  · simp only [Option.some.injEq, Prod.mk.injEq]; omega

theorem fixupSlice_inrange {n : Nat} {j j' : Int} (h0 : 0 ≤ j) (h : j ≤ j') (hn : j' ≤ n) :
    fixupSlice n (.i j) (.i j') 0 = some (j, j') := by
  simp only [fixupSlice, clipStart, clipStop]
  grind

theorem fixupOne_inrange {n : Nat} {j : Int} (h0 : 0 ≤ j) (hn : j < n) : fixupOne n (.i j) 0 = some j := by
  simp only [fixupOne, Int.not_lt.mpr h0, if_false, Int.natCast_zero, Int.add_zero, h0, hn, and_self, if_true]

theorem fixupSlice_range (n : Nat) (a b : Idx) (s e : Int) (h : fixupSlice n a b 0 = some (s, e)) :
    0 ≤ s ∧ s ≤ e ∧ e ≤ n := by
  obtain ⟨rfl, rfl, hse⟩ := fixupSlice_eq_some.mp h
  have r1 := (clipStop_range n a 0 (Nat.zero_le _)).1
  rw [← clipStart_eq_clipStop] at r1
  exact ⟨r1, hse, (clipStop_range n b 0 (Nat.zero_le _)).2⟩

theorem putSlice_eq {α} (xs : List α) (s e : Nat) (new : List α) (h : s ≤ e) :
    putSlice xs s e new = xs.take s ++ new ++ xs.drop e := by
  induction xs generalizing s e with
  | nil => cases s <;> simp [putSlice]
  | cons x xs ih =>
    cases s with
    | zero => simp [putSlice]
    | succ s =>
      cases e with
      | zero => omega
      | succ e =>
        simp only [putSlice, Nat.add_sub_cancel, List.take_succ_cons, List.drop_succ_cons, List.cons_append]
        rw [ih s e (by omega)]

theorem length_putSlice {α} (xs : List α) (s e : Nat) (new : List α) (h : s ≤ e) (he : e ≤ xs.length) :
    (putSlice xs s e new).length = xs.length + new.length - (e - s) := by
  rw [putSlice_eq xs s e new h]
  simp only [List.length_append, List.length_take, List.length_drop, Nat.min_eq_left (Nat.le_trans h he)]
  omega

theorem length_getSlice {α} (xs : List α) (s e : Nat) (he : e ≤ xs.length) : (getSlice xs s e).length = e - s := by
  simp only [getSlice, List.length_drop, List.length_take]
  omega

theorem take_getSlice_drop {α} (xs : List α) (s e : Nat) (h : s ≤ e) :
    xs.take s ++ getSlice xs s e ++ xs.drop e = xs :=
  take_append_mid_append_drop xs h

theorem putSlice_append_mid {α} (P W S new : List α) (a b : Nat) (hab : a ≤ b) (hb : b ≤ W.length) :
    putSlice (P ++ W ++ S) (P.length + a) (P.length + b) new = P ++ putSlice W a b new ++ S := by
  rw [putSlice_eq _ _ _ _ (by omega), putSlice_eq _ _ _ _ hab, List.append_assoc P W S,
    List.take_length_add_append, List.drop_length_add_append, List.take_append_of_le_length (by omega),
    List.drop_append_of_le_length hb]
  simp only [List.append_assoc]

theorem parts_append {α} (P M S : List α) {s e : Nat} (hs : P.length = s) (he : e = s + M.length) :
    getSlice (P ++ M ++ S) s e = M ∧ (P ++ M ++ S).take s = P ∧ (P ++ M ++ S).drop e = S := by
  subst hs he
  refine ⟨drop_take_of_eq_append rfl, ?_, ?_⟩
  · rw [List.append_assoc, List.take_left' rfl]
  · rw [← List.length_append, List.drop_left' rfl]

theorem putSlice_window {α} (xs new : List α) {s e a b : Nat} (hse : s ≤ e) (hel : e ≤ xs.length) (hab : a ≤ b)
    (hb : b ≤ e - s) :
    let xs' := putSlice xs (s + a) (s + b) new
    let e' := e + new.length - (b - a)
    getSlice xs' s e' = putSlice (getSlice xs s e) a b new ∧ xs'.take s = xs.take s ∧ xs'.drop e' = xs.drop e := by
  have hP : (xs.take s).length = s := List.length_take_of_le (Nat.le_trans hse hel)
  have hW := length_getSlice xs s e hel
  have hb' : b ≤ (getSlice xs s e).length := hW ▸ hb
  -- `xs` is prefix ++ window ++ suffix, and the put happens inside the window
  have hput := putSlice_append_mid (xs.take s) (getSlice xs s e) (xs.drop e) new a b hab hb'
  rw [take_getSlice_drop xs s e hse, hP] at hput
  simp only [hput]
  refine parts_append _ _ _ hP ?_
  -- `e = s + (e - s)`, and subtracting `b - a ≤ e - s` does not truncate
  have hd : b - a ≤ e - s + new.length := Nat.le_trans (Nat.sub_le b a) (Nat.le_trans hb (Nat.le_add_right _ _))
  rw [length_putSlice _ _ _ _ hab hb', hW, ← Nat.add_sub_assoc hd, ← Nat.add_assoc, Nat.add_sub_cancel' hse]

end Pfst.Index

namespace Pfst.View
open Pfst.Index

/-- what `_base_indices` returns: a window `[s, e)` of the field and a view that stores it (`_stop` either unset, the
window then reaching the end of the field, or equal to `e`) -/
theorem baseIndices_shape (v : View) (len : Nat) (s e : Nat) (v1 : View) (hb : baseIndices v len = (s, e, v1)) :
    s ≤ e ∧ e ≤ len ∧ v1.start = s ∧ ((v1.stop = none ∧ e = len) ∨ v1.stop = some e) := by
  obtain ⟨st, sp⟩ := v
  -- every branch of `baseIndices` returns its triple literally: `hb` names `s`, `e`, `v1` in that branch, and the claim
  -- is then linear arithmetic on the branch conditions
  cases sp with
  | none =>
    simp only [baseIndices] at hb
    split at hb <;> simp only [Prod.mk.injEq] at hb <;> obtain ⟨rfl, rfl, rfl⟩ := hb <;> simp <;> omega
  | some q =>
    simp only [baseIndices] at hb
    by_cases h1 : q > len <;> simp only [h1, ↓reduceIte] at hb
    · by_cases h2 : st > len <;> simp only [h2, ↓reduceIte, Prod.mk.injEq] at hb <;> obtain ⟨rfl, rfl, rfl⟩ := hb <;>
        simp <;> omega
    · by_cases h2 : st > q <;> simp only [h2, ↓reduceIte, Prod.mk.injEq] at hb <;> obtain ⟨rfl, rfl, rfl⟩ := hb <;>
        simp <;> omega

theorem baseIndices_healed (v : View) (len e : Nat) (hs : v.start ≤ e) (he : e ≤ len)
    (hstop : (v.stop = none ∧ e = len) ∨ v.stop = some e) : baseIndices v len = (v.start, e, v) := by
  obtain ⟨st, sp⟩ := v
  have h1 : ¬ e > len := by omega
  have h2 : ¬ st > e := by simpa using hs
  rcases hstop with ⟨rfl, rfl⟩ | rfl <;> simp only [baseIndices, h1, h2, ↓reduceIte]

theorem baseIndices_bump (v : View) (len k d : Nat) (s e : Nat) (v1 : View)
    (hb : baseIndices v len = (s, e, v1)) (hd : d ≤ e - s) :
    ∃ w, baseIndices (bump v1 len (len + k - d)) (len + k - d) = (s, e + k - d, w) := by
  obtain ⟨hse, hel, hs, hstop⟩ := baseIndices_shape v len s e v1 hb
  obtain ⟨st1, sp1⟩ := v1
  simp only at hs hstop
  subst hs
  rcases hstop with ⟨rfl, rfl⟩ | rfl
  · exact ⟨_, baseIndices_healed ⟨st1, none⟩ _ _ (by simp only; omega) (Nat.le_refl _) (.inl ⟨rfl, rfl⟩)⟩
  · exact ⟨_, baseIndices_healed ⟨st1, _⟩ _ (e + k - d) (by simp only; omega) (by omega)
      (.inr (congrArg some (by omega)))⟩

end Pfst.View

namespace Pfst.Virt

/-- an optional element as a segment of a concatenation (`[vararg]`, `[kwarg]`) -/
theorem getElem?_toList {α} (o : Option α) (i : Nat) (h : i < o.toList.length) : o.toList[i]? = o := by
  cases o with
  | none => simp at h
  | some v => cases i with
    | zero => rfl
    | succ i => simp at h

theorem mmOfAll_kv_append {κ ν ρ} (l : List (κ × ν)) (t : List (MMItem κ ν ρ)) :
    mmOfAll (l.map (fun (k, p) => .kv k p) ++ t) =
      (l.map (·.1) ++ (mmOfAll t).1, l.map (·.2) ++ (mmOfAll t).2.1, (mmOfAll t).2.2) := by
  induction l with
  | nil => rfl
  | cons a l ih => simp only [List.map_cons, List.cons_append, mmOfAll, ih]

variable {α : Type} (le : α → α → Bool)

theorem insertBy_perm (a : α) (l : List α) : (insertBy le a l).Perm (a :: l) := by
  induction l with
  | nil => exact List.Perm.refl _
  | cons b bs ih =>
    simp only [insertBy]
    split
    · exact List.Perm.refl _
    · exact ((List.perm_cons b).mpr ih).trans (List.Perm.swap a b bs)

theorem insSort_perm (l : List α) : (insSort le l).Perm l := by
  induction l with
  | nil => exact List.Perm.refl _
  | cons a as ih => exact (insertBy_perm le a _).trans ((List.perm_cons a).mpr ih)

theorem insertBy_sorted (htrans : ∀ a b c, le a b = true → le b c = true → le a c = true)
    (htotal : ∀ a b, le a b = true ∨ le b a = true) (a : α) (l : List α)
    (h : l.Pairwise (fun x y => le x y = true)) : (insertBy le a l).Pairwise (fun x y => le x y = true) := by
  induction l with
  | nil => simp [insertBy]
  | cons b bs ih =>
    have hb := List.pairwise_cons.mp h
    simp only [insertBy]
    split
    · next hab =>
      exact List.pairwise_cons.mpr
        ⟨List.forall_mem_cons.mpr ⟨hab, fun c hc => htrans _ _ _ hab (hb.1 c hc)⟩, h⟩
    · next hab =>
      have hle : ∀ c ∈ a :: bs, le b c = true := List.forall_mem_cons.mpr ⟨(htotal a b).resolve_left hab, hb.1⟩
      exact List.pairwise_cons.mpr ⟨fun c hc => hle c ((insertBy_perm le a bs).mem_iff.mp hc), ih hb.2⟩

theorem insSort_sorted (htrans : ∀ a b c, le a b = true → le b c = true → le a c = true)
    (htotal : ∀ a b, le a b = true ∨ le b a = true) (l : List α) :
    (insSort le l).Pairwise (fun x y => le x y = true) := by
  induction l with
  | nil => simp [insSort]
  | cons a as ih => exact insertBy_sorted le htrans htotal a _ ih

theorem posLe_trans (a b c : Nat × Nat) (h1 : posLe a b = true) (h2 : posLe b c = true) : posLe a c = true := by
  simp only [posLe, Bool.or_eq_true, decide_eq_true_eq, Bool.and_eq_true, beq_iff_eq] at *
  omega

theorem posLe_total (a b : Nat × Nat) : posLe a b = true ∨ posLe b a = true := by
  simp only [posLe, Bool.or_eq_true, decide_eq_true_eq, Bool.and_eq_true, beq_iff_eq]
  omega

theorem posLe_antisymm (a b : Nat × Nat) (h1 : posLe a b = true) (h2 : posLe b a = true) : a = b := by
  simp only [posLe, Bool.or_eq_true, decide_eq_true_eq, Bool.and_eq_true, beq_iff_eq] at *
  apply Prod.ext <;> omega

end Pfst.Virt
