import Pfst.Scope

/-!
Lemmas for C16.

* `trav_sim`: two table-driven traversals agree on every tree on which the side-by-side check `goodG` succeeds, provided
  the tables agree on related states (a finite statement).
* `step_ok`: that finite statement for the spec table and the model table of `walk(scope=True)`.  With `all=True`
  (`step_ok_all`) it is checked by evaluating `checkAll`.  That runs over all model states, over the spec states with the
  marks their position never consults cleared (`SS.nrm`), and over one kind and one role of each sort the tables tell
  apart (`Kind.rep`, `Role.rep`).  Both tables apply the `all` filter to what they yield and to nothing else (`mStep_filt`,
  a second evaluation), so the statement carries over to any filter.
* `trav_filter`: the filtered spec table is the filter of the spec traversal.
* `fold_sym`: the if-chain of `scope_symbols` computes the per-node binding table over the nodes it is given.
-/
namespace Pfst.Scope

section sim
variable {σ τ : Type} (f1 : σ → Kind → Role → Bool × σ) (f2 : τ → Kind → Role → Bool × τ)
  (R : σ → τ → Bool) (okk : σ → τ → Kind → Role → Bool)

mutual
theorem trav_sim
    (hstep : ∀ s t k r, R s t = true → okk s t k r = true →
      (f1 s k r).1 = (f2 t k r).1 ∧ R (f1 s k r).2 (f2 t k r).2 = true) :
    ∀ (n : Node) (s : σ) (t : τ), R s t = true → goodG f1 f2 okk s t n = true →
      trav f1 s n = trav f2 t n ∧ travB f1 s n = travB f2 t n
  | .mk i k r ns kids, s, t, hR, hg => by
    simp only [goodG, Bool.and_eq_true] at hg
    obtain ⟨h1, h2⟩ := hstep s t k r hR hg.1
    have ih := travL_sim hstep kids _ _ h2 hg.2
    simp only [trav, travB, h1, ih.1, ih.2, and_self]
theorem travL_sim
    (hstep : ∀ s t k r, R s t = true → okk s t k r = true →
      (f1 s k r).1 = (f2 t k r).1 ∧ R (f1 s k r).2 (f2 t k r).2 = true) :
    ∀ (l : List Node) (s : σ) (t : τ), R s t = true → goodGL f1 f2 okk s t l = true →
      travL f1 s l = travL f2 t l ∧ travLB f1 s l = travLB f2 t l
  | [], _, _, _, _ => ⟨rfl, rfl⟩
  | n :: rest, s, t, hR, hg => by
    simp only [goodGL, Bool.and_eq_true] at hg
    have h1 := trav_sim hstep n s t hR hg.1
    have h2 := travL_sim hstep rest s t hR hg.2
    simp only [travL, travLB, h1.1, h1.2, h2.1, h2.2, and_self]
end
end sim

section dir
variable {σ : Type} (f : σ → Kind → Role → Bool × σ)

mutual
theorem travB_perm : ∀ (n : Node) (s : σ), (travB f s n).Perm (trav f s n)
  | .mk i k r ns kids, s => by
    simp only [travB, trav]
    exact List.Perm.append_left _ (travLB_perm kids _)
theorem travLB_perm : ∀ (l : List Node) (s : σ), (travLB f s l).Perm (travL f s l)
  | [], _ => List.Perm.refl _
  | n :: rest, s => by
    simp only [travLB, travL]
    exact (List.perm_append_comm).trans (List.Perm.append (travB_perm n s) (travLB_perm rest s))
end
end dir

section repl
variable {σ : Type} (old : Nat → Kind → Kind) (f : σ → Kind → Role → Bool × σ)

mutual
theorem travO_eq (hk : ∀ s k k' r, (f s k r).1 = (f s k' r).1) : ∀ (n : Node) (s : σ), travO old f s n = trav f s n
  | .mk i k r ns kids, s => by
    simp only [travO, trav, hk s (old i k) k r, travLO_eq hk kids]
theorem travLO_eq (hk : ∀ s k k' r, (f s k r).1 = (f s k' r).1) : ∀ (l : List Node) (s : σ), travLO old f s l = travL f s l
  | [], _ => rfl
  | n :: rest, s => by
    simp only [travLO, travL, travO_eq hk n, travLO_eq hk rest]
end
end repl

section filt
variable {σ : Type} (f : σ → Kind → Role → Bool × σ) (p : Kind → Bool)

def filtTable (s : σ) (k : Kind) (r : Role) : Bool × σ := ((f s k r).1 && p k, (f s k r).2)

mutual
theorem trav_filter : ∀ (n : Node) (s : σ),
    trav (filtTable f p) s n = (trav f s n).filter (fun m => p m.kind)
  | .mk i k r ns kids, s => by
    have ih := travL_filter kids (f s k r).2
    simp only [trav, filtTable, List.filter_append, ih]
    congr 1
    by_cases h1 : (f s k r).1 = true <;> by_cases h2 : p k = true <;> simp [h1, h2, Node.kind]
theorem travL_filter : ∀ (l : List Node) (s : σ),
    travL (filtTable f p) s l = (travL f s l).filter (fun m => p m.kind)
  | [], _ => rfl
  | n :: rest, s => by
    simp only [travL, List.filter_append, trav_filter n s, travL_filter rest s]
end
end filt

def Pos.all : List Pos := [.norm, .hdr, .args, .argn, .tpn, .comp0, .gen0, .gen1, .ne]
def MPos.all : List MPos :=
  [.loop, .dead, .rootDef, .rootLam, .rootArgs, .rootComp0, .rootGen0, .rootGen1, .hdrFunc, .hdrClass, .hdrLam,
   .hdrArgs, .lamArgs, .pick, .cw0, .cwGen0, .cw, .cwT]
def boolAll : List Bool := [false, true]

theorem Pos.mem_all (p : Pos) : p ∈ Pos.all := by cases p <;> decide
theorem MPos.mem_all (p : MPos) : p ∈ MPos.all := by cases p <;> decide
theorem mem_boolAll (b : Bool) : b ∈ boolAll := by cases b <;> decide

/-- the tables look at a kind only through `kc`, `isSym` and "is it ClassDef": one representative per combination -/
def Kind.rep : Kind → Kind
  | .funcdef => .funcdef | .classdef => .classdef | .lambda => .lambda | .comp => .comp | .namedexpr => .namedexpr
  | .tparam | .nameLoad | .nameStore | .nameDel | .arg | .augassign | .import_ | .nonlocal | .global | .handler | .matchAs
  | .matchStar | .matchMap => .nameLoad
  | _ => .other
def Kind.reps : List Kind := [.funcdef, .classdef, .lambda, .comp, .namedexpr, .nameLoad, .other]
/-- roles no table mentions behave like `plain`, and every table treats keywords like bases -/
def Role.rep : Role → Role
  | .ann | .bound | .elt | .target | .cond => .plain
  | .kw => .base
  | r => r
def Role.reps : List Role :=
  [.plain, .deco, .tparam, .args, .returns, .body, .argr, .dflt, .base, .gen0, .gen, .iter, .wtarget]

theorem Kind.rep_mem (k : Kind) : k.rep ∈ Kind.reps := by cases k <;> decide
theorem Role.rep_mem (r : Role) : r.rep ∈ Role.reps := by cases r <;> decide

theorem isSym_rep (k : Kind) : k.isSym = k.rep.isSym := by cases k <;> rfl
theorem eq_rep {β : Type} {F : Kind → Role → β} (hk : ∀ k r, F k r = F k.rep r) (hr : ∀ k r, F k r = F k r.rep)
    (k : Kind) (r : Role) : F k r = F k.rep r.rep :=
  (hk k r).trans (hr k.rep r)

theorem mStep_rep (flt : Bool) (m : MPos) : ∀ k r, mStep flt m k r = mStep flt m k.rep r.rep :=
  eq_rep (fun k _ => by cases k <;> rfl) (fun _ r => by cases r <;> rfl)
theorem sStep_rep (s : SS Bool) : ∀ k r, sStep s k r = sStep s k.rep r.rep :=
  eq_rep (fun k _ => by cases k <;> rfl) fun _ r => by
    obtain ⟨p, a, b, c, d⟩ := s
    -- a role that is its own representative leaves nothing to show; for the others `SS.ctx` and `SS.kidsOf` match on
    -- the position first, and in each position role and representative fall into the same branch
    cases r <;> first | rfl | (cases p <;> rfl)
theorem ok_rep (s : SS Bool) (m : MPos) : ∀ k r, ok s m k r = ok s m k.rep r.rep :=
  eq_rep (fun k _ => by cases k <;> rfl) (fun _ r => by cases r <;> rfl)

/-- The `all` filter and the node's class enter the model table in one way only: where a node is yielded, it is yielded
`if check_all_param(f)`.  Whether it is yielded otherwise, and the state for its children, do not depend on the filter;
the former not on the class either. -/
def filtCheck : Bool :=
  boolAll.all fun flt => MPos.all.all fun m => Kind.reps.all fun k => Role.reps.all fun r =>
    mStep flt m k r == ((mStep false m .other r).1 && (!flt || k.isSym), (mStep false m k r).2)

theorem filtCheck_true : filtCheck = true := by decide +kernel

theorem mStep_filt (flt : Bool) (m : MPos) (k : Kind) (r : Role) :
    mStep flt m k r = ((mStep false m .other r).1 && (!flt || k.isSym), (mStep false m k r).2) := by
  have h := filtCheck_true
  simp only [filtCheck, List.all_eq_true, beq_iff_eq] at h
  rw [mStep_rep flt, mStep_rep false m k, mStep_rep false m .other, isSym_rep]
  exact h flt (mem_boolAll _) m (MPos.mem_all _) k.rep (Kind.rep_mem _) r.rep (Role.rep_mem _)

theorem mStep_snd (flt : Bool) (m : MPos) (k : Kind) (r : Role) : (mStep flt m k r).2 = (mStep false m k r).2 := by
  rw [mStep_filt]

theorem mStep_emit (m : MPos) (k k' : Kind) (r : Role) : (mStep false m k r).1 = (mStep false m k' r).1 := by
  rw [mStep_filt false m k, mStep_filt false m k']
  simp only [Bool.not_false, Bool.true_or]

/-- the spec state with the marks its position never consults cleared -/
def SS.nrm (s : SS Bool) : SS Bool := ⟨s.pos, s.c, s.f, s.o, s.of⟩

theorem sStep_nrm (s : SS Bool) (k : Kind) (r : Role) :
    (sStep s.nrm k r).1 = (sStep s k r).1 ∧ (sStep s.nrm k r).2.nrm = (sStep s k r).2.nrm := by
  obtain ⟨p, a, b, c, d⟩ := s
  cases p <;> exact ⟨rfl, rfl⟩
theorem rel_nrm (s : SS Bool) (m : MPos) : rel s.nrm m = rel s m := by
  obtain ⟨p, a, b, c, d⟩ := s
  cases p <;> rfl
theorem ok_nrm (s : SS Bool) (m : MPos) (k : Kind) (r : Role) : ok s.nrm m k r = ok s m k r := by
  obtain ⟨p, a, b, c, d⟩ := s
  cases p <;> rfl

/-- the values a mark takes in a cleared state, by whether the position consults it -/
def marks (used : Bool) : List Bool := if used then boolAll else [false]
theorem mem_marks (u x : Bool) : (u && x) ∈ marks u := by cases u <;> cases x <;> decide

/-- everything `trav_sim` needs of one related pair of states with `all=True`, for every (representative) kind and role,
as a Boolean -/
def checkPair (s : SS Bool) (m : MPos) : Bool :=
  !rel s m || m == .dead ||
  (Role.reps.all fun r =>
    Kind.reps.all fun k =>
      !ok s m k r ||
      ((sStep s k r).1 == (mStep false m k r).1 && rel (sStep s k r).2 (mStep false m k r).2))

/-- `checkPair` on every model state and every cleared spec state -/
def checkAll : Bool :=
  MPos.all.all fun m => Pos.all.all fun p =>
    (marks p.usesInner).all fun a => (marks p.usesInner).all fun b =>
    (marks p.usesOuter).all fun c => (marks p.usesOuter).all fun d => checkPair ⟨p, a, b, c, d⟩ m

theorem checkAll_true : checkAll = true := by decide +kernel

theorem step_ok_all (s : SS Bool) (m : MPos) (k : Kind) (r : Role) (hR : rel s m = true) (hk : ok s m k r = true) :
    (sStep s k r).1 = (mStep false m k r).1 ∧ rel (sStep s k r).2 (mStep false m k r).2 = true := by
  by_cases hm : m = .dead
  · -- the model reports nothing below a node it never pushed, and there `ok` says that the spec does not either
    subst hm
    simpa [ok, sStep, mStep, rel] using hk
  · have h := checkAll_true
    simp only [checkAll, List.all_eq_true] at h
    have h := h m (MPos.mem_all _) s.pos (Pos.mem_all _) _ (mem_marks _ s.cur) _ (mem_marks _ s.fn)
      _ (mem_marks _ s.oc) _ (mem_marks _ s.ofn)
    change checkPair s.nrm m = true at h
    rw [← rel_nrm] at hR
    simp only [checkPair, hR, hm, Bool.not_true, Bool.false_or, beq_iff_eq, false_or, List.all_eq_true, Bool.and_eq_true,
      Bool.or_eq_true, Bool.not_eq_true'] at h
    rw [← ok_nrm, ok_rep] at hk
    rw [sStep_rep, mStep_rep, ← (sStep_nrm s _ _).1, ← rel_nrm (sStep s _ _).2, ← (sStep_nrm s _ _).2, rel_nrm]
    rcases h r.rep (Role.rep_mem r) k.rep (Kind.rep_mem k) with h | h
    · rw [hk] at h; cases h
    · exact h

theorem step_ok (flt : Bool) (s : SS Bool) (m : MPos) (k : Kind) (r : Role) (hR : rel s m = true)
    (hk : ok s m k r = true) :
    (sStepF flt s k r).1 = (mStep flt m k r).1 ∧ rel (sStepF flt s k r).2 (mStep flt m k r).2 = true := by
  have h := step_ok_all s m k r hR hk
  rw [mStep_filt flt, ← mStep_emit m k .other r, ← h.1]
  exact ⟨rfl, h.2⟩

theorem init_rel (k : Kind) : rel (sInit true k) (mInit k) = true := by cases k <;> decide

theorem sStepF_eq (flt : Bool) : sStepF flt = filtTable sStep (fun k => !flt || k.isSym) := rfl

section congr
variable {σ τ : Type} (f1 f1' : σ → Kind → Role → Bool × σ) (f2 f2' : τ → Kind → Role → Bool × τ)
  (okk : σ → τ → Kind → Role → Bool)

mutual
theorem goodG_congr (h1 : ∀ s k r, (f1 s k r).2 = (f1' s k r).2) (h2 : ∀ t k r, (f2 t k r).2 = (f2' t k r).2) :
    ∀ (n : Node) (s : σ) (t : τ), goodG f1 f2 okk s t n = goodG f1' f2' okk s t n
  | .mk i k r ns kids, s, t => by
    simp only [goodG, h1, h2, goodGL_congr h1 h2 kids]
theorem goodGL_congr (h1 : ∀ s k r, (f1 s k r).2 = (f1' s k r).2) (h2 : ∀ t k r, (f2 t k r).2 = (f2' t k r).2) :
    ∀ (l : List Node) (s : σ) (t : τ), goodGL f1 f2 okk s t l = goodGL f1' f2' okk s t l
  | [], _, _ => rfl
  | n :: rest, s, t => by
    simp only [goodGL, goodG_congr h1 h2 n, goodGL_congr h1 h2 rest]
end
end congr

theorem travL_mStep_eq (flt : Bool) (l : List Node) (s : SS Bool) (m : MPos) (hR : rel s m = true)
    (hg : goodGL sStep (mStep false) ok s m l = true) :
    travL (mStep flt) m l = (travL sStep s l).filter (fun n => !flt || n.kind.isSym) ∧
    travLB (mStep flt) m l = travLB (sStepF flt) s l := by
  rw [← goodGL_congr (sStepF flt) sStep (mStep flt) (mStep false) ok (fun _ _ _ => rfl) (mStep_snd flt)] at hg
  have h := travL_sim (sStepF flt) (mStep flt) rel ok (step_ok flt) l s m hR hg
  rw [← h.1, ← h.2, sStepF_eq, travL_filter]
  exact ⟨rfl, rfl⟩

/-- The model's scope walk of `r` yields, in order, exactly the spec's nodes of the scope (plus walrus targets when `r`
is a comprehension) that pass the `all` filter; the backward walk is the backward traversal of the same. -/
theorem walkRoot_eq (flt : Bool) (r : Node) (hg : goodRoot r = true) :
    walkRoot flt r = (ownedWalk r).filter (fun n => !flt || n.kind.isSym) ∧
    walkRootB flt r = travLB (sStepF flt) (sInit true r.kind) r.kids :=
  travL_mStep_eq flt r.kids _ _ (init_rel r.kind) hg

/-- the walk over explicitly given nodes (`asts=`) yields everything below them that belongs to the two scopes involved -/
theorem walkAsts_eq (flt : Bool) (r : Node) (hg : goodAsts r = true) :
    walkAsts flt r = (ownedAsts r).filter (fun n => !flt || n.kind.isSym) :=
  (travL_mStep_eq flt r.kids _ _ (by decide) hg).1

theorem addKeys_nil (l : List Nat) : addKeys l [] = l := rfl

/-- what one turn of the loop of `scope_symbols` (a no-op on nodes the walk does not yield) does to each dict: it adds
what the node reads / binds / deletes / declares; outside a comprehension `syms_walrus` stays as it is -/
theorem symStep_fields (a : Acc) (n : Node) :
    let a' := if n.kind.isSym then symStep false a n else a
    a'.load = addKeys a.load (reads n) ∧ a'.store = addKeys a.store (binds n) ∧ a'.del = addKeys a.del (dels n) ∧
    a'.glob = addKeys a.glob (globs n) ∧ a'.nonl = addKeys a.nonl (nonls n) ∧ a'.walrus = a.walrus := by
  obtain ⟨i, k, r, ns, kids⟩ := n
  cases k <;>
    simp [Kind.isSym, symStep, reads, binds, dels, globs, nonls, Node.kind, Node.names, addKeys_nil, Node.role]

theorem fold_sym (π : Acc → List Nat) (τ : Node → List Nat)
    (hstep : ∀ a n, π (if n.kind.isSym then symStep false a n else a) = addKeys (π a) (τ n)) :
    ∀ (l : List Node) (a : Acc),
      π ((l.filter fun n => n.kind.isSym).foldl (symStep false) a) = l.foldl (fun ks n => addKeys ks (τ n)) (π a)
  | [], _ => rfl
  | n :: rest, a => by
    have : ((n :: rest).filter fun n => n.kind.isSym).foldl (symStep false) a
        = (rest.filter fun n => n.kind.isSym).foldl (symStep false) (if n.kind.isSym then symStep false a n else a) := by
      cases h : n.kind.isSym <;> simp [h]
    rw [this, fold_sym π τ hstep rest, hstep, List.foldl_cons]

theorem fold_sym_walrus (l : List Node) (a : Acc) :
    ((l.filter fun n => n.kind.isSym).foldl (symStep false) a).walrus = a.walrus := by
  rw [fold_sym Acc.walrus (fun _ => []) (fun a n => (symStep_fields a n).2.2.2.2.2)]
  induction l with
  | nil => rfl
  | cons _ _ ih => exact ih

mutual
theorem labels_fst : ∀ (n : Node) (s : SS Nat), (labels s n).map (·.1) = (preorder n).map Node.id
  | .mk i k r ns kids, s => by
    simp only [labels, preorder, List.map_cons, Node.id, labelsL_fst _ kids]
theorem labelsL_fst : ∀ (s : SS Nat) (l : List Node), (labelsL s l).map (·.1) = (preorderL l).map Node.id
  | _, [] => rfl
  | s, n :: rest => by
    simp only [labelsL, preorderL, List.map_append, labels_fst n s, labelsL_fst s rest]
end

end Pfst.Scope
