import Pfst.ParseWrap

/-! Lemmas about the text functions of `Pfst/ParseWrap.lean`, used by `Pfst/Props/C05.lean`: line splitting, byte offsets,
positions embedded and taken back, delimiter depth, comment stripping. -/
namespace Pfst.ParseWrap

theorem splitLines_ne_nil (s : List Char) : splitLines s ≠ [] := by
  cases s with
  | nil => simp [splitLines]
  | cons c cs =>
    simp only [splitLines]
    split
    · simp
    · cases splitLines cs <;> simp [consHead]

theorem splitLines_cons (c : Char) (cs : List Char) :
    ∃ l ls, splitLines cs = l :: ls ∧ splitLines (c :: cs) = if c = '\n' then [] :: l :: ls else (c :: l) :: ls := by
  cases h : splitLines cs with
  | nil => exact absurd h (splitLines_ne_nil cs)
  | cons l ls => exact ⟨l, ls, rfl, by simp only [splitLines, h, consHead]⟩

theorem splitLines_append_nl (a b : List Char) : splitLines (a ++ '\n' :: b) = splitLines a ++ splitLines b := by
  induction a with
  | nil => simp [splitLines]
  | cons c cs ih =>
    obtain ⟨l, ls, h, e⟩ := splitLines_cons c cs
    obtain ⟨l', ls', h', e'⟩ := splitLines_cons c (cs ++ '\n' :: b)
    rw [ih, h, List.cons_append] at h'
    cases h'
    rw [List.cons_append, e, e']
    split <;> rfl

theorem splitLines_length (s : List Char) : (splitLines s).length = countNl s + 1 := by
  induction s with
  | nil => rfl
  | cons c cs ih =>
    obtain ⟨l, ls, h, e⟩ := splitLines_cons c cs
    rw [h] at ih
    rw [e, countNl]
    split <;> simp only [List.length_cons] at ih ⊢ <;> omega

theorem splitLines_no_nl (s : List Char) (h : countNl s = 0) : splitLines s = [s] := by
  induction s with
  | nil => rfl
  | cons c cs ih =>
    obtain ⟨l, ls, hs, e⟩ := splitLines_cons c cs
    rw [countNl] at h
    split at h
    · omega
    · next hc =>
      rw [ih (by omega)] at hs
      cases hs
      rw [e, if_neg hc]

theorem splitLines_getLast? (s : List Char) : (splitLines s).getLast? = some (lastLine s) := by
  induction s with
  | nil => rfl
  | cons c cs ih =>
    obtain ⟨l, ls, hs, e⟩ := splitLines_cons c cs
    rw [hs] at ih
    rw [e, lastLine]
    by_cases hc : c = '\n'
    · rw [if_pos hc, if_pos (.inl hc), List.getLast?_cons_cons, ih]
    · rw [if_neg hc]
      have hlen := splitLines_length cs
      rw [hs] at hlen
      cases ls with
      | nil =>
        have h0 : countNl cs = 0 := by simpa using hlen.symm
        rw [splitLines_no_nl cs h0] at hs
        cases hs
        rw [if_neg (by simp [hc, h0])]; rfl
      | cons l1 ls1 =>
        have h0 : countNl cs ≠ 0 := by simp at hlen; omega
        rw [if_pos (.inr h0), List.getLast?_cons_cons, ← ih, List.getLast?_cons_cons]

theorem takeB_zero (l : Line) : takeB 0 l = [] := by
  cases l with
  | nil => rfl
  | cons c cs => simp [takeB, Nat.not_le.mpr (Char.utf8Size_pos c)]

theorem dropB_zero (l : Line) : dropB 0 l = l := by
  cases l with
  | nil => rfl
  | cons c cs => simp [dropB, Nat.not_le.mpr (Char.utf8Size_pos c)]

theorem blen_append (a b : Line) : blen (a ++ b) = blen a + blen b := by
  induction a with
  | nil => simp [blen]
  | cons c cs ih => simp [blen, ih]; omega

theorem takeB_blen (l : Line) : takeB (blen l) l = l := by
  induction l with
  | nil => rfl
  | cons c cs ih => simp [takeB, blen, ih]

theorem takeB_dropB_append_le (n : Nat) (l q : Line) (h : n ≤ blen l) :
    takeB n (l ++ q) = takeB n l ∧ dropB n (l ++ q) = dropB n l ++ q := by
  induction l generalizing n with
  | nil =>
    obtain rfl : n = 0 := by simpa [blen] using h
    simp [takeB_zero, dropB_zero, takeB, dropB]
  | cons c cs ih =>
    rw [blen] at h
    simp only [List.cons_append, takeB, dropB]
    split
    · rw [(ih _ (by omega)).1, (ih _ (by omega)).2]; exact ⟨rfl, rfl⟩
    · exact ⟨rfl, rfl⟩

theorem takeB_dropB_prefix (p r : Line) (a : Nat) :
    takeB (blen p + a) (p ++ r) = p ++ takeB a r ∧ dropB (blen p + a) (p ++ r) = dropB a r := by
  induction p with
  | nil => simp [blen]
  | cons c cs ih =>
    have e : c.utf8Size + blen cs + a - c.utf8Size = blen cs + a := by omega
    simp only [List.cons_append, takeB, dropB, blen]
    rw [if_pos (by omega), if_pos (by omega), e, ih.1, ih.2]
    exact ⟨rfl, rfl⟩

theorem blen_dropB (n : Nat) (l : Line) : blen l ≤ n + blen (dropB n l) := by
  induction l generalizing n with
  | nil => simp [blen, dropB]
  | cons c cs ih =>
    simp only [dropB]
    split
    · have := ih (n - c.utf8Size); simp only [blen]; omega
    · simp only [blen]; omega

theorem take_drop_append {α} (src post : List α) (a m : Nat) (h : a + m ≤ src.length) :
    ((src ++ post).drop a).take m = (src.drop a).take m := by
  rw [List.drop_append_of_le_length (by omega), List.take_append_of_le_length (by simp; omega)]

theorem mapLast_id (f : Line → Line) (ls : List Line) (h : ∀ l, ls.getLast? = some l → f l = l) : mapLast f ls = ls := by
  induction ls with
  | nil => rfl
  | cons l ls ih =>
    cases ls with
    | nil => simp [mapLast, h l (by simp)]
    | cons l' ls' =>
      simp only [mapLast]
      rw [ih (fun x hx => h x (by rw [List.getLast?_cons_cons]; exact hx))]

theorem offPos_embed (k : Int) (hk : 0 ≤ k) (p : Loc) (hp : 1 ≤ p.endLineno) :
    offPos (-k) (some (embedLines k p)) = some p := by
  obtain ⟨a, b, c, d⟩ := p
  simp only at hp
  have h0 : ¬ (c + k = 0) := by omega
  simp only [offPos, embedLines, h0, if_false]
  congr 2 <;> omega

/-- a column moved by `δ` on the lines that meet a test comes back when the same lines are moved back -/
theorem ite_add_sub (P : Prop) [Decidable P] (b δ : Int) :
    (if P then (if P then b + δ else b) - δ else if P then b + δ else b) = b := by
  split <;> omega

theorem rebaseAt_embedAt (l0 c0 : Int) (p : Loc) : rebaseAt l0 c0 (embedAt l0 c0 p) = p := by
  obtain ⟨a, b, c, d⟩ := p
  have hl : ∀ a : Int, a + (l0 - 1) = l0 ↔ a = 1 := fun a => by omega
  simp only [rebaseAt, embedAt, hl, ite_add_sub]
  congr 1 <;> omega

theorem undoIndent_indentEmbed (k : Int) (ind : List Int) (p : Loc) : undoIndent k ind (indentEmbed k ind p) = p := by
  obtain ⟨a, b, c, d⟩ := p
  have hl : ∀ a : Int, a + k - k = a := fun a => by omega
  simp only [undoIndent, indentEmbed, hl, ite_add_sub]

mutual
theorem offset_embed_tree (k : Int) (hk : 0 ≤ k) :
    ∀ t : PTree, linesPos t = true → offsetLinenos (-k) (mapTree (embedLines k) t) = t
  | .node p ks, h => by
    simp only [linesPos, Bool.and_eq_true] at h
    simp only [mapTree, offsetLinenos, offset_embed_kids k hk ks h.2]
    cases p with
    | none => simp [offPos]
    | some q =>
      have := offPos_embed k hk q (by simpa using h.1)
      simp [this]
theorem offset_embed_kids (k : Int) (hk : 0 ≤ k) :
    ∀ l : List PTree, linesPosKids l = true → offsetKids (-k) (mapKids (embedLines k) l) = l
  | [], _ => rfl
  | t :: ts, h => by
    simp only [linesPosKids, Bool.and_eq_true] at h
    simp [mapKids, offsetKids, offset_embed_tree k hk t h.1, offset_embed_kids k hk ts h.2]
end

mutual
theorem mapTree_comp_id (f g : Loc → Loc) (hfg : ∀ p, f (g p) = p) : ∀ t : PTree, mapTree f (mapTree g t) = t
  | .node p ks => by
    simp only [mapTree, mapKids_comp_id f g hfg ks]
    cases p <;> simp [hfg]
theorem mapKids_comp_id (f g : Loc → Loc) (hfg : ∀ p, f (g p) = p) : ∀ l : List PTree, mapKids f (mapKids g l) = l
  | [] => rfl
  | t :: ts => by simp [mapKids, mapTree_comp_id f g hfg t, mapKids_comp_id f g hfg ts]
end

/-- the depth after the character `x`; `none` when `x` closes at depth 0.  `scanDepth` and `matchClose` both advance
by this step -/
def depthStep (o c x : Char) (d : Nat) : Option Nat :=
  if x = c then (if d = 0 then none else some (d - 1)) else if x = o then some (d + 1) else some d

theorem scanDepth_cons (o c x : Char) (xs : List Char) (d : Nat) :
    scanDepth o c (x :: xs) d = (depthStep o c x d).bind (scanDepth o c xs) := by
  simp only [scanDepth, depthStep]
  split
  · split <;> rfl
  · split <;> rfl

theorem matchClose_cons (o c x : Char) (xs : List Char) (d : Nat) :
    matchClose o c (x :: xs) d
      = match depthStep o c x d with
        | none => some 0
        | some d' => (matchClose o c xs d').map (· + 1) := by
  simp only [matchClose, depthStep]
  split
  · split <;> rfl
  · split <;> rfl

theorem matchClose_append_some (o c : Char) (src rest : List Char) (d e : Nat)
    (h : scanDepth o c src d = some e) :
    matchClose o c (src ++ rest) d = (matchClose o c rest e).map (· + src.length) := by
  induction src generalizing d with
  | nil => cases h; simp
  | cons x xs ih =>
    rw [scanDepth_cons] at h
    rw [List.cons_append, matchClose_cons]
    cases hs : depthStep o c x d with
    | none => rw [hs] at h; cases h
    | some d' =>
      rw [hs] at h
      simp only [ih d' h, Option.map_map, List.length_cons]
      rfl

theorem matchClose_append_none (o c : Char) (src : List Char) (d : Nat) (h : scanDepth o c src d = none) :
    ∃ i, i < src.length ∧ ∀ rest, matchClose o c (src ++ rest) d = some i := by
  induction src generalizing d with
  | nil => cases h
  | cons x xs ih =>
    rw [scanDepth_cons] at h
    cases hs : depthStep o c x d with
    | none => exact ⟨0, by simp, fun rest => by rw [List.cons_append, matchClose_cons, hs]⟩
    | some d' =>
      rw [hs] at h
      obtain ⟨i, hi, hm⟩ := ih d' h
      exact ⟨i + 1, by simp; omega, fun rest => by simp only [List.cons_append, matchClose_cons, hs, hm]; rfl⟩

theorem takeWhile_idem {α} (p : α → Bool) (l : List α) : (l.takeWhile p).takeWhile p = l.takeWhile p := by
  induction l with
  | nil => rfl
  | cons c cs ih =>
    by_cases hp : p c = true
    · simp [hp, ih]
    · simp [hp]

theorem stripComment_idem (l : Line) : stripComment (stripComment l) = stripComment l := takeWhile_idem _ l

theorem stripComment_append (code cmt : Line) (h : ∀ x ∈ code, x ≠ '#') : stripComment (code ++ '#' :: cmt) = code := by
  unfold stripComment
  rw [List.takeWhile_append_of_pos (by simpa using h)]
  simp

theorem restLines_congr (ls ls' : List Line) (h : ls.map stripComment = ls'.map stripComment) : restLines ls = restLines ls' := by
  induction ls generalizing ls' with
  | nil =>
    cases ls' with
    | nil => rfl
    | cons _ _ => simp at h
  | cons l t ih =>
    cases ls' with
    | nil => simp at h
    | cons l' t' =>
      simp only [List.map_cons, List.cons.injEq] at h
      simp only [restLines, h.1, ih t' h.2]

end Pfst.ParseWrap
