import Pfst.Quote

/-! `splitNL` / `joinNL` are core's `List.splitOn` / `List.intercalate`; the docstring dedent rule. -/
namespace Pfst.Quote

theorem splitNL_eq_splitOn (l : List Char) : splitNL l = l.splitOn LF := by
  induction l with
  | nil => rfl
  | cons c r ih =>
    rw [splitNL, List.splitOn_cons_eq_if_modifyHead, ih]
    cases h : r.splitOn LF with
    | nil => exact absurd h (List.splitOn_ne_nil LF r)
    | cons => rfl

theorem joinNL_eq_intercalate (ls : List (List Char)) : joinNL ls = [LF].intercalate ls := by
  induction ls with
  | nil => rfl
  | cons l ls ih => cases ls <;> simp [joinNL, ← ih]

theorem splitNL_ne_nil (l : List Char) : splitNL l ≠ [] :=
  splitNL_eq_splitOn l ▸ List.splitOn_ne_nil LF l

/-- `splitNL` one character further, with the inner `match` resolved: the rest has a first line -/
theorem splitNL_cons (c : Char) (r : List Char) :
    ∃ l ls, splitNL r = l :: ls ∧ splitNL (c :: r) = if c == LF then [] :: l :: ls else (c :: l) :: ls := by
  cases h : splitNL r with
  | nil => exact absurd h (splitNL_ne_nil r)
  | cons l ls => exact ⟨l, ls, rfl, by simp only [splitNL, h]⟩

theorem splitNL_noLF (l : List Char) : ∀ x ∈ splitNL l, LF ∉ x := by
  induction l with
  | nil => simp [splitNL]
  | cons c r ih =>
    obtain ⟨l0, ls, h, e⟩ := splitNL_cons c r
    rw [h, List.forall_mem_cons] at ih
    rw [e]
    split
    · exact List.forall_mem_cons.mpr ⟨List.not_mem_nil, List.forall_mem_cons.mpr ih⟩
    · next hc =>
      refine List.forall_mem_cons.mpr ⟨fun hm => ?_, ih.2⟩
      rcases List.mem_cons.mp hm with rfl | hm
      · exact hc (beq_self_eq_true _)
      · exact ih.1 hm

theorem joinNL_splitNL (l : List Char) : joinNL (splitNL l) = l := by
  rw [splitNL_eq_splitOn, joinNL_eq_intercalate, List.intercalate_splitOn]

theorem splitNL_single (x : List Char) (h : LF ∉ x) : splitNL x = [x] :=
  splitNL_eq_splitOn x ▸ List.splitOn_eq_singleton h

theorem splitNL_joinNL (ls : List (List Char)) (hne : ls ≠ []) (h : ∀ x ∈ ls, LF ∉ x) : splitNL (joinNL ls) = ls := by
  rw [splitNL_eq_splitOn, joinNL_eq_intercalate, List.splitOn_intercalate LF h hne]

theorem startsWith_append (ind l : List Char) : startsWith (ind ++ l) ind = true := by
  induction ind with
  | nil => cases l <;> rfl
  | cons c ind ih => simp [startsWith, ih]

theorem dedentLine_ind (ind l : List Char) : dedentLine ind (ind ++ l) = l := by
  simp [dedentLine, startsWith_append]

theorem dedentLine_nil (ind : List Char) : dedentLine ind [] = [] := by
  unfold dedentLine; split <;> simp

theorem dedentLine_first (ind l : List Char) (hi : wsOnly ind = true)
    (hl : ∀ c r, l = c :: r → (c == ' ' || c == TAB) = false) : dedentLine ind l = l := by
  cases l with
  | nil => exact dedentLine_nil ind
  | cons c r =>
    have hc := hl c r rfl
    have hw : wsLen (c :: r) = 0 := by simp [wsLen, hc]
    cases ind with
    | nil => simp [dedentLine, startsWith]
    | cons i ind' =>
      simp only [wsOnly, List.all_cons, Bool.and_eq_true] at hi
      have hne : c ≠ i := by rintro rfl; rw [hi.1] at hc; cases hc
      simp [dedentLine, startsWith, hne, hw]

theorem dedent_tail (ind : List Char) (ls : List (List Char)) :
    (indentValTail ind ls).map (dedentLine ind) = ls := by
  induction ls with
  | nil => rfl
  | cons l ls ih =>
    cases ls with
    | nil => simp [indentValTail, dedentLine_ind]
    | cons l1 ls' =>
      simp only [indentValTail, List.map_cons] at ih ⊢
      rw [ih]
      congr 1
      split
      · next h =>
        have : l = [] := by simpa using h
        subst this; exact dedentLine_nil ind
      · exact dedentLine_ind ind l

theorem wsOnly_noLF (ind : List Char) (h : wsOnly ind = true) : LF ∉ ind := by
  intro hm
  have := List.all_eq_true.mp h LF hm
  exact absurd this (by decide)

theorem indentValTail_noLF (ind : List Char) (hi : LF ∉ ind) (ls : List (List Char)) (h : ∀ x ∈ ls, LF ∉ x) :
    ∀ x ∈ indentValTail ind ls, LF ∉ x := by
  induction ls with
  | nil => simp [indentValTail]
  | cons l ls ih =>
    rw [List.forall_mem_cons] at h
    have hind : LF ∉ ind ++ l := by simp [hi, h.1]
    cases ls with
    | nil => simpa [indentValTail] using hind
    | cons l1 ls' =>
      simp only [indentValTail] at ih ⊢
      refine List.forall_mem_cons.mpr ⟨?_, ih h.2⟩
      split
      · exact h.1
      · exact hind

end Pfst.Quote
